-- Root of the `PandoraModel` library: executable model, drivers, property theorems.
-- (The generated tables are imported by the property files that need them.)
import PandoraModel.Model.Basic
import PandoraModel.Model.Flags
import PandoraModel.Model.Machine
import PandoraModel.Properties.Flags
import PandoraModel.Properties.C01
import PandoraModel.Properties.C02
import PandoraModel.Properties.C03
import PandoraModel.Properties.C04
import PandoraModel.Properties.C05
import PandoraModel.Properties.C06
import PandoraModel.Properties.C06Kernels
import PandoraModel.Properties.C06KernelsLoop
import PandoraModel.Properties.C16Kernels
import PandoraModel.Properties.C02Kernels
import PandoraModel.Properties.C07
import PandoraModel.Properties.C07HalfEven
import PandoraModel.Properties.C08
import PandoraModel.Properties.C09
import PandoraModel.Properties.C10
import PandoraModel.Properties.C11
import PandoraModel.Properties.C11Kernels
import PandoraModel.Properties.C12
import PandoraModel.Properties.C13
import PandoraModel.Properties.C14
import PandoraModel.Properties.C15
import PandoraModel.Properties.C16
import PandoraModel.Properties.C17Schemas
import PandoraModel.Properties.C17Checks
import PandoraModel.Properties.C17
import PandoraModel.Properties.C18
import PandoraModel.Properties.C19
import PandoraModel.Properties.C20
import PandoraModel.Properties.C08C07
import PandoraModel.Properties.C13Steps
import PandoraModel.Properties.C02Zncc
import PandoraModel.Properties.C04C02
import PandoraModel.Properties.C09Pipeline
import PandoraModel.Properties.C13Util
import PandoraModel.Properties.C13Commutes
import PandoraModel.Properties.C13Median
import PandoraModel.Properties.C13Bilateral
import PandoraModel.Properties.C13Refinement
import PandoraModel.Properties.C13CrossCheck
import PandoraModel.Properties.C13MatchingCost
import PandoraModel.Properties.C13Cbca
import PandoraModel.Properties.C13Pipeline
import PandoraModel.Properties.C13Wiring
import PandoraModel.Properties.C13RunCbcaFlip
import PandoraModel.Properties.C13RunBool
import PandoraModel.Properties.C13RunMemo
import PandoraModel.Properties.C13RunCbca
import PandoraModel.Properties.C13RunCbcaExample
import PandoraModel.Properties.C13CbcaFlip
import PandoraModel.Properties.C13PipelineCbca
import PandoraModel.Properties.C13CbcaStep
import PandoraModel.Properties.C13CbcaClip
import PandoraModel.Properties.C13RunFlip
import PandoraModel.Properties.C13FlipFlags
import PandoraModel.Properties.C13FlipBilateral
import PandoraModel.Properties.C13FlipPipeline
import PandoraModel.Properties.C13FlipMc
import PandoraModel.Properties.C13Flip
import PandoraModel.Properties.C13Run
import PandoraModel.Properties.C13Flags
import PandoraModel.Properties.C05Whole
import PandoraModel.Properties.C17Whole
import PandoraModel.Properties.C17Doc
import PandoraModel.Properties.C05Conf
import PandoraModel.Properties.C15Grids
import PandoraModel.Model.SaveConfig
import PandoraModel.Model.FilterIntervals
import PandoraModel.Properties.C19C05
import PandoraModel.Properties.C19C20
import PandoraModel.Properties.C10C12
import PandoraModel.Properties.C14Kernels
import PandoraModel.Properties.C12Kernels
import PandoraModel.Properties.C12KernelsBounds
import PandoraModel.Properties.C12KernelsSampled
import PandoraModel.Properties.C12KernelsRiskSampled
import PandoraModel.Properties.C12Names
import PandoraModel.Properties.C12KernelsRegul
import PandoraModel.Properties.C12KernelsGraphReg
import PandoraModel.Properties.C12KernelsBorders
import PandoraModel.Properties.C11KernelsSteps
import PandoraModel.Properties.C11KernelsGlue
import PandoraModel.Properties.C10Kernels
import PandoraModel.Properties.C03Kernels
import PandoraModel.Properties.C10KernelsIntervals
import PandoraModel.Properties.C15Kernels
import PandoraModel.Properties.C15KernelsGlue
import PandoraModel.Properties.C16KernelsDataset
import PandoraModel.Properties.C14KernelsStep
import PandoraModel.Properties.C02Census
import PandoraModel.Properties.C02KernelsMc
import PandoraModel.Properties.C02KernelsMcCost
import PandoraModel.Properties.C02KernelsMcArr
import PandoraModel.Properties.C02KernelsMasked
import PandoraModel.Properties.C02KernelsMaskedComp
import PandoraModel.Properties.C04Kernels
import PandoraModel.Properties.C04KernelsComp
import PandoraModel.Properties.C07Kernels
