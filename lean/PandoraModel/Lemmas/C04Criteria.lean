/-
  C04 — lemmas about the criteria model (Model/Criteria.lean): the end-point tests of
  `validity_mask` equal the set statements, the counting loop of `allocate_right_mask`,
  the dilation.
-/
import PandoraModel.Model.Criteria
import Mathlib.Tactic.SplitIfs

namespace Pandora.C04
open Pandora.Criteria Pandora.Flags

theorem mem_dispList {a b d : Int} : d ∈ dispList a b ↔ a ≤ d ∧ d ≤ b := by
  unfold dispList
  simp only [List.mem_map, List.mem_range]
  constructor
  · rintro ⟨i, hi, rfl⟩; omega
  · intro h
    refine ⟨(d - a).toNat, ?_, ?_⟩ <;> omega

theorem length_dispList (a b : Int) : (dispList a b).length = (b - a + 1).toNat := by
  simp [dispList]

theorem dispList_ne_nil {a b : Int} (h : a ≤ b) : dispList a b ≠ [] := by
  intro h0
  have : a ∈ dispList a b := mem_dispList.mpr ⟨Int.le_refl a, h⟩
  simp [h0] at this

def ColInterior (I : Input) (c : Nat) : Prop := I.off ≤ c ∧ c + I.off < I.cols

theorem inIdx_iff (I : Input) (c : Nat) (d : Int) :
    inIdx I c d = true ↔ (I.off : Int) ≤ (c : Int) + d ∧ (c : Int) + d ≤ (I.cols : Int) - 1 - (I.off : Int) := by
  simp [inIdx]

theorem inSet_eq_nil_iff (I : Input) (c : Nat) :
    inSet I c = [] ↔ ∀ d : Int, I.dmin ≤ d → d ≤ I.dmax → inIdx I c d = false := by
  unfold inSet
  rw [List.filter_eq_nil_iff]
  constructor
  · intro h d h1 h2
    have := h d (mem_dispList.mpr ⟨h1, h2⟩)
    simpa using this
  · intro h d hd
    have ⟨h1, h2⟩ := mem_dispList.mp hd
    simp [h d h1 h2]

theorem inSet_eq_nil_iff_ends (I : Input) (c : Nat) (hc : ColInterior I c) (hd : I.dmin ≤ I.dmax) :
    inSet I c = [] ↔
      ((c : Int) + I.dmax < (I.off : Int) ∨ (I.cols : Int) - 1 - (I.off : Int) < (c : Int) + I.dmin) := by
  obtain ⟨hc1, hc2⟩ := hc
  rw [inSet_eq_nil_iff]
  simp only [inIdx, decide_eq_false_iff_not]
  constructor
  · intro h
    apply Classical.byContradiction
    intro hn
    have := h (max I.dmin ((I.off : Int) - c)) (by omega) (by omega)
    omega
  · intro h d h1 h2; omega

theorem exists_not_inIdx_iff (I : Input) (c : Nat) (hd : I.dmin ≤ I.dmax) :
    (∃ d : Int, I.dmin ≤ d ∧ d ≤ I.dmax ∧ inIdx I c d = false) ↔
      ((c : Int) + I.dmin < (I.off : Int) ∨ (I.cols : Int) - 1 - (I.off : Int) < (c : Int) + I.dmax) := by
  simp only [inIdx, decide_eq_false_iff_not]
  constructor
  · rintro ⟨d, h1, h2, h3⟩; omega
  · rintro (h | h)
    · exact ⟨I.dmin, Int.le_refl _, hd, by omega⟩
    · exact ⟨I.dmax, hd, Int.le_refl _, by omega⟩

theorem vmBit1_iff (I : Input) (c : Nat) (hc : ColInterior I c) (hd : I.dmin ≤ I.dmax) :
    vmBit1 I c = true ↔ inSet I c = [] := by
  rw [inSet_eq_nil_iff_ends I c hc hd]
  obtain ⟨hc1, hc2⟩ := hc
  unfold vmBit1 Input.colAt Input.colLast
  simp only [Bool.ite_eq_true_distrib, decide_eq_true_eq, Bool.false_eq_true]
  split_ifs
  · omega
  · omega
  · rw [false_iff]; omega

theorem vmBit2_iff (I : Input) (c : Nat) (hc : ColInterior I c) (hd : I.dmin ≤ I.dmax) :
    vmBit2 I c = true ↔
      (inSet I c ≠ [] ∧ ∃ d : Int, I.dmin ≤ d ∧ d ≤ I.dmax ∧ inIdx I c d = false) := by
  rw [Ne, inSet_eq_nil_iff_ends I c hc hd, exists_not_inIdx_iff I c hd]
  obtain ⟨hc1, hc2⟩ := hc
  unfold vmBit2 Input.colAt Input.colLast
  simp only [Bool.ite_eq_true_distrib, Bool.and_eq_true, Bool.or_eq_true, decide_eq_true_eq]
  split_ifs <;> omega

theorem vmBit1_vmBit2_excl (I : Input) (c : Nat) : vmBit1 I c = true → vmBit2 I c = false := by
  unfold vmBit1 vmBit2
  by_cases hneg : I.dmax < 0
  · simp only [hneg, if_true, decide_eq_true_eq, Bool.and_eq_false_iff, decide_eq_false_iff_not]
    intro h; left; omega
  · by_cases hpos : I.dmin > 0
    · simp only [hneg, hpos, if_true, if_false, decide_eq_true_eq, Bool.and_eq_false_iff, decide_eq_false_iff_not]
      intro h; left; omega
    · simp [hneg, hpos]

/-- the disparity `d` counts for `b_2_7`: its right position is outside the image or masked invalid -/
def sat7 (I : Input) (r c : Nat) (d : Int) : Bool := !inIdx I c d || rInvAt I r ((c : Int) + d)
/-- the disparity `d` counts for `no_data_right`: outside the image or nodata in the right window -/
def satN (I : Input) (r c : Nat) (d : Int) : Bool := !inIdx I c d || rDilAt I r ((c : Int) + d)

/-- two independent additions written one inside the other, as the two `== len` tests of the loop are -/
theorem ite_add_ite (p q : Prop) [Decidable p] [Decidable q] (f a b : Nat) :
    (if q then (if p then f + a else f) + b else if p then f + a else f)
      = f + (if p then a else 0) + (if q then b else 0) := by
  by_cases hp : p <;> by_cases hq : q <;> simp [hp, hq]

/-- the two counters after the disparities `pre`: the numbers of those that count, 0 on a `bit_1` column -/
def stateAfter (I : Input) (r c f : Nat) (pre : List Int) : RState :=
  { b27 := if vmBit1 I c then 0 else pre.countP (sat7 I r c),
    ndr := if vmBit1 I c then 0 else pre.countP (satN I r c), flag := f }

theorem rightIter_stateAfter (I : Input) (r c n f : Nat) (pre : List Int) (d : Int) :
    rightIter I r c n (stateAfter I r c f pre) d =
      stateAfter I r c
        (f + (if (stateAfter I r c f (pre ++ [d])).b27 = n then inValidityMaskRight else 0)
           + (if (stateAfter I r c f (pre ++ [d])).ndr = n then rightNodataOrRangeMissing else 0)) (pre ++ [d]) := by
  have e7 : (if inIdx I c d = true then (if rInvAt I r ((c : Int) + d) = true then 1 else 0) else 1)
      = (if sat7 I r c d = true then 1 else 0) := by
    unfold sat7; cases inIdx I c d <;> cases rInvAt I r ((c : Int) + d) <;> rfl
  have eN : (if inIdx I c d = true then (if rDilAt I r ((c : Int) + d) = true then 1 else 0) else 1)
      = (if satN I r c d = true then 1 else 0) := by
    unfold satN; cases inIdx I c d <;> cases rDilAt I r ((c : Int) + d) <;> rfl
  unfold rightIter stateAfter
  simp only [e7, eN, List.countP_append, List.countP_singleton, beq_iff_eq, ite_add_ite]
  cases vmBit1 I c <;> rfl

theorem stateAfter_le (I : Input) (r c f : Nat) (pre : List Int) :
    (stateAfter I r c f pre).b27 ≤ pre.length ∧ (stateAfter I r c f pre).ndr ≤ pre.length := by
  unfold stateAfter
  have h7 : pre.countP (sat7 I r c) ≤ pre.length := List.countP_le_length
  have hN : pre.countP (satN I r c) ≤ pre.length := List.countP_le_length
  cases vmBit1 I c <;> simp only [Bool.false_eq_true, if_true, if_false] <;> omega

/-- a counter is at most the number of iterations done, so before the last iteration neither test fires -/
theorem foldl_rightIter_lt (I : Input) (r c n f : Nat) (ds pre : List Int) (hlen : pre.length + ds.length < n) :
    ds.foldl (rightIter I r c n) (stateAfter I r c f pre) = stateAfter I r c f (pre ++ ds) := by
  induction ds generalizing pre with
  | nil => simp
  | cons d ds ih =>
    have hle := stateAfter_le I r c f (pre ++ [d])
    simp only [List.length_append, List.length_cons, List.length_nil] at hle hlen
    rw [List.foldl_cons, rightIter_stateAfter, if_neg (by omega), if_neg (by omega), Nat.add_zero,
      ih (pre ++ [d]) (by simp only [List.length_append, List.length_cons, List.length_nil]; omega)]
    simp

def right7 (I : Input) (r c : Nat) : Bool :=
  !vmBit1 I c && (dispList I.dmin I.dmax).all (sat7 I r c)
def rightN (I : Input) (r c : Nat) : Bool :=
  !vmBit1 I c && (dispList I.dmin I.dmax).all (satN I r c)

/-- `allocate_right_mask` adds 128 exactly where every disparity of the interval is outside the image or
    masked, 2 exactly where every one is outside or sees nodata — never on the `bit_1` columns -/
theorem allocRight_eq (I : Input) (f r c : Nat) (hd : I.dmin ≤ I.dmax) :
    allocRight I f r c = f + (if right7 I r c then inValidityMaskRight else 0)
                           + (if rightN I r c then rightNodataOrRangeMissing else 0) := by
  -- all iterations but the last leave the flag word alone; the last one tests the full counts
  obtain ⟨init, last, hds⟩ : ∃ init last, dispList I.dmin I.dmax = init ++ [last] :=
    ⟨_, _, (List.dropLast_concat_getLast (dispList_ne_nil hd)).symm⟩
  have h0 : ({ b27 := 0, ndr := 0, flag := f } : RState) = stateAfter I r c f [] := by simp [stateAfter]
  unfold allocRight right7 rightN
  simp only [hds, h0]
  rw [List.foldl_append, List.foldl_cons, List.foldl_nil, foldl_rightIter_lt I r c _ f _ [] (by simp),
    rightIter_stateAfter, List.nil_append]
  unfold stateAfter
  cases vmBit1 I c
  · simp only [Bool.false_eq_true, if_false, Bool.not_false, Bool.true_and, List.all_eq_true, List.countP_eq_length]
  · simp

/-- some nodata cell of the image lies in the window centred on `(r, c)` -/
def NodataNear (rows cols off : Nat) (m : Nat → Nat → Cls) (r c : Nat) : Prop :=
  ∃ r' c', r' < rows ∧ c' < cols ∧ r' ≤ r + off ∧ r ≤ r' + off ∧ c' ≤ c + off ∧ c ≤ c' + off ∧ m r' c' = Cls.nodata

theorem dilated_iff (rows cols off : Nat) (m : Nat → Nat → Cls) (r c : Nat) :
    dilated rows cols off m r c = true ↔ NodataNear rows cols off m r c := by
  unfold dilated NodataNear
  simp only [List.any_eq_true, List.mem_range, Bool.and_eq_true, decide_eq_true_eq, beq_iff_eq]
  constructor
  · rintro ⟨i, hi, j, hj, ⟨h1, h2, h3, h4⟩, hm⟩
    exact ⟨r + i - off, c + j - off, h2, h4, by omega, by omega, by omega, by omega, hm⟩
  · rintro ⟨r', c', h1, h2, h3, h4, h5, h6, hm⟩
    refine ⟨r' + off - r, by omega, c' + off - c, by omega, ⟨by omega, by omega, by omega, by omega⟩, ?_⟩
    have e1 : r + (r' + off - r) - off = r' := by omega
    have e2 : c + (c' + off - c) - off = c' := by omega
    rw [e1, e2]; exact hm

theorem nodataInWindow_iff (rows cols off : Nat) (m : Nat → Nat → Cls) (r c : Nat) :
    nodataInWindow rows cols off m r c = true ↔ NodataNear rows cols off m r c := by
  unfold nodataInWindow NodataNear
  simp only [List.any_eq_true, List.mem_range, Bool.and_eq_true, decide_eq_true_eq, beq_iff_eq, and_assoc,
    exists_and_left]

theorem dilated_eq_nodataInWindow (rows cols off : Nat) (m : Nat → Nat → Cls) (r c : Nat) :
    dilated rows cols off m r c = nodataInWindow rows cols off m r c := by
  rw [Bool.eq_iff_iff, dilated_iff, nodataInWindow_iff]

end Pandora.C04
