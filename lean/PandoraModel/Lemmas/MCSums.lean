/-
  Lemmas about the finite sums / quantifiers of `Model/MatchingCost.lean` (`sumZ`, `allZ`, `anyZ`), about
  NaN-absorbing addition of `Val` and about `ratAbs`.
-/
import PandoraModel.Model.MatchingCost
import Mathlib.Tactic.Linarith
import Mathlib.Tactic.Ring

namespace Pandora.MC


@[simp] theorem val_num_add_num (a b : Rat) : (Val.num a + Val.num b) = Val.num (a + b) := rfl
@[simp] theorem val_add_nan (v : Val) : v + Val.nan = Val.nan := by cases v <;> rfl
@[simp] theorem val_nan_add (v : Val) : Val.nan + v = Val.nan := by cases v <;> rfl

theorem ratAbs_eq_abs (q : Rat) : ratAbs q = |q| := by
  unfold ratAbs
  split
  · rename_i h; exact (abs_of_neg h).symm
  · rename_i h; exact (abs_of_nonneg (not_lt.mp h)).symm

theorem ratAbs_nonneg (q : Rat) : 0 ≤ ratAbs q := ratAbs_eq_abs q ▸ abs_nonneg q
theorem le_ratAbs (q : Rat) : q ≤ ratAbs q := ratAbs_eq_abs q ▸ le_abs_self q
theorem neg_le_ratAbs (q : Rat) : -q ≤ ratAbs q := ratAbs_eq_abs q ▸ neg_le_abs q
theorem ratAbs_le (q M : Rat) (h1 : q ≤ M) (h2 : -q ≤ M) : ratAbs q ≤ M := ratAbs_eq_abs q ▸ abs_le'.mpr ⟨h1, h2⟩

theorem sumZ_transport {α : Type} [Add α] (z : α) (f g : Int → α) (lo lo' : Int) (n : Nat)
    (h : ∀ i : Nat, i < n → f (lo + i) = g (lo' + i)) : sumZ z f lo n = sumZ z g lo' n := by
  induction n with
  | zero => rfl
  | succ n ih =>
    simp only [sumZ]
    rw [ih (fun i hi => h i (Nat.lt_succ_of_lt hi)), h n (Nat.lt_succ_self n)]

theorem sumZ_congr {α : Type} [Add α] (z : α) (f g : Int → α) (lo : Int) (n : Nat)
    (h : ∀ i : Nat, i < n → f (lo + i) = g (lo + i)) : sumZ z f lo n = sumZ z g lo n :=
  sumZ_transport z f g lo lo n h

theorem sumZ_shift {α : Type} [Add α] (z : α) (f : Int → α) (d lo : Int) (n : Nat) :
    sumZ z (fun i => f (i + d)) lo n = sumZ z f (lo + d) n :=
  sumZ_transport z _ f lo (lo + d) n fun i _ => congrArg f (Int.add_right_comm lo i d)

theorem sumZ_val_ite (P : Int → Prop) [DecidablePred P] (q : Int → Rat) (lo : Int) (n : Nat) :
    sumZ (Val.num 0) (fun i => if P i then Val.num (q i) else Val.nan) lo n
      = if ∀ i : Nat, i < n → P (lo + i) then Val.num (sumZ (0 : Rat) q lo n) else Val.nan := by
  induction n with
  | zero => rfl
  | succ n ih =>
    simp only [sumZ, ih]
    by_cases hn : ∀ i : Nat, i < n → P (lo + i)
    · by_cases hl : P (lo + n)
      · rw [if_pos hn, if_pos hl, if_pos fun i hi => (Nat.lt_succ_iff_lt_or_eq.mp hi).elim (hn i) fun e => e ▸ hl]
        rfl
      · rw [if_pos hn, if_neg hl, if_neg fun h : ∀ i : Nat, i < n + 1 → P (lo + i) => hl (h n (Nat.lt_succ_self n)),
          val_add_nan]
    · rw [if_neg hn, if_neg fun h : ∀ i : Nat, i < n + 1 → P (lo + i) => hn fun i hi => h i (Nat.lt_succ_of_lt hi),
        val_nan_add]

theorem allZ_eq_sumZ (f : Int → Bool) (lo : Int) (n : Nat) : allZ f lo n = @sumZ Bool ⟨and⟩ true f lo n := by
  induction n with
  | zero => rfl
  | succ n ih => exact congrArg (· && f (lo + n)) ih

theorem allZ_iff (f : Int → Bool) (lo : Int) (n : Nat) :
    allZ f lo n = true ↔ ∀ i : Nat, i < n → f (lo + i) = true := by
  induction n with
  | zero => simp [allZ]
  | succ n ih =>
    simp only [allZ, Bool.and_eq_true, ih]
    constructor
    · rintro ⟨h1, h2⟩ i hi
      by_cases hin : i = n
      · subst hin; exact h2
      · exact h1 i (by omega)
    · intro h
      exact ⟨fun i hi => h i (by omega), h n (by omega)⟩

theorem allZ_iff_int (f : Int → Bool) (lo : Int) (n : Nat) :
    allZ f lo n = true ↔ ∀ i : Int, lo ≤ i → i < lo + n → f i = true := by
  rw [allZ_iff]
  constructor
  · intro h i h1 h2
    have := h (i - lo).toNat (by omega)
    have e : lo + ((i - lo).toNat : Int) = i := by omega
    rwa [e] at this
  · intro h i hi
    exact h (lo + i) (by omega) (by omega)

theorem anyZ_iff (f : Int → Bool) (lo : Int) (n : Nat) :
    anyZ f lo n = true ↔ ∃ i : Nat, i < n ∧ f (lo + i) = true := by
  induction n with
  | zero => simp [anyZ]
  | succ n ih =>
    simp only [anyZ, Bool.or_eq_true, ih]
    constructor
    · rintro (⟨i, hi, h⟩ | h)
      · exact ⟨i, by omega, h⟩
      · exact ⟨n, by omega, h⟩
    · rintro ⟨i, hi, h⟩
      by_cases hin : i = n
      · subst hin; exact Or.inr h
      · exact Or.inl ⟨i, by omega, h⟩

theorem anyZ_eq_not_allZ (f : Int → Bool) (lo : Int) (n : Nat) : anyZ f lo n = !allZ (fun i => !f i) lo n := by
  induction n with
  | zero => rfl
  | succ n ih => simp only [anyZ, allZ, ih, Bool.not_and, Bool.not_not]

theorem anyZ_iff_int (f : Int → Bool) (lo : Int) (n : Nat) :
    anyZ f lo n = true ↔ ∃ i : Int, lo ≤ i ∧ i < lo + n ∧ f i = true := by
  rw [anyZ_iff]
  constructor
  · rintro ⟨i, hi, h⟩
    exact ⟨lo + i, by omega, by omega, h⟩
  · rintro ⟨i, h1, h2, h⟩
    refine ⟨(i - lo).toNat, by omega, ?_⟩
    have e : lo + ((i - lo).toNat : Int) = i := by omega
    rwa [e]

theorem sumZ_append (g : Int → Rat) (lo : Int) (n m : Nat) :
    sumZ (0 : Rat) g lo (n + m) = sumZ (0 : Rat) g lo n + sumZ (0 : Rat) g (lo + n) m := by
  induction m with
  | zero => simp [sumZ]
  | succ m ih =>
    rw [← Nat.add_assoc]
    simp only [sumZ]
    rw [ih]
    have : lo + ((n + m : Nat) : Int) = lo + (n : Int) + (m : Int) := by push_cast; ring
    rw [this]
    ring

theorem sumZ_cum_diff (g : Int → Rat) (i : Int) (w : Nat) (hi : 0 ≤ i) :
    sumZ (0 : Rat) g 0 (i + w).toNat - sumZ (0 : Rat) g 0 i.toNat = sumZ (0 : Rat) g i w := by
  have e : (i + w).toNat = i.toNat + w := by omega
  rw [e, sumZ_append]
  have : (0 : Int) + (i.toNat : Int) = i := by omega
  rw [this]
  ring

theorem sumZ_add_fun (f g : Int → Rat) (lo : Int) (n : Nat) :
    sumZ (0 : Rat) (fun i => f i + g i) lo n = sumZ (0 : Rat) f lo n + sumZ (0 : Rat) g lo n := by
  induction n with
  | zero => simp [sumZ]
  | succ n ih => simp only [sumZ]; rw [ih]; ring

theorem sumZ_const (k : Rat) (lo : Int) (n : Nat) : sumZ (0 : Rat) (fun _ => k) lo n = n * k := by
  induction n with
  | zero => simp [sumZ]
  | succ n ih => simp only [sumZ]; rw [ih]; push_cast; ring

theorem sumZ_nonneg (f : Int → Rat) (lo : Int) (n : Nat) (h : ∀ i, 0 ≤ f i) : 0 ≤ sumZ (0 : Rat) f lo n := by
  induction n with
  | zero => simp [sumZ]
  | succ n ih => simp only [sumZ]; have := h (lo + n); linarith

theorem sumZ_swap (f : Int → Int → Rat) (r c : Int) (n m : Nat) :
    sumZ (0 : Rat) (fun b => sumZ (0 : Rat) (fun a => f a b) r n) c m
      = sumZ (0 : Rat) (fun a => sumZ (0 : Rat) (fun b => f a b) c m) r n := by
  induction n with
  | zero => simp only [sumZ]; rw [sumZ_const, mul_zero]
  | succ n ih =>
    simp only [sumZ]
    rw [sumZ_add_fun, ih]

theorem sumZ_mul_const (f : Int → Rat) (k : Rat) (lo : Int) (n : Nat) :
    sumZ (0 : Rat) (fun i => f i * k) lo n = sumZ (0 : Rat) f lo n * k := by
  induction n with
  | zero => simp [sumZ]
  | succ n ih => simp only [sumZ]; rw [ih]; ring

theorem sumZ_le_const (f : Int → Rat) (M : Rat) (lo : Int) (n : Nat) (h : ∀ i : Nat, i < n → f (lo + i) ≤ M) :
    sumZ (0 : Rat) f lo n ≤ n * M := by
  induction n with
  | zero => simp [sumZ]
  | succ n ih =>
    simp only [sumZ]
    have := ih (fun i hi => h i (Nat.lt_succ_of_lt hi))
    have := h n (Nat.lt_succ_self n)
    push_cast
    linarith

theorem sumZ_nat_le (g : Int → Nat) (m : Nat) (lo : Int) (n : Nat) (h : ∀ i : Nat, i < n → g (lo + i) ≤ m) :
    sumZ 0 g lo n ≤ n * m := by
  induction n with
  | zero => simp [sumZ]
  | succ n ih =>
    have := ih (fun i hi => h i (Nat.lt_succ_of_lt hi))
    have := h n (Nat.lt_succ_self n)
    simp only [sumZ]
    rw [Nat.succ_mul]
    omega

theorem sumZ_eq_zero_iff (f : Int → Rat) (lo : Int) (n : Nat) (h : ∀ i, 0 ≤ f i) :
    sumZ (0 : Rat) f lo n = 0 ↔ ∀ i : Nat, i < n → f (lo + i) = 0 := by
  induction n with
  | zero => simp [sumZ]
  | succ n ih =>
    simp only [sumZ]
    have h1 := sumZ_nonneg f lo n h
    have h2 := h (lo + n)
    constructor
    · intro hs i hi
      have a : sumZ (0 : Rat) f lo n = 0 := by linarith
      have b : f (lo + n) = 0 := by linarith
      by_cases hin : i = n
      · subst hin; exact b
      · exact ih.mp a i (by omega)
    · intro hall
      rw [ih.mpr (fun i hi => hall i (by omega)), hall n (by omega)]
      ring

end Pandora.MC
