/-
  The flag word of a pixel as a set of bits.  A word is determined by its `Nat.testBit`s; every way the models and
  the specifications READ a word (`&&& 2^k != 0` and `hasBit`: in `Lemmas/C04Bits.lean`; here `/ 2^k % 2`, "same low part and
  same high part", a mask test) and every way the code WRITES one (`|= 2^k`, `+= 2^k` on a clear bit: `C04Bits`; here `-= 2^i`
  followed by one of them) is stated once, on variables, in terms of `testBit`.  Core Lean only.
-/
import PandoraModel.Lemmas.C04Bits

namespace Pandora.FlagWord
open Pandora.Flags Pandora.C04

/-- the arithmetic reading of bit `k` (`CrossCheck.bitAt`, `Refinement.bitAt`) -/
theorem div_mod_two (f k : Nat) : f / 2 ^ k % 2 = (f.testBit k).toNat := (Nat.toNat_testBit f k).symm

theorem div_mod_two_eq_one (f k : Nat) : f / 2 ^ k % 2 = 1 ↔ f.testBit k = true := by
  rw [div_mod_two]; exact Bool.toNat_eq_one

theorem div_mod_two_eq_zero (f k : Nat) : f / 2 ^ k % 2 = 0 ↔ f.testBit k = false := by
  rw [div_mod_two]; exact Bool.toNat_eq_zero

/-- bits 8 and 9 in the two spellings of Model/Interp.lean and Model/FlagSteps.lean: the kernels test `f & bit != 0`, the
    specifications `hasBit f bit` -/
theorem and_occlusion (f : Nat) : ((f &&& occlusion) != 0) = f.testBit 8 := and_two_pow_ne_zero f 8
theorem and_mismatch (f : Nat) : ((f &&& mismatch) != 0) = f.testBit 9 := and_two_pow_ne_zero f 9
theorem hasBit_occlusion (f : Nat) : hasBit f occlusion = f.testBit 8 := hasBit_two_pow f 8
theorem hasBit_mismatch (f : Nat) : hasBit f mismatch = f.testBit 9 := hasBit_two_pow f 9

theorem testBit_of_not_isInvalid {f k : Nat} (hv : isInvalid f = false) (hk : pixelInvalid.testBit k = true) :
    f.testBit k = false := by
  have h0 : f &&& pixelInvalid = 0 := by simpa [isInvalid] using hv
  have := congrArg (·.testBit k) h0
  simpa only [Nat.testBit_and, hk, Bool.and_true, Nat.zero_testBit] using this

theorem mod_two_pow_eq_iff (f g a : Nat) : f % 2 ^ a = g % 2 ^ a ↔ ∀ k, k < a → f.testBit k = g.testBit k := by
  constructor
  · intro h k hk
    have := congrArg (·.testBit k) h
    simpa only [Nat.testBit_mod_two_pow, hk, decide_true, Bool.true_and] using this
  · intro h
    apply Nat.eq_of_testBit_eq; intro k
    rw [Nat.testBit_mod_two_pow, Nat.testBit_mod_two_pow]
    by_cases hk : k < a
    · rw [h k hk]
    · simp only [hk, decide_false, Bool.false_and]

theorem div_two_pow_eq_iff (f g b : Nat) : f / 2 ^ b = g / 2 ^ b ↔ ∀ k, b ≤ k → f.testBit k = g.testBit k := by
  constructor
  · intro h k hk
    have := congrArg (·.testBit (k - b)) h
    simpa only [Nat.testBit_div_two_pow, Nat.sub_add_cancel hk] using this
  · intro h
    apply Nat.eq_of_testBit_eq; intro k
    rw [Nat.testBit_div_two_pow, Nat.testBit_div_two_pow]
    exact h _ (Nat.le_add_left b k)

/-- "every bit except those in `[a, b)` is the same", as the specifications write it -/
theorem same_outside_iff (f g a b : Nat) :
    (f % 2 ^ a == g % 2 ^ a && f / 2 ^ b == g / 2 ^ b) = true
      ↔ ∀ k, (k < a ∨ b ≤ k) → f.testBit k = g.testBit k := by
  rw [Bool.and_eq_true, beq_iff_eq, beq_iff_eq, mod_two_pow_eq_iff, div_two_pow_eq_iff]
  exact ⟨fun h k hk => hk.elim (h.1 k) (h.2 k), fun h => ⟨fun k hk => h k (Or.inl hk), fun k hk => h k (Or.inr hk)⟩⟩

theorem and_congr_of_testBit {f g m : Nat} (h : ∀ k, m.testBit k = true → f.testBit k = g.testBit k) :
    f &&& m = g &&& m := by
  apply Nat.eq_of_testBit_eq; intro k
  rw [Nat.testBit_and, Nat.testBit_and]
  cases hm : m.testBit k
  · rw [Bool.and_false, Bool.and_false]
  · rw [h k hm]

theorem isInvalid_congr {f g : Nat} (h : ∀ k, pixelInvalid.testBit k = true → f.testBit k = g.testBit k) :
    isInvalid f = isInvalid g := by
  unfold isInvalid; rw [and_congr_of_testBit h]

theorem testBit_sub_or (f i j m : Nat) (hi : f.testBit i = true) :
    ((f - 2 ^ i) ||| 2 ^ j).testBit m = ((f.testBit m && !decide (i = m)) || decide (j = m)) := by
  rw [testBit_or_two_pow, testBit_sub_two_pow f i m hi]

theorem testBit_sub_add (f i j m : Nat) (hi : f.testBit i = true) (hj : f.testBit j = false) :
    (f - 2 ^ i + 2 ^ j).testBit m = ((f.testBit m && !decide (i = m)) || decide (j = m)) := by
  rw [testBit_add_two_pow _ j m (by rw [testBit_sub_two_pow f i j hi, hj]; rfl), testBit_sub_two_pow f i m hi]

end Pandora.FlagWord
