/-
  `cmax`: every computable sad / ssd / census cost is bounded by the expression whose integer rounding the code
  stores as `cmax`.
-/
import PandoraModel.Lemmas.MCRaw
import PandoraModel.Lemmas.MCGrid

namespace Pandora.MC

theorem ratMin_le_left (a b : Rat) : ratMin a b ≤ a := by unfold ratMin; split <;> linarith
theorem ratMin_le_right (a b : Rat) : ratMin a b ≤ b := by unfold ratMin; split <;> linarith
theorem le_ratMax_left (a b : Rat) : a ≤ ratMax a b := by unfold ratMax; split <;> linarith
theorem le_ratMax_right (a b : Rat) : b ≤ ratMax a b := by unfold ratMax; split <;> linarith

theorem imgFold_eq (op : Rat → Rat → Rat) (img : Img) :
    imgFold op img = foldHead op 0 (cellsOf img.px img.rows img.cols) := by
  unfold imgFold cellsOf
  generalize (List.range img.rows).flatMap (fun (r : Nat) => (List.range img.cols).map (fun (c : Nat) => img.px r c)) = cells
  cases cells <;> rfl

theorem imgMin_le (img : Img) (r c : Int) (hr : 0 ≤ r ∧ r < img.rows) (hc : 0 ≤ c ∧ c < img.cols) :
    imgFold ratMin img ≤ img.px r c := by
  rw [imgFold_eq]
  exact cellsFold_rel (· ≤ ·) le_refl (fun _ _ _ => le_trans) ratMin ratMin_le_left ratMin_le_right 0
    img.px img.rows img.cols r c hr hc

theorem le_imgMax (img : Img) (r c : Int) (hr : 0 ≤ r ∧ r < img.rows) (hc : 0 ≤ c ∧ c < img.cols) :
    img.px r c ≤ imgFold ratMax img := by
  rw [imgFold_eq]
  exact cellsFold_rel (· ≥ ·) le_refl (fun _ _ _ h1 h2 => le_trans h2 h1) ratMax le_ratMax_left le_ratMax_right 0
    img.px img.rows img.cols r c hr hc

theorem convex_between (lo hi A B s t : Rat) (hs : 0 < s) (ht0 : 0 ≤ t) (ht1 : t ≤ s)
    (hA : lo ≤ A ∧ A ≤ hi) (hB : lo ≤ B ∧ B ≤ hi) :
    lo ≤ (s - t) / s * A + t / s * B ∧ (s - t) / s * A + t / s * B ≤ hi := by
  have hα : 0 ≤ (s - t) / s := div_nonneg (by linarith) (le_of_lt hs)
  have hβ : 0 ≤ t / s := div_nonneg ht0 (le_of_lt hs)
  have hsum : (s - t) / s + t / s = 1 := by rw [← add_div, sub_add_cancel, div_self (ne_of_gt hs)]
  have elo : lo = (s - t) / s * lo + t / s * lo := by rw [← add_mul, hsum, one_mul]
  have ehi : (s - t) / s * hi + t / s * hi = hi := by rw [← add_mul, hsum, one_mul]
  constructor
  · calc lo = (s - t) / s * lo + t / s * lo := elo
      _ ≤ (s - t) / s * A + t / s * B :=
        add_le_add (mul_le_mul_of_nonneg_left hA.1 hα) (mul_le_mul_of_nonneg_left hB.1 hβ)
  · calc (s - t) / s * A + t / s * B ≤ (s - t) / s * hi + t / s * hi :=
        add_le_add (mul_le_mul_of_nonneg_left hA.2 hα) (mul_le_mul_of_nonneg_left hB.2 hβ)
      _ = hi := ehi

theorem interpR_bounds (R : Img) (sp : Nat) (hs : 0 < sp) (k r c : Int) (lo hi : Rat)
    (h0 : lo ≤ R.px r (c + k / (sp : Int)) ∧ R.px r (c + k / (sp : Int)) ≤ hi)
    (h1 : fracBit k sp = 1 → lo ≤ R.px r (c + k / (sp : Int) + 1) ∧ R.px r (c + k / (sp : Int) + 1) ≤ hi) :
    lo ≤ interpR R sp k r c ∧ interpR R sp k r c ≤ hi := by
  have hs' : (0 : Int) < sp := by exact_mod_cast hs
  unfold interpR
  simp only
  by_cases ht : k % (sp : Int) = 0
  · rw [if_pos ht]; exact h0
  · rw [if_neg ht, Int.cast_sub]
    exact convex_between lo hi _ _ _ _ (by exact_mod_cast hs') (by exact_mod_cast Int.emod_nonneg k (ne_of_gt hs'))
      (by exact_mod_cast le_of_lt (Int.emod_lt_of_pos k hs')) h0 (h1 (if_neg ht))

theorem window_pixels_bounded (x : Input) (h : Shape x) (r c k : Int) (hl : LeftInside x r c) (hr : RightInside x c k)
    (a b : Int) (ha1 : r - (half x.w : Nat) ≤ a) (ha2 : a ≤ r + (half x.w : Nat))
    (hb1 : c - (half x.w : Nat) ≤ b) (hb2 : b ≤ c + (half x.w : Nat)) :
    (imgFold ratMin x.L ≤ x.L.px a b ∧ x.L.px a b ≤ imgFold ratMax x.L) ∧
    (imgFold ratMin x.R ≤ interpR x.R x.sp k a b ∧ interpR x.R x.sp k a b ≤ imgFold ratMax x.R) := by
  obtain ⟨hl1, hl2, hl3, hl4⟩ := hl
  obtain ⟨hr1, hr2⟩ := hr
  have hf0 := fracBit_nonneg k x.sp
  have hrows := h.rows_eq
  have hra : 0 ≤ a ∧ a < x.R.rows := by omega
  refine ⟨⟨imgMin_le x.L a b (by omega) (by omega), le_imgMax x.L a b (by omega) (by omega)⟩, ?_⟩
  apply interpR_bounds x.R x.sp h.sp_pos k a b
  · exact ⟨imgMin_le x.R a _ hra (by omega), le_imgMax x.R a _ hra (by omega)⟩
  · intro hfr
    exact ⟨imgMin_le x.R a _ hra (by omega), le_imgMax x.R a _ hra (by omega)⟩

theorem winSum_le_const (o : Nat) (g : Int → Int → Rat) (M : Rat) (r c : Int)
    (h : ∀ a b : Int, r - o ≤ a → a ≤ r + o → c - o ≤ b → b ≤ c + o → g a b ≤ M) :
    winSum o g r c ≤ ((2 * o + 1 : Nat) : Rat) * (((2 * o + 1 : Nat) : Rat) * M) := by
  unfold winSum
  apply sumZ_le_const
  intro i hi
  apply sumZ_le_const
  intro j hj
  exact h _ _ (by omega) (by omega) (by omega) (by omega)

theorem sadSsd_value_le (x : Input) (h : Shape x) (hm : x.meas = .sad ∨ x.meas = .ssd) (M : Rat)
    (hM : ∀ p q : Rat, imgFold ratMin x.L ≤ p → p ≤ imgFold ratMax x.L → imgFold ratMin x.R ≤ q →
      q ≤ imgFold ratMax x.R → pixelCost x.meas p q ≤ M)
    (r c k : Int) (hl : LeftInside x r c) (hr : RightInside x c k) :
    ∃ q, valueSpec x r c k = .num q ∧ q ≤ M * (((x.w : Nat) : Rat) * ((x.w : Nat) : Rat)) := by
  refine ⟨_, valueSpec_sad_ssd x hm r c k, ?_⟩
  have hb := winSum_le_const (half x.w) (fun a b => pixelCost x.meas (x.L.px a b) (interpR x.R x.sp k a b)) M r c
    (fun a b ha1 ha2 hb1 hb2 => by
      obtain ⟨⟨l1, l2⟩, r1, r2⟩ := window_pixels_bounded x h r c k hl hr a b ha1 ha2 hb1 hb2
      exact hM _ _ l1 l2 r1 r2)
  rw [← window_eq x h] at hb
  linarith

theorem sad_pixel_le (maxL minL maxR minR p q : Rat) (l1 : minL ≤ p) (l2 : p ≤ maxL) (r1 : minR ≤ q) (r2 : q ≤ maxR) :
    pixelCost .sad p q ≤ ratMax (ratAbs (maxL - minR)) (ratAbs (maxR - minL)) := by
  have := le_ratAbs (maxL - minR)
  have := le_ratAbs (maxR - minL)
  have := le_ratMax_left (ratAbs (maxL - minR)) (ratAbs (maxR - minL))
  have := le_ratMax_right (ratAbs (maxL - minR)) (ratAbs (maxR - minL))
  exact ratAbs_le _ _ (by linarith) (by linarith)

/-- `(p − q)² ≤ max(|maxL − minR|², |maxR − minL|²)`: a non-negative difference is at most `maxL − minR`, a
    negative one at least `−(maxR − minL)` -/
theorem ssd_pixel_le (maxL minL maxR minR p q : Rat) (l1 : minL ≤ p) (l2 : p ≤ maxL) (r1 : minR ≤ q) (r2 : q ≤ maxR) :
    pixelCost .ssd p q ≤ ratMax (ratAbs (maxL - minR) * ratAbs (maxL - minR)) (ratAbs (maxR - minL) * ratAbs (maxR - minL)) := by
  show (p - q) * (p - q) ≤ _
  by_cases hpos : 0 ≤ p - q
  · have h1 : p - q ≤ ratAbs (maxL - minR) := by have := le_ratAbs (maxL - minR); linarith
    exact le_trans (mul_le_mul h1 h1 hpos (ratAbs_nonneg _)) (le_ratMax_left _ _)
  · have h1 : -(p - q) ≤ ratAbs (maxR - minL) := by have := le_ratAbs (maxR - minL); linarith
    have := mul_le_mul h1 h1 (by linarith) (ratAbs_nonneg _)
    rw [neg_mul_neg] at this
    exact le_trans this (le_ratMax_right _ _)

/-- the un-rounded bound of `cmax` for sad: `max(|maxL − minR|, |maxR − minL|) · w²` -/
def sadBound (x : Input) : Rat :=
  ratMax (ratAbs (imgFold ratMax x.L - imgFold ratMin x.R)) (ratAbs (imgFold ratMax x.R - imgFold ratMin x.L)) *
    (((x.w : Nat) : Rat) * ((x.w : Nat) : Rat))

/-- the un-rounded bound of `cmax` for ssd: `max(|maxL − minR|², |maxR − minL|²) · w²` -/
def ssdBound (x : Input) : Rat :=
  ratMax (ratAbs (imgFold ratMax x.L - imgFold ratMin x.R) * ratAbs (imgFold ratMax x.L - imgFold ratMin x.R))
      (ratAbs (imgFold ratMax x.R - imgFold ratMin x.L) * ratAbs (imgFold ratMax x.R - imgFold ratMin x.L)) *
    (((x.w : Nat) : Rat) * ((x.w : Nat) : Rat))

theorem winCount_le (o : Nat) (f : Int → Int → Bool) (r c : Int) : winCount o f r c ≤ (2 * o + 1) * (2 * o + 1) := by
  unfold winCount
  refine sumZ_nat_le _ _ _ _ (fun i _ => ?_)
  have := sumZ_nat_le (fun b => if f (r - o + i) b then 1 else 0) 1 (c - o) (2 * o + 1) (fun j _ => by split <;> omega)
  omega

theorem census_value_le (x : Input) (h : Shape x) (hm : x.meas = .census) (r c k : Int) :
    ∃ q, valueSpec x r c k = .num q ∧ q ≤ ((x.w : Nat) : Rat) * ((x.w : Nat) : Rat) := by
  unfold valueSpec
  simp only [hm]
  refine ⟨_, rfl, ?_⟩
  rw [← Nat.cast_mul, Nat.cast_le]
  conv_rhs => rw [window_eq x h]
  exact winCount_le _ _ _ _

end Pandora.MC
