/-
  The numbers of a list of values (`Filter.nums`: the entries that are not NaN, in order): what `filterMap` says of it,
  once.  The models of the other steps carry their own definition of the same list (`Interp.nums`, `Cbca.finites`,
  `Confidence.numsOf`); each is `Filter.nums` by `eq_nums` and its lemmas are instances of these.  Core Lean only.
-/
import PandoraModel.Model.Filter

namespace Pandora.Filter

theorem nums_cons_nan (t : List Val) : nums (.nan :: t) = nums t := rfl
theorem nums_cons_num (q : Rat) (t : List Val) : nums (.num q :: t) = q :: nums t := rfl

theorem eq_nums {f : List Val → List Rat} (h0 : f [] = []) (hnan : ∀ t, f (.nan :: t) = f t)
    (hnum : ∀ q t, f (.num q :: t) = q :: f t) (l : List Val) : f l = nums l := by
  induction l with
  | nil => exact h0
  | cons v t ih =>
    cases v with
    | nan => rw [hnan, ih, nums_cons_nan]
    | num q => rw [hnum, ih, nums_cons_num]

theorem mem_nums {l : List Val} {q : Rat} : q ∈ nums l ↔ Val.num q ∈ l := by
  rw [nums, List.mem_filterMap]
  exact ⟨fun ⟨v, hv, e⟩ => by cases v <;> cases e; exact hv, fun h => ⟨_, h, rfl⟩⟩

theorem nums_eq_nil_iff {l : List Val} : nums l = [] ↔ ∀ c ∈ l, c = Val.nan := by
  rw [nums, List.filterMap_eq_nil_iff]
  exact forall₂_congr fun c _ => by cases c <;> simp [num?]

theorem nums_perm {l l' : List Val} (h : l.Perm l') : (nums l).Perm (nums l') := h.filterMap _

theorem nums_length_le (l : List Val) : (nums l).length ≤ l.length := List.length_filterMap_le _ _

theorem nums_map_filterMap {α β : Type} (g : α → Val) (h : α → Option β) (k : β → Rat)
    (hg : ∀ p, num? (g p) = (h p).map k) (L : List α) : nums (L.map g) = (L.filterMap h).map k := by
  rw [nums, List.filterMap_map, List.map_filterMap]
  exact congrArg (List.filterMap · L) (funext hg)

theorem nums_map_getD {α} (f : α → Option Val) (ds : List α) :
    nums (ds.map fun d => (f d).getD .nan) = nums (ds.filterMap f) := by
  rw [nums, nums, List.filterMap_map, List.filterMap_filterMap]
  refine congrArg (List.filterMap · ds) (funext fun d => ?_)
  show num? ((f d).getD .nan) = (f d).bind num?
  cases f d <;> rfl

end Pandora.Filter
