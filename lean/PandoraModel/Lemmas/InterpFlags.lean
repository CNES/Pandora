/- C14: `-= 2^i` then `+= 2^j` / `|= 2^j` on a flag word replaces bit `i` by bit `j`. -/
import PandoraModel.Model.Interp
import PandoraModel.Lemmas.FlagWord

namespace Pandora.Interp
open Pandora.Flags

theorem testBit_replaceBit (f i j m : Nat) :
    (replaceBit f (2 ^ i) (2 ^ j)).testBit m = ((f.testBit m && decide (m ≠ i)) || decide (m = j)) := by
  unfold replaceBit
  simp only [Nat.testBit_or, Nat.testBit_xor, Nat.testBit_and, Nat.testBit_two_pow]
  by_cases hi : i = m
  · subst hi; by_cases hj : j = i
    · subst hj; simp
    · have : ¬ i = j := fun h => hj h.symm
      cases f.testBit i <;> simp [hj, this]
  · have hi' : ¬ m = i := fun h => hi h.symm
    by_cases hj : j = m
    · subst hj; simp [hi, hi']
    · have : ¬ m = j := fun h => hj h.symm
      simp [hi, hi', hj, this]

theorem hasBit_replaceBit (f i j k : Nat) :
    hasBit (replaceBit f (2 ^ i) (2 ^ j)) (2 ^ k) = ((hasBit f (2 ^ k) && decide (k ≠ i)) || decide (k = j)) := by
  rw [C04.hasBit_two_pow, C04.hasBit_two_pow, testBit_replaceBit]

theorem replaceBit_twice (f : Nat) (i j k : Nat) (hj : f.testBit j = false) (hij : i ≠ j) :
    replaceBit (replaceBit f (2 ^ i) (2 ^ j)) (2 ^ j) (2 ^ k) = replaceBit f (2 ^ i) (2 ^ k) := by
  apply Nat.eq_of_testBit_eq; intro m
  rw [testBit_replaceBit, testBit_replaceBit, testBit_replaceBit]
  by_cases h1 : m = j
  · subst h1; simp [hj]
  · simp [h1]

theorem raise_zero (op : RaiseOp) (g : Nat) : raise op g 0 = g := by cases op <;> simp [raise]

/-- with `+=` the raised bit has to be clear (then `+=` is `|=`) -/
theorem raise_sub_eq_replaceBit {op : RaiseOp} {f i j : Nat} (hi : f.testBit i = true)
    (hj : op = .add → f.testBit j = false) : raise op (f - 2 ^ i) (2 ^ j) = replaceBit f (2 ^ i) (2 ^ j) := by
  apply Nat.eq_of_testBit_eq; intro m
  rw [testBit_replaceBit]
  simp only [eq_comm (a := m), ne_eq, decide_not]
  cases op
  · exact FlagWord.testBit_sub_add f i j m hi (hj rfl)
  · exact FlagWord.testBit_sub_or f i j m hi

theorem sub_add_eq_replaceBit {f i j : Nat} (hi : f.testBit i = true) (hj : f.testBit j = false) :
    f - 2 ^ i + 2 ^ j = replaceBit f (2 ^ i) (2 ^ j) :=
  raise_sub_eq_replaceBit (op := .add) hi fun _ => hj

theorem occlusion_pow : occlusion = 2 ^ 8 := rfl
theorem mismatch_pow : mismatch = 2 ^ 9 := rfl
theorem filledOcclusion_pow : filledOcclusion = 2 ^ 4 := rfl
theorem filledMismatch_pow : filledMismatch = 2 ^ 5 := rfl

theorem flagged_eq (f : Nat) : flagged f = (f.testBit 8 || f.testBit 9) := by
  unfold flagged; rw [FlagWord.hasBit_occlusion, FlagWord.hasBit_mismatch]

/-- bits 8 and 9 are among those of `PANDORA_MSK_PIXEL_INVALID` -/
theorem isInvalid_of_flagged {f : Nat} (h : flagged f = true) : isInvalid f = true := by
  rw [flagged_eq] at h; rw [C04.isInvalid_eq]
  cases h8 : f.testBit 8 <;> cases h9 : f.testBit 9 <;> simp_all

theorem not_valid_of_flagged {f : Nat} (h : flagged f = true) : ((f &&& pixelInvalid) == 0) = false := by
  simpa [isInvalid] using isInvalid_of_flagged h

/-- `-= OCCLUSION; (+=|‖=) FILLED_OCCLUSION` -/
theorem upd_occl {op : RaiseOp} {f : Nat} (h8 : f.testBit 8 = true) (h4 : op = .add → f.testBit 4 = false) :
    raise op (f - occlusion) filledOcclusion = replaceBit f occlusion filledOcclusion := by
  rw [occlusion_pow, filledOcclusion_pow]; exact raise_sub_eq_replaceBit h8 h4

/-- `-= MISMATCH; (+=|‖=) FILLED_MISMATCH` -/
theorem upd_mism {op : RaiseOp} {f : Nat} (h9 : f.testBit 9 = true) (h5 : op = .add → f.testBit 5 = false) :
    raise op (f - mismatch) filledMismatch = replaceBit f mismatch filledMismatch := by
  rw [mismatch_pow, filledMismatch_pow]; exact raise_sub_eq_replaceBit h9 h5

/-- `-= MISMATCH; (+=|‖=) OCCLUSION` -/
theorem upd_mism_occl {op : RaiseOp} {f : Nat} (h9 : f.testBit 9 = true) (h8 : op = .add → f.testBit 8 = false) :
    raise op (f - mismatch) occlusion = replaceBit f mismatch occlusion := by
  rw [mismatch_pow, occlusion_pow]; exact raise_sub_eq_replaceBit h9 h8

theorem fill_occl {f : Nat} (h8 : f.testBit 8 = true) (h4 : f.testBit 4 = false) :
    f - occlusion + filledOcclusion = replaceBit f occlusion filledOcclusion :=
  upd_occl (op := .add) h8 fun _ => h4

theorem fill_mism {f : Nat} (h9 : f.testBit 9 = true) (h5 : f.testBit 5 = false) :
    f - mismatch + filledMismatch = replaceBit f mismatch filledMismatch :=
  upd_mism (op := .add) h9 fun _ => h5

theorem mism_to_occl {f : Nat} (h9 : f.testBit 9 = true) (h8 : f.testBit 8 = false) :
    f - mismatch + occlusion = replaceBit f mismatch occlusion :=
  upd_mism_occl (op := .add) h9 fun _ => h8

end Pandora.Interp
