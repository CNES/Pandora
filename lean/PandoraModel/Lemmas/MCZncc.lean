/-
  zncc: the mean raster computed with two cumulative sums is the window mean; the plane computed by
  `Zncc.compute_cost_volume` is the textbook zero-mean normalised cross-correlation.
-/
import PandoraModel.Lemmas.MCRaw

namespace Pandora.MC

/-- `compute_mean_raster` (cumulative sums and differences) = mean over the `w × w` window whose
    top-left corner is `(i, j)` -/
theorem meanRaster_eq (w : Nat) (f : Int → Int → Rat) (i j : Int) (hi : 0 ≤ i) (hj : 0 ≤ j) :
    meanRaster w f i j
      = sumZ (0 : Rat) (fun a => sumZ (0 : Rat) (fun b => f a b) j w) i w / ((w * w : Nat) : Rat) := by
  unfold meanRaster
  simp only
  congr 1
  rw [sumZ_cum_diff (fun j' => sumZ (0 : Rat) (fun i' => f i' j') 0 (i + w).toNat - sumZ (0 : Rat) (fun i' => f i' j') 0 i.toNat) j w hj]
  have : ∀ j' : Int, sumZ (0 : Rat) (fun i' => f i' j') 0 (i + w).toNat - sumZ (0 : Rat) (fun i' => f i' j') 0 i.toNat
      = sumZ (0 : Rat) (fun a => f a j') i w := fun j' => sumZ_cum_diff (fun i' => f i' j') i w hi
  simp only [this]
  exact sumZ_swap f i j w w

/-- a raster `f` read `D` columns to the right of the truncated position of `(r, c)` is the mean of `g = f (·) (· + D)`
    over the window centred on `(r, c)`: `D = 0` for the left image, `⌊k/sp⌋` for the shifted right image (`g` the
    interpolated one), `-p0` for the product raster, which is built on the slices starting at `p0` / `q0` -/
theorem meanRaster_window (x : Input) (h : Shape x) (f g : Int → Int → Rat) (D : Int) (hfg : ∀ a b, f a (b + D) = g a b)
    (r c j : Int) (hr : ((half x.w : Nat) : Int) ≤ r) (hc : ((half x.w : Nat) : Int) ≤ c + D) (hj : j = c - (half x.w : Nat) + D) :
    meanRaster x.w f (r - (half x.w : Nat)) j = winSum (half x.w) g r c / ((x.w * x.w : Nat) : Rat) := by
  rw [meanRaster_eq x.w f _ _ (by omega) (by omega), hj]
  unfold winSum
  rw [← window_eq x h]
  congr 1
  apply sumZ_congr; intro i _
  rw [← sumZ_shift]
  simp only [hfg]

/-- the radicand of `compute_std_raster` from the two means `e = E[x]`, `e2 = E[x²]`: `e2 − e²`, set to `0`
    under the `1e-15` threshold -/
def radicand (e e2 : Rat) : Rat := if e2 - e * e < tiny * ratAbs e2 then 0 else e2 - e * e

theorem radicand_cases (e e2 : Rat) : radicand e e2 = 0 ∨ radicand e e2 = e2 - e * e := by
  unfold radicand
  split
  · exact Or.inl rfl
  · exact Or.inr rfl

theorem radicand_mul_pos {a a2 b b2 : Rat} (h : 0 < radicand a a2 * radicand b b2) :
    radicand a a2 = a2 - a * a ∧ radicand b b2 = b2 - b * b := by
  rcases radicand_cases a a2 with ha | ha
  · rw [ha, zero_mul] at h; exact absurd h (lt_irrefl 0)
  · rcases radicand_cases b b2 with hb | hb
    · rw [hb, mul_zero] at h; exact absurd h (lt_irrefl 0)
    · exact ⟨ha, hb⟩

theorem tiny_pos : 0 < tiny := by unfold tiny; norm_num

theorem radicand_of_noTiny (e e2 : Rat) (h : e2 - e * e = 0 ∨ ¬ (e2 - e * e < tiny * ratAbs e2)) :
    radicand e e2 = e2 - e * e ∧ 0 ≤ e2 - e * e := by
  unfold radicand
  rcases h with h0 | hge
  · rw [h0]
    exact ⟨by split <;> rfl, le_refl _⟩
  · rw [if_neg hge]
    have := mul_nonneg (le_of_lt tiny_pos) (ratAbs_nonneg e2)
    exact ⟨rfl, by linarith [not_lt.mp hge]⟩

theorem varRaster_eq_radicand (w : Nat) (f : Int → Int → Rat) (i j : Int) :
    varRaster w f i j = radicand (meanRaster w f i j) (meanRaster w (fun r c => f r c * f r c) i j) := rfl

/-- zncc value as the code forms it, on the two windows centred on `(r, c)` (the right one in the interpolated
    right image): window means, thresholded radicands, `apply_divide_standard` -/
def valueZnccRaw (x : Input) (r c k : Int) : Cell :=
  let o := half x.w
  let n : Rat := ((x.w * x.w : Nat) : Rat)
  let lf := x.L.px
  let rt := fun (a b : Int) => interpR x.R x.sp k a b
  let eL := winSum o lf r c / n
  let eR := winSum o rt r c / n
  let eLR := winSum o (fun a b => lf a b * rt a b) r c / n
  let vv := radicand eL (winSum o (fun a b => lf a b * lf a b) r c / n) *
    radicand eR (winSum o (fun a b => rt a b * rt a b) r c / n)
  if vv > 0 then .zn (eLR - eL * eR) vv else .num 0

theorem rawZncc_eq (x : Input) (h : Shape x) (k r c : Int) :
    rawZncc x k r c = if LeftInside x r c ∧ RightInside x c k then valueZnccRaw x r c k else .nan := by
  have hs := h.sp_pos
  have hf0 := fracBit_nonneg k x.sp
  have hclosed := pointInterval_closed (x.L.cols : Int) ((shiftRight x.R x.sp (iRight k x.sp)).cols : Int) k x.sp hs
  have hq0 := q0_eq (x.L.cols : Int) ((shiftRight x.R x.sp (iRight k x.sp)).cols : Int) k x.sp hs
  unfold rawZncc
  simp only
  generalize hRk : shiftRight x.R x.sp (iRight k x.sp) = Rk at hclosed hq0 ⊢
  -- the guard of the assignment `cv_crop[disp_index, p0 : p_std[1], :] = zncc_`
  have hguard := cropGuard_iff x h k r c (pointInterval (x.L.cols : Int) (Rk.cols : Int) k x.sp).p0
    ((pointInterval (x.L.cols : Int) (Rk.cols : Int) k x.sp).p1 - 2 * ((half x.w : Nat) : Int)) _ rfl
    (by rw [hclosed]; simp only; omega)
  by_cases hin : LeftInside x r c ∧ RightInside x c k
  · obtain ⟨-, -, -, -, hp0, -⟩ := hguard.mpr hin
    rw [if_pos (hguard.mpr hin), if_pos hin]
    obtain ⟨⟨hl1, -, hl3, -⟩, hr1, -⟩ := hin
    clear hclosed hguard
    generalize (pointInterval (x.L.cols : Int) (Rk.cols : Int) k x.sp).p0 = p0 at hq0 hp0 ⊢
    generalize (pointInterval (x.L.cols : Int) (Rk.cols : Int) k x.sp).q0 = q0 at hq0 ⊢
    subst hq0
    -- the right raster read at column `b + D` is the interpolated right image read at `b`
    have hR : ∀ a b, Rk.px a (b + k / (x.sp : Int)) = interpR x.R x.sp k a b := fun a b =>
      hRk ▸ shiftRight_px x.R k x.sp hs a b
    have hl3' : ((half x.w : Nat) : Int) ≤ c + 0 := by rwa [Int.add_zero]
    rw [meanRaster_window x h _ (fun a b => x.L.px a b * interpR x.R x.sp k a b) (-p0)
        (fun a b => by rw [← hR]; congr 2 <;> omega) r c _ hl1 (by omega),
      varRaster_eq_radicand, varRaster_eq_radicand,
      meanRaster_window x h x.L.px x.L.px 0 (fun a b => by rw [Int.add_zero]) r c _ hl1 hl3',
      meanRaster_window x h Rk.px _ _ hR r c _ hl1 hr1,
      meanRaster_window x h (fun a b => x.L.px a b * x.L.px a b) _ 0 (fun a b => by rw [Int.add_zero]) r c _ hl1 hl3',
      meanRaster_window x h (fun a b => Rk.px a b * Rk.px a b) _ _ (fun a b => by rw [hR]) r c _ hl1 hr1]
    · rfl
    all_goals omega
  · rw [if_neg (fun hc => hin (hguard.mp hc)), if_neg hin]

/-- local form of the hypothesis `noTinyVariance`: the `1e-15` threshold of `compute_std_raster` does not
    fire on a non-zero variance of the window of `f` centred on `(r, c)` -/
def NoTiny (x : Input) (f : Int → Int → Rat) (r c : Int) : Prop :=
  let n : Rat := ((x.w * x.w : Nat) : Rat)
  let e := winSum (half x.w) f r c / n
  let e2 := winSum (half x.w) (fun a b => f a b * f a b) r c / n
  (e2 - e * e = 0 ∨ ¬ (e2 - e * e < tiny * ratAbs e2))

theorem valueZnccRaw_eq (x : Input) (hm : x.meas = .zncc) (r c k : Int) (hntL : NoTiny x x.L.px r c)
    (hntR : NoTiny x (fun a b => interpR x.R x.sp k a b) r c) : valueZnccRaw x r c k = valueSpec x r c k := by
  obtain ⟨hL, hL0⟩ := radicand_of_noTiny _ _ hntL
  obtain ⟨hR, hR0⟩ := radicand_of_noTiny _ _ hntR
  unfold valueZnccRaw valueSpec
  simp only [hm, hL, hR]
  split
  · rename_i hpos
    rw [if_neg (fun hz => by rcases hz with hz | hz <;> rw [hz] at hpos <;> simp at hpos)]
  · rename_i hpos
    rw [if_pos]
    by_contra hz
    exact hpos (mul_pos (lt_of_le_of_ne hL0 (fun e => hz (Or.inl e.symm))) (lt_of_le_of_ne hR0 (fun e => hz (Or.inr e.symm))))

end Pandora.MC
