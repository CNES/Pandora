/-
  C09 pipeline composition — the two disparity filters preserve `BoundedValid`.

  C10's cell specifications say that a filtered valid pixel lies between the smallest and the largest valid disparity of
  its window, that the other pixels keep their disparity, and that the flags are not written.  The smallest and the
  largest valid value of a window are disparities of valid pixels (`window_between_bdd`, for both filters; "between min
  and max" bounds nothing without attainment, `minOf_mem` / `maxOf_mem`), so `BoundedValid.of_bdd` applies.
  `WeightsOK` (non-negative factors, a positive weight for the pixel itself) implies the per-window condition
  `wfWeightsAt` of C10 (`wfWeightsAt_of_weightsOK`).
-/
import PandoraModel.Lemmas.PipeBasic
import PandoraModel.Properties.C10

namespace Pandora.C09P
open Pandora.Pipeline Pandora.Filter

theorem foldl_select_mem {α : Type} (f : α → α → α) (hf : ∀ a b, f a b = a ∨ f a b = b) (xs : List α) :
    ∀ a : α, xs.foldl f a ∈ a :: xs := by
  induction xs with
  | nil => intro a; exact List.mem_cons_self
  | cons x xs ih =>
    intro a
    rw [List.foldl_cons]
    rcases hf a x with h | h <;> rw [h]
    · rcases List.mem_cons.1 (ih a) with e | hm
      · rw [e]; exact List.mem_cons_self
      · exact List.mem_cons_of_mem _ (List.mem_cons_of_mem _ hm)
    · exact List.mem_cons_of_mem _ (ih x)

theorem minOf_mem (vs : List Rat) (h : vs ≠ []) : minOf vs ∈ vs := by
  cases vs with
  | nil => exact absurd rfl h
  | cons x xs => exact foldl_select_mem _ (fun a b => (ite_eq_or_eq _ b a).symm) xs x

theorem maxOf_mem (vs : List Rat) (h : vs ≠ []) : maxOf vs ∈ vs := by
  cases vs with
  | nil => exact absurd rfl h
  | cons x xs => exact foldl_select_mem _ (fun a b => (ite_eq_or_eq _ b a).symm) xs x

/-- the shape both cell specifications have at a valid cell: outside the interior one failure name unless the value is
    kept; inside, failure names unless the value is a number, is the filtered one (`first`), and lies between the
    smallest and the largest of `vs` -/
theorem cellFailures_nil {inside : Bool} {orig out : Val} {edge nan : List String} {first : Rat → List String}
    {vs : List Rat} {name : String} (hedge : edge ≠ []) (hnan : nan ≠ [])
    (h : (if !inside then (if out == orig then [] else edge) else
            match out with
            | .nan => nan
            | .num x => first x ++ (if between vs x then [] else [name])) = []) :
    if inside = true then ∃ x, out = .num x ∧ between vs x = true else out = orig := by
  cases inside with
  | true =>
    cases out with
    | nan => exact absurd h hnan
    | num x => exact ⟨x, rfl, (ite_nil_iff (List.cons_ne_nil _ _)).1 (List.append_eq_nil_iff.1 h).2⟩
  | false => exact beq_iff_eq.1 ((ite_nil_iff hedge).1 h)

theorem medianCellSpec_num {data : Img} {fs ny nx r c : Nat} {orig out : Val} {q : Rat} (hd : data r c = .num q)
    (h : medianCellSpec data fs ny nx r c orig out = true) :
    if interior (fs / 2) (fs / 2) ny nx r c = true
    then ∃ x, out = .num x ∧ between (nums (centredWindow data (fs / 2) (fs / 2) r c)) x = true
    else out = orig := by
  unfold medianCellSpec medianCellFailures at h
  rw [hd, List.isEmpty_iff] at h
  exact cellFailures_nil (List.cons_ne_nil _ _) (List.cons_ne_nil _ _) h

theorem bilateralCellSpec_num {wts : Weights} {tol : Rat} {data : Img} {w ny nx r c : Nat} {orig out : Val} {ctr : Rat}
    (hd : data r c = .num ctr) (h : bilateralCellSpec wts tol data w ny nx r c orig out = true) :
    if interior (w / 2) (w - 1 - w / 2) ny nx r c = true
    then ∃ x, out = .num x ∧
      between ((validPairs wts w (fun a b => data (r - w / 2 + a) (c - w / 2 + b)) ctr).map (fun p => p.2)) x = true
    else out = orig := by
  unfold bilateralCellSpec bilateralCellFailures at h
  rw [hd, List.isEmpty_iff] at h
  exact cellFailures_nil (List.cons_ne_nil _ _) (List.cons_ne_nil _ _) h

theorem masked_of_valid (flags : Nat → Nat → Nat) (disp : Img) (r c : Nat)
    (hv : Flags.isInvalid (flags r c) = false) : masked Flags.pixelInvalid flags disp r c = disp r c := by
  unfold masked maskCell
  unfold Flags.isInvalid at hv
  rw [hv]; rfl

theorem masked_num (flags : Nat → Nat → Nat) (disp : Img) (r c : Nat) (v : Rat)
    (h : masked Flags.pixelInvalid flags disp r c = .num v) :
    Flags.isInvalid (flags r c) = false ∧ disp r c = .num v := by
  unfold masked maskCell at h
  unfold Flags.isInvalid
  split at h
  · cases h
  · next hne => exact ⟨Bool.eq_false_iff.2 hne, h⟩

theorem interior_iff {before after ny nx r c : Nat} :
    interior before after ny nx r c = true ↔ before ≤ r ∧ r + after < ny ∧ before ≤ c ∧ c + after < nx := by
  simp only [interior, Bool.and_eq_true, decide_eq_true_eq, and_assoc]

theorem window_index_lt {n before after r a : Nat} (h0 : before ≤ r) (h1 : r + after < n) (ha : a < before + after + 1) :
    r - before + a < n := by
  omega

/-- **Both filters, one pixel of the interior**: a number between the smallest and the largest valid value of the
    window lies between the disparities of two valid pixels of the map (`vs`: the valid values of the window, however
    the specification lists them).  The window is not empty of valid values: it holds the pixel itself. -/
theorem window_between_bdd {m : DMap} {before after r c : Nat} {vs : List Rat} {q x : Rat}
    (hint : interior before after m.rows m.cols r c = true)
    (hv : Flags.isInvalid (m.flag r c) = false) (hq : m.disp r c = .num q)
    (hvs : ∀ v, v ∈ vs ↔ ∃ p ∈ cells (before + after + 1),
      masked Flags.pixelInvalid m.flag m.disp (r - before + p.1) (c - before + p.2) = .num v)
    (hb : between vs x = true) : C14.Bdd m x := by
  obtain ⟨hr0, hr1, hc0, hc1⟩ := interior_iff.1 hint
  have hall : ∀ v ∈ vs, C14.Bdd m v := by
    intro v hmem
    obtain ⟨p, hp, hpv⟩ := (hvs v).1 hmem
    obtain ⟨hp1, hp2⟩ := (C10.mem_cells _ _ _).1 hp
    obtain ⟨hval, hd⟩ := masked_num _ _ _ _ _ hpv
    exact bdd_self (window_index_lt hr0 hr1 hp1) (window_index_lt hc0 hc1 hp2) hval hd
  have hne : vs ≠ [] := by
    have hlt : before < before + after + 1 := Nat.lt_succ_of_le (Nat.le_add_right _ _)
    refine List.ne_nil_of_mem ((hvs q).2 ⟨(before, before), (C10.mem_cells _ _ _).2 ⟨hlt, hlt⟩, ?_⟩)
    rw [Nat.sub_add_cancel hr0, Nat.sub_add_cancel hc0, masked_of_valid _ _ _ _ hv, hq]
  rw [between_iff] at hb
  exact C14.Bdd.between (hall _ (minOf_mem vs hne)) (hall _ (maxOf_mem vs hne)) hb.1 hb.2

/-- **The median filter preserves `BoundedValid`** (from `C10.medianFilterDisparity_spec`). -/
theorem medianStep_bounded (s : Blocks.Split) (fs : Nat) (lo hi : Rat) (m : DMap)
    (hp : (Step.median s fs).paramsOK m) (h : BoundedValid lo hi m) : BoundedValid lo hi (medianStep s fs m) := by
  obtain ⟨hy, hx, hodd, hny, hnx⟩ := hp
  refine h.of_bdd fun r c (hr : r < m.rows) (hc : c < m.cols) (hv : Flags.isInvalid (m.flag r c) = false) => ?_
  obtain ⟨q, hq, -⟩ := h r c hr hc hv
  have spec := medianCellSpec_num (by rw [masked_of_valid _ _ _ _ hv, hq])
    (C10.medianFilterDisparity_spec s Flags.pixelInvalid fs m.rows m.cols m.flag m.disp hy hx hodd hny hnx r c)
  split at spec
  · next hint =>
    obtain ⟨x, hx, hb⟩ := spec
    refine ⟨x, hx, window_between_bdd hint hv hq (fun v => ?_) hb⟩
    rw [mem_nums, centredWindow, List.mem_map]
  · exact ⟨q, spec.trans hq, bdd_self hr hc hv hq⟩

theorem sum_nonneg_of_mem (l : List Rat) (hnn : ∀ x ∈ l, 0 ≤ x) : 0 ≤ l.sum := by
  induction l with
  | nil => exact le_refl _
  | cons y ys ih =>
    rw [List.sum_cons]
    exact add_nonneg (hnn y List.mem_cons_self) (ih fun z hz => hnn z (List.mem_cons_of_mem _ hz))

theorem sum_pos_of_mem (l : List Rat) (hnn : ∀ x ∈ l, 0 ≤ x) (x : Rat) (hx : x ∈ l) (hpos : 0 < x) : 0 < l.sum := by
  induction l with
  | nil => cases hx
  | cons y ys ih =>
    rw [List.sum_cons]
    have hys := fun z hz => hnn z (List.mem_cons_of_mem y hz)
    rcases List.mem_cons.1 hx with rfl | hx'
    · exact add_pos_of_pos_of_nonneg hpos (sum_nonneg_of_mem ys hys)
    · exact add_pos_of_nonneg_of_pos (hnn y List.mem_cons_self) (ih hys hx')

theorem mem_validPairs {wts : Weights} {w : Nat} {win : Nat → Nat → Val} {ctr : Rat} {q : Rat × Rat} :
    q ∈ validPairs wts w win ctr ↔
      ∃ p ∈ cells w, ∃ v, win p.1 p.2 = .num v ∧ q = (wts.spatial p.1 p.2 * wts.range (v - ctr), v) := by
  unfold validPairs
  rw [List.mem_filterMap]
  constructor
  · rintro ⟨p, hp, hq⟩
    cases hw : win p.1 p.2 with
    | nan => rw [hw] at hq; cases hq
    | num v =>
      rw [hw] at hq
      exact ⟨p, hp, v, hw, (Option.some.inj hq).symm⟩
  · rintro ⟨p, hp, v, hw, hq⟩
    exact ⟨p, hp, by rw [hw, hq]⟩

theorem mem_validPairs_values {wts : Weights} {w : Nat} {win : Nat → Nat → Val} {ctr v : Rat} :
    v ∈ (validPairs wts w win ctr).map (fun p => p.2) ↔ ∃ p ∈ cells w, win p.1 p.2 = .num v := by
  rw [List.mem_map]
  constructor
  · rintro ⟨q, hq, rfl⟩
    obtain ⟨p, hp, v, hw, rfl⟩ := mem_validPairs.1 hq
    exact ⟨p, hp, hw⟩
  · rintro ⟨p, hp, hw⟩
    exact ⟨_, mem_validPairs.2 ⟨p, hp, v, hw, rfl⟩, rfl⟩

theorem wfWeightsAt_of_weightsOK {wts : Weights} {w : Nat} (hw : 0 < w) (hok : WeightsOK wts w) (win : Nat → Nat → Val) (ctr : Rat)
    (hcentre : win (w / 2) (w / 2) = .num ctr) : wfWeightsAt wts w win ctr = true := by
  have hnn : ∀ p ∈ validPairs wts w win ctr, 0 ≤ p.1 := by
    intro p hp
    obtain ⟨p', _, v, _, rfl⟩ := mem_validPairs.1 hp
    exact mul_nonneg (hok.spatial_nonneg _ _) (hok.range_nonneg _)
  simp only [wfWeightsAt, Bool.and_eq_true, List.all_eq_true, decide_eq_true_eq]
  refine ⟨hnn, ?_⟩
  apply sum_pos_of_mem _ _ (wts.spatial (w / 2) (w / 2) * wts.range 0)
  · refine List.mem_map.2 ⟨(wts.spatial (w / 2) (w / 2) * wts.range (ctr - ctr), ctr), ?_, by rw [sub_self]⟩
    have hlt : w / 2 < w := Nat.div_lt_self hw (by decide)
    exact mem_validPairs.2 ⟨(w / 2, w / 2), (C10.mem_cells _ _ _).2 ⟨hlt, hlt⟩, ctr, hcentre, rfl⟩
  · exact hok.centre_pos
  · intro x hx
    obtain ⟨p, hp, rfl⟩ := List.mem_map.1 hx
    exact hnn p hp

theorem window_width {w : Nat} (hw : 0 < w) : w / 2 + (w - 1 - w / 2) + 1 = w := by
  rw [Nat.add_sub_cancel' (Nat.le_sub_one_of_lt (Nat.div_lt_self hw (by decide))), Nat.sub_add_cancel hw]

/-- **The bilateral filter preserves `BoundedValid`** (from `C10.bilateral_cell`: the weights are used at valid pixels of
    the interior only, where the centre of the window is the pixel). -/
theorem bilateralStep_bounded (s : Blocks.Split) (wts : Weights) (w : Nat) (lo hi : Rat) (m : DMap)
    (hp : (Step.bilateral s wts w).paramsOK m) (h : BoundedValid lo hi m) :
    BoundedValid lo hi (bilateralStep s wts w m) := by
  obtain ⟨hy, hx, hw, hny, hnx, hok⟩ := hp
  refine h.of_bdd fun r c (hr : r < m.rows) (hc : c < m.cols) (hv : Flags.isInvalid (m.flag r c) = false) => ?_
  obtain ⟨q, hq, -⟩ := h r c hr hc hv
  have hmq : masked Flags.pixelInvalid m.flag m.disp r c = .num q := by rw [masked_of_valid _ _ _ _ hv, hq]
  have spec := bilateralCellSpec_num hmq
    (C10.bilateral_cell s wts w m.rows m.cols (masked Flags.pixelInvalid m.flag m.disp) (m.disp r c) r c hy hx hw hny hnx
      (fun _ hd => C10.maskCell_num hd) fun ctr hctr hint => by
        refine wfWeightsAt_of_weightsOK hw hok _ ctr ?_
        rw [(C10.interior_centre hint).1, (C10.interior_centre hint).2, hctr])
  split at spec
  · next hint =>
    obtain ⟨x, hx, hb⟩ := spec
    refine ⟨x, hx, window_between_bdd hint hv hq (fun v => ?_) hb⟩
    rw [mem_validPairs_values, window_width hw]
  · exact ⟨q, spec.trans hq, bdd_self hr hc hv hq⟩

end Pandora.C09P
