/-
  `cv_masked`: the loop over the disparities touches plane `dsp` only; the dilated masks are NaN exactly on
  invalid centres and on windows holding a nodata pixel; `cause` is `computable` exactly when interval, windows and
  masks allow it.  The pieces `Properties/C02.lean` is assembled from: `RawOK x val` (what is asked of the planes
  before masking), `specCellWith val` (the prescribed cell for a value function `val`), `costVolume_eq_step` and
  `cvMaskedStep_eq` (one iteration of `cv_masked` on such planes), `cause_computable_iff`.
-/
import PandoraModel.Lemmas.MCRaw

namespace Pandora.MC


theorem cvMaskedStep_other (x : Input) (gmin : Int) (cv : Volume) (k r c : Int) (j : Nat)
    (hj : j ≠ (k - gmin * (x.sp : Int)).toNat) : cvMaskedStep x gmin cv k r c j = cv r c j := by
  unfold cvMaskedStep
  simp only
  rw [if_neg (fun h => hj h.1)]

theorem cvMaskedStep_congr (x : Input) (gmin : Int) (cv cv' : Volume) (k r c : Int) (j : Nat)
    (h : cv r c j = cv' r c j) : cvMaskedStep x gmin cv k r c j = cvMaskedStep x gmin cv' k r c j := by
  unfold cvMaskedStep
  simp only
  rw [h]

theorem foldl_cvMaskedStep (x : Input) (gmin : Int) (raw : Volume) (n : Nat) (r c : Int) (j : Nat) :
    (((List.range n).map (fun (i : Nat) => gmin * (x.sp : Int) + (i : Int))).foldl (cvMaskedStep x gmin) raw) r c j
      = if j < n then cvMaskedStep x gmin raw (gmin * (x.sp : Int) + j) r c j else raw r c j := by
  induction n with
  | zero => simp
  | succ n ih =>
    rw [List.range_succ, List.map_append, List.foldl_append]
    simp only [List.map_cons, List.map_nil, List.foldl_cons, List.foldl_nil]
    by_cases hjn : j = n
    · subst hjn
      rw [if_pos (Nat.lt_succ_self j)]
      apply cvMaskedStep_congr
      rw [ih, if_neg (Nat.lt_irrefl j)]
    · have hne : j ≠ (gmin * (x.sp : Int) + (n : Int) - gmin * (x.sp : Int)).toNat := by
        have : (gmin * (x.sp : Int) + (n : Int) - gmin * (x.sp : Int)).toNat = n := by omega
        rw [this]; exact hjn
      rw [cvMaskedStep_other x gmin _ _ r c j hne, ih]
      by_cases hlt : j < n
      · rw [if_pos hlt, if_pos (Nat.lt_succ_of_lt hlt)]
      · rw [if_neg hlt, if_neg (by omega)]

/-- a cell of the cost volume: NaN outside the pixel's own interval, otherwise what the iteration of `cv_masked`
    for its own disparity `gmin·sp + j` makes of the planes of `compute_cost_volume` -/
theorem costVolume_eq_step (x : Input) (hs : 0 < x.sp) (hg : x.gmin ≤ x.gmax) (r c : Int) (j : Nat)
    (hj : j < x.nSamples) :
    costVolume x r c j =
      if x.gmin * (x.sp : Int) + j < x.dminG r c * (x.sp : Int) ∨ x.gmin * (x.sp : Int) + j > x.dmaxG r c * (x.sp : Int)
      then .nan
      else cvMaskedStep x x.gmin (fun r c j => rawPlane x (x.gmin * (x.sp : Int) + j) r c)
        (x.gmin * (x.sp : Int) + j) r c j := by
  unfold costVolume intervalMask
  simp only
  unfold Input.nSamples Input.gmin Input.gmax at *
  generalize gridMin x.dminG x.L.rows x.L.cols = gmin at hg hj ⊢
  generalize gridMax x.dmaxG x.L.rows x.L.cols = gmax at hg hj ⊢
  split
  · rfl
  · have hget := dispRange_getD gmin gmax x.sp hs hg j hj
    rw [nDisp_eq gmin gmax x.sp hs hg] at hj
    rw [dispRange_eq gmin gmax x.sp hs hg] at hget ⊢
    rw [foldl_cvMaskedStep, if_pos hj]
    -- within one iteration only sample `j` of the planes is read
    apply cvMaskedStep_congr
    exact congrArg (fun k => rawPlane x k r c) hget

theorem winAll_iff (o : Nat) (f : Int → Int → Bool) (r c : Int) :
    winAll o f r c = true ↔
      ∀ a b : Int, r - o ≤ a → a < r - o + (2 * o + 1 : Nat) → c - o ≤ b → b < c - o + (2 * o + 1 : Nat) → f a b = true := by
  unfold winAll
  rw [allZ_iff_int]
  constructor
  · intro h a b h1 h2 h3 h4
    exact (allZ_iff_int _ _ _).mp (h a h1 h2) b h3 h4
  · intro h a h1 h2
    exact (allZ_iff_int _ _ _).mpr (fun b h3 h4 => h a b h1 h2 h3 h4)

theorem dilated_eq (o rows cols : Nat) (m : Mask) (r c : Int)
    (hin : (o : Int) ≤ r ∧ r + o < rows ∧ (o : Int) ≤ c ∧ c + o < cols) :
    dilated (2 * o + 1) rows cols m r c = !winAll o (fun a b => !decide (m.code a b = m.nodata)) r c := by
  have ho : half (2 * o + 1) = o := by unfold half; omega
  unfold dilated winAll
  simp only [ho, anyZ_eq_not_allZ, Bool.not_not]
  congr 1
  -- every cell of the window lies in the image
  rw [Bool.eq_iff_iff, allZ_iff_int, allZ_iff_int]
  refine forall_congr' fun a => forall_congr' fun h1 => forall_congr' fun h2 => ?_
  rw [allZ_iff_int, allZ_iff_int]
  refine forall_congr' fun b => forall_congr' fun h3 => forall_congr' fun h4 => ?_
  rw [decide_eq_true (by push_cast at h2 h4; omega), Bool.true_and]

/-- the mask value the statement prescribes for a centre whose window lies in the image -/
def maskOk (o : Nat) (m : Mask) (r c : Int) : Bool :=
  winAll o (fun a b => ! isNodata m a b) r c && ! isInvalid m r c

theorem winAll_noNodata_of_absent (o : Nat) (m : Mask) (hp : m.present = false) (r c : Int) :
    winAll o (fun a b => ! isNodata m a b) r c = true := by
  rw [winAll_iff]
  intro a b _ _ _ _
  simp [isNodata, hp]

theorem maskRaster_eq (o rows cols : Nat) (m : Mask) (r c : Int)
    (hin : (o : Int) ≤ r ∧ r + o < rows ∧ (o : Int) ≤ c ∧ c + o < cols) :
    maskRaster (2 * o + 1) rows cols m r c = if maskOk o m r c = true then Val.num 0 else Val.nan := by
  unfold maskRaster maskOk
  cases hp : m.present
  · simp [winAll_noNodata_of_absent o m hp r c, isInvalid, hp]
  · rw [dilated_eq o rows cols m r c hin]
    simp only [isNodata, isInvalid, hp, Bool.true_and, if_true]
    cases winAll o (fun a b => !decide (m.code a b = m.nodata)) r c <;>
      by_cases h1 : m.code r c = m.valid <;> by_cases h2 : m.code r c = m.nodata <;> simp [h1, h2]

/-- no nodata in the right window(s) and the right centre(s) not invalid; for a fractional disparity both
    interpolation neighbours `c + ⌊d⌋` and `c + ⌊d⌋ + 1` count -/
def maskOkR (x : Input) (r c k : Int) : Bool :=
  maskOk (half x.w) x.mR r (c + k / (x.sp : Int)) &&
    (decide (fracBit k x.sp = 0) || maskOk (half x.w) x.mR r (c + k / (x.sp : Int) + 1))

theorem ite_eq_iff_of_ne {α : Type} {p : Prop} [Decidable p] {a b c : α} (h : a ≠ c) :
    (if p then a else b) = c ↔ ¬ p ∧ b = c := by
  by_cases hp : p
  · rw [if_pos hp]; exact ⟨fun h' => absurd h' h, fun h' => absurd hp h'.1⟩
  · rw [if_neg hp]; exact ⟨fun h' => ⟨hp, h'⟩, fun h' => h'.2⟩

/-- the four mask guards of `cause` against `maskOk` / `maskOkR`, as an identity of Booleans: `A`, `C`, `E` stand for
    "no nodata in the window" (left, right, right neighbour), `B`, `F`, `G` for "centre invalid", `z` for "integer
    disparity" -/
theorem mask_guards (A B C E F G z : Bool) :
    ((A && !B) = true ∧ (C && !F && (z || E && !G)) = true) ↔
      (¬ (!A) = true ∧ ¬ B = true ∧ ¬ (!(C && (z || E))) = true ∧ ¬ (F || !z && G) = true) := by
  -- `A`, `B`, `C`, `F` only meet double negation and De Morgan; what is compared is how `z` switches the neighbour's tests
  cases z
  · -- fractional disparity: both sides ask for `E` and `¬ G` as well
    simp
    tauto
  · -- integer disparity: `E` and `G` drop out on both sides
    simp [and_assoc]

theorem cause_computable_iff (x : Input) (r c k : Int) :
    cause x r c k = .computable ↔
      (¬ (k < x.dminG r c * (x.sp : Int) ∨ k > x.dmaxG r c * (x.sp : Int))) ∧ LeftInside x r c ∧ RightInside x c k ∧
        maskOk (half x.w) x.mL r c = true ∧ maskOkR x r c k = true := by
  have hfb : (if k % (x.sp : Int) = 0 then (0 : Int) else 1) = fracBit k x.sp := rfl
  unfold cause LeftInside RightInside maskOkR maskOk
  -- `cause` is a chain of `if`s ending in `computable`: it is `computable` iff every guard fails
  simp only [hfb, ite_eq_iff_of_ne, ne_eq, reduceCtorEq, not_false_eq_true, and_true, not_not]
  refine and_congr Iff.rfl (and_congr Iff.rfl (and_congr Iff.rfl ?_))
  have hz : decide (fracBit k x.sp = 1) = !decide (fracBit k x.sp = 0) := by
    have := fracBit_nonneg k x.sp
    have := fracBit_le_one k x.sp
    rcases (by omega : fracBit k x.sp = 0 ∨ fracBit k x.sp = 1) with h | h <;> rw [h] <;> rfl
  rw [hz]
  exact (mask_guards _ _ _ _ _ _ _).symm

/-- the computed planes are the textbook value inside both images, NaN elsewhere (proved per measure) -/
def RawOK (x : Input) (val : Int → Int → Int → Cell) : Prop :=
  ∀ k r c : Int, rawPlane x k r c = if LeftInside x r c ∧ RightInside x c k then val r c k else .nan

/-- the cell prescribed by the statement, for a given value function (`valueSpec x` is the textbook one) -/
def specCellWith (val : Int → Int → Int → Cell) (x : Input) (r c k : Int) : Cell :=
  if cause x r c k = .computable then val r c k else .nan

theorem specCell_eq_with (x : Input) (r c k : Int) : specCell x r c k = specCellWith (valueSpec x) x r c k := rfl

theorem specCellWith_of_computable {val : Int → Int → Int → Cell} {x : Input} {r c k : Int}
    (h : cause x r c k = .computable) : specCellWith val x r c k = val r c k := if_pos h

theorem specCellWith_of_not {val : Int → Int → Int → Cell} {x : Input} {r c k : Int}
    (h : cause x r c k ≠ .computable) : specCellWith val x r c k = .nan := if_neg h

theorem specCellWith_congr {val : Int → Int → Int → Cell} {x y : Input} {r c k : Int}
    (h : cause x r c k = cause y r c k) : specCellWith val x r c k = specCellWith val y r c k := by
  unfold specCellWith
  rw [h]

theorem addMask_nan (m : Val) : Cell.nan.addMask m = Cell.nan := by cases m <;> rfl

theorem val_zero_add_zero : (Val.num 0 + Val.num 0) = Val.num 0 := by
  show Val.num (0 + 0) = Val.num 0
  norm_num

theorem maskShift_eq (x : Input) (h : Shape x) (r c k : Int) (hl : LeftInside x r c) (hr : RightInside x c k) :
    maskShift x.w x.R.rows x.R.cols x.mR (min 1 (iRight k x.sp)) r (c + k / (x.sp : Int))
      = if maskOkR x r c k = true then Val.num 0 else Val.nan := by
  have hf0 := fracBit_nonneg k x.sp
  obtain ⟨hl1, hl2, -, -⟩ := hl
  obtain ⟨hr1, hr2⟩ := hr
  unfold maskShift maskOkR
  have hm0 := maskRaster_eq (half x.w) x.R.rows x.R.cols x.mR r (c + k / (x.sp : Int)) (by rw [h.rows_eq]; omega)
  rw [← window_eq x h] at hm0
  rw [hm0]
  by_cases h0 : k % (x.sp : Int) = 0
  · have hi : iRight k x.sp = 0 := (iRight_eq_zero_iff k x.sp h.sp_pos).mpr h0
    have hfr : fracBit k x.sp = 0 := if_pos h0
    simp [hi, hfr]
  · have hi : iRight k x.sp ≠ 0 := fun hh => h0 ((iRight_eq_zero_iff k x.sp h.sp_pos).mp hh)
    have hfr : fracBit k x.sp = 1 := if_neg h0
    have hm1 := maskRaster_eq (half x.w) x.R.rows x.R.cols x.mR r (c + k / (x.sp : Int) + 1)
      (by rw [h.rows_eq]; omega)
    rw [← window_eq x h] at hm1
    rw [if_neg (by omega : min 1 (iRight k x.sp) ≠ 0), hm1, hfr]
    cases maskOk (half x.w) x.mR r (c + k / (x.sp : Int)) <;>
      cases maskOk (half x.w) x.mR r (c + k / (x.sp : Int) + 1) <;> simp

theorem cvMaskedStep_nan (x : Input) (gmin : Int) (cv : Volume) (k r c : Int) (j : Nat) (h : cv r c j = .nan) :
    cvMaskedStep x gmin cv k r c j = .nan := by
  unfold cvMaskedStep
  simp only [h, addMask_nan, ite_self]

/-- one iteration of `cv_masked`, for its own disparity, on planes that are `RawOK`: the value where both windows are
    inside and both masks allow it, NaN elsewhere -/
theorem cvMaskedStep_eq (x : Input) (h : Shape x) (val : Int → Int → Int → Cell) (hraw : RawOK x val)
    (gmin : Int) (raw : Volume) (k r c : Int) (j : Nat)
    (hj : j = (k - gmin * (x.sp : Int)).toNat) (hrawj : raw r c j = rawPlane x k r c) :
    cvMaskedStep x gmin raw k r c j =
      if LeftInside x r c ∧ RightInside x c k ∧ maskOk (half x.w) x.mL r c = true ∧ maskOkR x r c k = true
      then val r c k else .nan := by
  have hs := h.sp_pos
  have hf0 := fracBit_nonneg k x.sp
  rw [hraw k r c] at hrawj
  by_cases hin : LeftInside x r c ∧ RightInside x c k
  · obtain ⟨hl, hr⟩ := hin
    have hmL := maskRaster_eq (half x.w) x.L.rows x.L.cols x.mL r c hl
    have hmR := maskShift_eq x h r c k hl hr
    have ⟨hl1, hl2, hl3, hl4⟩ := hl
    have ⟨hr1, hr2⟩ := hr
    rw [h.cols_eq] at hr2
    rw [← window_eq x h] at hmL
    -- the column lies in the (non-empty) `p` range, its partner `c + ⌊k/sp⌋` in the (non-empty) `q` range
    have hcolsR := shiftRight_cols x.R k x.sp hs (h.cols_eq ▸ h.cols_pos)
    rw [h.cols_eq] at hcolsR
    have hp := (mem_p_iff (x.L.cols : Int) ((shiftRight x.R x.sp (iRight k x.sp)).cols : Int) k x.sp hs c).mpr (by omega)
    have hqne : (pointInterval (x.L.cols : Int) ((shiftRight x.R x.sp (iRight k x.sp)).cols : Int) k x.sp).q0 <
        (pointInterval (x.L.cols : Int) ((shiftRight x.R x.sp (iRight k x.sp)).cols : Int) k x.sp).q1 := by
      rw [pointInterval_closed _ _ k x.sp hs, hcolsR]; simp only; omega
    unfold cvMaskedStep
    simp only
    rw [if_pos ⟨hj, by omega, hp.1, hp.2⟩, if_pos hqne, q_of_p _ _ k x.sp hs c, hrawj, hmL, hmR, if_pos ⟨hl, hr⟩]
    cases maskOk (half x.w) x.mL r c <;> cases maskOkR x r c k <;> simp [hl, hr, Cell.addMask]
  · rw [if_neg hin] at hrawj
    rw [cvMaskedStep_nan x gmin raw k r c j hrawj, if_neg (fun hc => hin ⟨hc.1, hc.2.1⟩)]

end Pandora.MC
