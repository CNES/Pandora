/-
  What "inside both images" means for a left pixel and a disparity (`LeftInside`, `RightInside`), and the sad / ssd
  plane of `compute_cost_volume`: the textbook value where both windows are inside, NaN elsewhere.
-/
import PandoraModel.Lemmas.MCIndex

namespace Pandora.MC

/-- the window centred on the left pixel lies inside the left image -/
def LeftInside (x : Input) (r c : Int) : Prop :=
  ((half x.w : Nat) : Int) ≤ r ∧ r + (half x.w : Nat) < x.L.rows ∧ ((half x.w : Nat) : Int) ≤ c ∧ c + (half x.w : Nat) < x.L.cols

/-- the window centred at `c + k/sp` (and, for a fractional disparity, its right-hand interpolation
    neighbour) lies inside the right image -/
def RightInside (x : Input) (c k : Int) : Prop :=
  ((half x.w : Nat) : Int) ≤ c + k / (x.sp : Int) ∧ c + k / (x.sp : Int) + (half x.w : Nat) + fracBit k x.sp < x.R.cols

instance (x : Input) (r c : Int) : Decidable (LeftInside x r c) := by unfold LeftInside; infer_instance
instance (x : Input) (c k : Int) : Decidable (RightInside x c k) := by unfold RightInside; infer_instance

structure Shape (x : Input) : Prop where
  odd : x.w % 2 = 1
  sp_pos : 0 < x.sp
  rows_eq : x.R.rows = x.L.rows
  cols_eq : x.R.cols = x.L.cols
  cols_pos : 0 < x.L.cols

theorem window_eq (x : Input) (h : Shape x) : x.w = 2 * half x.w + 1 := by
  have := h.odd; unfold half; omega

/-- the test of the cropped planes (census, zncc) — truncated row and column inside `cv_crop`, column in a range
    `[p0, p1)` that `point_interval` gave on the truncated width — is "both windows inside" -/
theorem cropGuard_iff (x : Input) (h : Shape x) (k r c p0 p1 o : Int) (ho : o = (half x.w : Nat))
    (hp : (p0 ≤ c - o ∧ c - o < p1) ↔
      (0 ≤ c - o ∧ c - o < (x.L.cols : Int) - 2 * o ∧ 0 ≤ c - o + k / (x.sp : Int) ∧
        c - o + k / (x.sp : Int) + fracBit k x.sp < (x.L.cols : Int) - 2 * o)) :
    (0 ≤ r - o ∧ r - o < (x.L.rows : Int) - 2 * o ∧ 0 ≤ c - o ∧ c - o < (x.L.cols : Int) - 2 * o ∧ p0 ≤ c - o ∧ c - o < p1)
      ↔ (LeftInside x r c ∧ RightInside x c k) := by
  have hf0 := fracBit_nonneg k x.sp
  unfold LeftInside RightInside
  rw [hp, h.cols_eq]
  omega

theorem winSum_shift (o : Nat) (g : Int → Int → Rat) (r c : Int) :
    sumZ (0 : Rat) (fun a => sumZ (0 : Rat) (fun b => g (a - o) (b - o)) c (2 * o + 1)) r (2 * o + 1)
      = winSum o g r c := by
  unfold winSum
  apply sumZ_transport; intro i _
  apply sumZ_transport; intro j _
  exact congrArg₂ g (by omega) (by omega)

theorem valueSpec_sad_ssd (x : Input) (hm : x.meas = .sad ∨ x.meas = .ssd) (r c k : Int) :
    valueSpec x r c k
      = .num (winSum (half x.w) (fun a b => pixelCost x.meas (x.L.px a b) (interpR x.R x.sp k a b)) r c) := by
  unfold valueSpec
  rcases hm with hm | hm <;> rw [hm] <;> rfl

theorem pixelWise_eq (m : Measure) (L R : Img) (k : Int) (sp : Nat) (hs : 0 < sp) (r c : Int) :
    pixelWise m L (shiftRight R sp (iRight k sp)) k sp r c =
      if 0 ≤ c ∧ c < L.cols ∧ 0 ≤ c + k / (sp : Int) ∧ c + k / (sp : Int) + fracBit k sp < L.cols
      then .num (pixelCost m (L.px r c) (interpR R sp k r c)) else .nan := by
  unfold pixelWise
  split
  · rename_i hp
    rw [if_pos ((mem_p_iff _ _ k sp hs c).mp hp), q_of_p _ _ k sp hs c, shiftRight_px R k sp hs]
  · rename_i hp
    rw [if_neg (fun h => hp ((mem_p_iff _ _ k sp hs c).mpr h))]

theorem rawSadSsd_eq (x : Input) (h : Shape x) (hm : x.meas = .sad ∨ x.meas = .ssd) (k r c : Int) :
    rawSadSsd x k r c = if LeftInside x r c ∧ RightInside x c k then valueSpec x r c k else .nan := by
  have hw := window_eq x h
  have hf0 := fracBit_nonneg k x.sp
  unfold rawSadSsd reNanBorder slidingSum enlarge
  -- a cell of the enlarged volume is a number where it lies in the image and both columns exist; the block sum is a
  -- number iff that holds at every cell of the block, that is at its two opposite corners
  simp only [pixelWise_eq _ _ _ _ _ h.sp_pos, ← ite_and, sumZ_val_ite]
  by_cases hin : LeftInside x r c ∧ RightInside x c k
  · rw [if_pos hin, valueSpec_sad_ssd x hm, ← winSum_shift, ← hw]
    obtain ⟨⟨hl1, hl2, hl3, hl4⟩, hr1, hr2⟩ := hin
    rw [h.cols_eq] at hr2
    rw [if_neg (by omega), if_pos fun i hi j hj => by omega]
    rfl
  · rw [if_neg hin]
    split
    · rfl
    · unfold LeftInside RightInside at hin
      rw [h.cols_eq] at hin
      rw [if_neg fun hall => hin (by
        have h0 := hall 0 (by omega) 0 (by omega)
        have h1 := hall (2 * half x.w) (by omega) (2 * half x.w) (by omega)
        push_cast at h0 h1
        omega)]
      rfl

end Pandora.MC
