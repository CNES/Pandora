/-
  census: the plane computed by `Census.compute_cost_volume` is, where both windows lie inside their images,
  the popcount of the xor of the two census bit strings — the left one on the window centred on the left pixel,
  the right one on the window centred at `column + d` of the linearly interpolated right image — NaN elsewhere.
-/
import PandoraModel.Lemmas.MCRaw

namespace Pandora.MC

/-- the interpolated right image `(a, b) ↦ R(a, b + k/sp)` as an image -/
def interpImg (x : Input) (k : Int) : Img :=
  { rows := x.R.rows, cols := x.R.cols, px := fun a b => interpR x.R x.sp k a b }

/-- census value as the code forms it (bit strings, xor, `popcount32b`), with both windows centred on `(r, c)`
    — the right one in the interpolated right image -/
def valueCensusBits (x : Input) (r c k : Int) : Cell :=
  .num ((popcount32b (censusBits x.w x.L (r - (half x.w : Nat)) (c - (half x.w : Nat)) ^^^
                      censusBits x.w (interpImg x k) (r - (half x.w : Nat)) (c - (half x.w : Nat))) : Nat) : Rat)

theorem censusBits_congr (w : Nat) (A B : Img) (r c r' c' : Int)
    (h : ∀ a b : Int, A.px (r + a) (c + b) = B.px (r' + a) (c' + b)) :
    censusBits w A r c = censusBits w B r' c' := by
  unfold censusBits
  simp only [h]

theorem rawCensus_eq (x : Input) (h : Shape x) (k r c : Int) :
    rawCensus x k r c = if LeftInside x r c ∧ RightInside x c k then valueCensusBits x r c k else .nan := by
  have hs := h.sp_pos
  have hw1 : ((x.w - 1 : Nat) : Int) = 2 * ((half x.w : Nat) : Int) := by have := window_eq x h; omega
  unfold rawCensus
  simp only
  rw [hw1]
  generalize hRk : shiftRight x.R x.sp (iRight k x.sp) = Rk
  -- the guard of the assignment `cv_crop[disp_index, p0:p1, :] = census_cost(...)` on the truncated census images
  have hguard := cropGuard_iff x h k r c _ _ _ rfl
    (mem_p_iff ((x.L.cols : Int) - 2 * ((half x.w : Nat) : Int)) ((Rk.cols : Int) - 2 * ((half x.w : Nat) : Int)) k x.sp hs
      (c - ((half x.w : Nat) : Int)))
  by_cases hin : LeftInside x r c ∧ RightInside x c k
  · have hg := hguard.mpr hin
    rw [if_pos hg, if_pos hin, q_of_p _ _ k x.sp hs]
    unfold valueCensusBits
    congr 4
    apply censusBits_congr
    intro a b
    show Rk.px _ (c - ((half x.w : Nat) : Int) + k / (x.sp : Int) + b) = interpR x.R x.sp k _ (c - ((half x.w : Nat) : Int) + b)
    rw [← shiftRight_px x.R k x.sp hs, hRk, Int.add_right_comm]
  · rw [if_neg (fun hc => hin (hguard.mp hc)), if_neg hin]

end Pandora.MC
