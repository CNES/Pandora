/-
  What the Boolean quantifiers of `Model/Dataset.lean` over bands and over pixels (`allB`, `anyB`, `allRC`, `anyRC`) say,
  for the specifications written with them (C16, C19).  Core Lean only.
-/
import PandoraModel.Model.Dataset

namespace Pandora.Dataset

theorem allB_iff (n : Nat) (f : Nat → Bool) : allB n f = true ↔ ∀ i, i < n → f i = true := by
  simp [allB, List.all_eq_true, List.mem_range]

theorem anyB_iff (n : Nat) (f : Nat → Bool) : anyB n f = true ↔ ∃ i, i < n ∧ f i = true := by
  simp [anyB, List.any_eq_true, List.mem_range]

theorem allRC_iff (rows cols : Nat) (f : Nat → Nat → Bool) :
    allRC rows cols f = true ↔ ∀ r, r < rows → ∀ c, c < cols → f r c = true := by
  simp [allRC, List.all_eq_true, List.mem_range]

theorem allRC_beq {rows cols : Nat} {f g : Nat → Nat → Bool}
    (h : ∀ r, r < rows → ∀ c, c < cols → (f r c = true ↔ g r c = true)) :
    allRC rows cols (fun r c => f r c == g r c) = true :=
  (allRC_iff _ _ _).2 fun r hr c hc => beq_iff_eq.2 (Bool.eq_iff_iff.2 (h r hr c hc))

theorem anyRC_iff (rows cols : Nat) (f : Nat → Nat → Bool) :
    anyRC rows cols f = true ↔ ∃ r, r < rows ∧ ∃ c, c < cols ∧ f r c = true := by
  simp [anyRC, List.any_eq_true, List.mem_range]

theorem anyRC_false_iff (rows cols : Nat) (f : Nat → Nat → Bool) :
    anyRC rows cols f = false ↔ ∀ r, r < rows → ∀ c, c < cols → f r c = false := by
  simp only [← Bool.not_eq_true, anyRC_iff, not_exists, not_and]

end Pandora.Dataset
