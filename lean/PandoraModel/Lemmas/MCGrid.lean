/-
  `get_min_max_from_grid`, `np.amin` / `np.amax`: a fold of a selecting operation (`min`, `max`) over the cells of a
  raster is related to every cell, and is the constant on a constant raster.
-/
import PandoraModel.Lemmas.MCIndex

namespace Pandora.MC

/-- `R = (· ≤ ·)` for a minimum, `(· ≥ ·)` for a maximum -/
theorem foldl_rel {α : Type} (R : α → α → Prop) (hrefl : ∀ a, R a a) (htrans : ∀ a b c, R a b → R b c → R a c)
    (op : α → α → α) (hl : ∀ a b, R (op a b) a) (hr : ∀ a b, R (op a b) b) (xs : List α) (x : α) :
    R (xs.foldl op x) x ∧ ∀ y ∈ xs, R (xs.foldl op x) y := by
  induction xs generalizing x with
  | nil => exact ⟨hrefl x, fun y hy => absurd hy List.not_mem_nil⟩
  | cons a as ih =>
    obtain ⟨h1, h2⟩ := ih (op x a)
    refine ⟨htrans _ _ _ h1 (hl x a), fun y hy => ?_⟩
    rcases List.mem_cons.mp hy with rfl | hy
    · exact htrans _ _ _ h1 (hr x y)
    · exact h2 y hy

/-- the cells of a `rows × cols` raster in row-major order (the list `gridFold` and `imgFold` fold over) -/
def cellsOf {α : Type} (g : Int → Int → α) (rows cols : Nat) : List α :=
  (List.range rows).flatMap (fun (r : Nat) => (List.range cols).map (fun (c : Nat) => g r c))

theorem mem_cellsOf {α : Type} (g : Int → Int → α) (rows cols : Nat) (r c : Int)
    (hr : 0 ≤ r ∧ r < rows) (hc : 0 ≤ c ∧ c < cols) : g r c ∈ cellsOf g rows cols := by
  unfold cellsOf
  rw [List.mem_flatMap]
  refine ⟨r.toNat, List.mem_range.mpr (by omega), ?_⟩
  rw [List.mem_map]
  refine ⟨c.toNat, List.mem_range.mpr (by omega), ?_⟩
  rw [Int.toNat_of_nonneg hr.1, Int.toNat_of_nonneg hc.1]

/-- the reduction of `gridFold` / `imgFold` -/
def foldHead {α : Type} (op : α → α → α) (z : α) : List α → α
  | [] => z
  | x :: xs => xs.foldl op x

theorem gridFold_eq (op : Int → Int → Int) (g : Int → Int → Int) (rows cols : Nat) :
    gridFold op g rows cols = foldHead op 0 (cellsOf g rows cols) := by
  unfold gridFold cellsOf
  generalize (List.range rows).flatMap (fun (r : Nat) => (List.range cols).map (fun (c : Nat) => g r c)) = cells
  cases cells <;> rfl

theorem cellsFold_rel {α : Type} (R : α → α → Prop) (hrefl : ∀ a, R a a) (htrans : ∀ a b c, R a b → R b c → R a c)
    (op : α → α → α) (hl : ∀ a b, R (op a b) a) (hr : ∀ a b, R (op a b) b) (z : α) (g : Int → Int → α)
    (rows cols : Nat) (r c : Int) (hr' : 0 ≤ r ∧ r < rows) (hc : 0 ≤ c ∧ c < cols) :
    R (foldHead op z (cellsOf g rows cols)) (g r c) := by
  have hm := mem_cellsOf g rows cols r c hr' hc
  cases hcells : cellsOf g rows cols with
  | nil => rw [hcells] at hm; exact absurd hm List.not_mem_nil
  | cons x xs =>
    rw [hcells] at hm
    rcases List.mem_cons.mp hm with h | h
    · rw [h]; exact (foldl_rel R hrefl htrans op hl hr xs x).1
    · exact (foldl_rel R hrefl htrans op hl hr xs x).2 _ h

theorem gridMin_le (g : Int → Int → Int) (rows cols : Nat) (r c : Int)
    (hr : 0 ≤ r ∧ r < rows) (hc : 0 ≤ c ∧ c < cols) : gridMin g rows cols ≤ g r c := by
  rw [gridMin, gridFold_eq]
  exact cellsFold_rel (· ≤ ·) Int.le_refl (fun _ _ _ => Int.le_trans) min Int.min_le_left Int.min_le_right 0 g rows cols r c hr hc

theorem le_gridMax (g : Int → Int → Int) (rows cols : Nat) (r c : Int)
    (hr : 0 ≤ r ∧ r < rows) (hc : 0 ≤ c ∧ c < cols) : g r c ≤ gridMax g rows cols := by
  rw [gridMax, gridFold_eq]
  exact cellsFold_rel (· ≥ ·) Int.le_refl (fun _ _ _ h1 h2 => Int.le_trans h2 h1) max Int.le_max_left Int.le_max_right
      0 g rows cols r c hr hc

theorem foldl_const (op : Int → Int → Int) (hop : ∀ a, op a a = a) (a : Int) (xs : List Int)
    (h : ∀ y ∈ xs, y = a) : xs.foldl op a = a := by
  induction xs with
  | nil => rfl
  | cons y ys ih =>
    rw [List.foldl_cons, h y (List.mem_cons_self ..), hop]
    exact ih (fun z hz => h z (List.mem_cons_of_mem _ hz))

theorem gridFold_const (op : Int → Int → Int) (hop : ∀ a, op a a = a) (a : Int) (rows cols : Nat)
    (hr : 0 < rows) (hc : 0 < cols) : gridFold op (fun _ _ => a) rows cols = a := by
  have hall : ∀ y ∈ cellsOf (fun _ _ => a) rows cols, y = a := by
    intro y hy
    obtain ⟨_, _, hy⟩ := List.mem_flatMap.mp hy
    obtain ⟨_, _, hy⟩ := List.mem_map.mp hy
    exact hy.symm
  have hm := mem_cellsOf (fun _ _ => a) rows cols 0 0 ⟨le_refl _, by exact_mod_cast hr⟩ ⟨le_refl _, by exact_mod_cast hc⟩
  rw [gridFold_eq]
  cases hcells : cellsOf (fun _ _ => a) rows cols with
  | nil => rw [hcells] at hm; exact absurd hm List.not_mem_nil
  | cons x xs =>
    rw [hcells] at hall
    show xs.foldl op x = a
    rw [hall x (List.mem_cons_self ..)]
    exact foldl_const op hop a xs (fun y hy => hall y (List.mem_cons_of_mem _ hy))

theorem gridMin_const (a : Int) (rows cols : Nat) (hr : 0 < rows) (hc : 0 < cols) :
    gridMin (fun _ _ => a) rows cols = a := gridFold_const min (fun a => min_self a) a rows cols hr hc

theorem gridMax_const (a : Int) (rows cols : Nat) (hr : 0 < rows) (hc : 0 < cols) :
    gridMax (fun _ _ => a) rows cols = a := gridFold_const max (fun a => max_self a) a rows cols hr hc

theorem gridMin_le_gridMax (dmin dmax : Int → Int → Int) (rows cols : Nat) (hr : 0 < rows) (hc : 0 < cols)
    (h00 : dmin 0 0 ≤ dmax 0 0) : gridMin dmin rows cols ≤ gridMax dmax rows cols := by
  have hr' : (0 : Int) ≤ 0 ∧ (0 : Int) < rows := ⟨le_refl _, by exact_mod_cast hr⟩
  have hc' : (0 : Int) ≤ 0 ∧ (0 : Int) < cols := ⟨le_refl _, by exact_mod_cast hc⟩
  exact le_trans (gridMin_le dmin rows cols 0 0 hr' hc') (le_trans h00 (le_gridMax dmax rows cols 0 0 hr' hc'))

end Pandora.MC
