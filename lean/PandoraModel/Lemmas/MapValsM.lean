/-
  A list of named items mapped item by item, where the map of an item sees its name and may fail: the shape of
  `Save.checkPipeline` (`g` ignores the name) and of the pipeline check of `Properties/C05Machine.lean`
  (`g` = what checking the step of that name yields).  Core Lean only.
-/
namespace Pandora

def mapValsM {α β} (g : String → α → Option β) (P : List (String × α)) : Option (List (String × β)) :=
  P.mapM fun kv => (g kv.1 kv.2).map fun w => (kv.1, w)

variable {α β : Type _} {g : String → α → Option β}

theorem mapValsM_nil : mapValsM g [] = some [] := rfl

theorem mapValsM_cons_eq (k : String) (v : α) (P : List (String × α)) :
    mapValsM g ((k, v) :: P) = (g k v).bind fun w => (mapValsM g P).map ((k, w) :: ·) := by
  simp only [mapValsM, List.mapM_cons]
  cases g k v with
  | none => rfl
  | some w => cases List.mapM (fun kv : String × α => (g kv.1 kv.2).map fun w => (kv.1, w)) P <;> rfl

theorem mapValsM_cons {k : String} {v : α} {P : List (String × α)} {M : List (String × β)} :
    mapValsM g ((k, v) :: P) = some M ↔ ∃ w M', g k v = some w ∧ mapValsM g P = some M' ∧ M = (k, w) :: M' := by
  rw [mapValsM_cons_eq]
  cases g k v with
  | none => simp
  | some w => cases mapValsM g P <;> simp [eq_comm]

theorem mapValsM_keys : ∀ {P : List (String × α)} {M : List (String × β)}, mapValsM g P = some M →
    M.map (·.1) = P.map (·.1)
  | [], _, h => by cases h; rfl
  | (k, v) :: P, _, h => by
    obtain ⟨w, M', _, hM, rfl⟩ := mapValsM_cons.1 h
    rw [List.map_cons, List.map_cons, mapValsM_keys hM]

theorem mapValsM_isSome : ∀ {P : List (String × α)},
    (∃ M, mapValsM g P = some M) ↔ ∀ kv ∈ P, ∃ w, g kv.1 kv.2 = some w
  | [] => by simp [mapValsM_nil]
  | (k, v) :: P => by
    constructor
    · rintro ⟨_, h⟩ kv hkv
      obtain ⟨w, M', hw, hM, rfl⟩ := mapValsM_cons.1 h
      rcases List.mem_cons.1 hkv with rfl | hkv
      · exact ⟨w, hw⟩
      · exact mapValsM_isSome.1 ⟨M', hM⟩ kv hkv
    · intro h
      obtain ⟨w, hw⟩ := h (k, v) (by simp)
      obtain ⟨M', hM⟩ := mapValsM_isSome.2 fun kv hkv => h kv (List.mem_cons_of_mem _ hkv)
      exact ⟨_, mapValsM_cons.2 ⟨w, M', hw, hM, rfl⟩⟩

theorem mapValsM_self {g : String → α → Option α} : ∀ {M : List (String × α)},
    (∀ kv ∈ M, g kv.1 kv.2 = some kv.2) → mapValsM g M = some M
  | [], _ => rfl
  | (k, w) :: M, h =>
    mapValsM_cons.2 ⟨w, M, h (k, w) (by simp), mapValsM_self fun kv hkv => h kv (List.mem_cons_of_mem _ hkv), rfl⟩

theorem mapValsM_fixpoint {g : String → α → Option α} (hidem : ∀ n v w, g n v = some w → g n w = some w) :
    ∀ {P M : List (String × α)}, mapValsM g P = some M → mapValsM g M = some M
  | [], _, h => by cases h; rfl
  | (k, v) :: P, _, h => by
    obtain ⟨w, M', hw, hM, rfl⟩ := mapValsM_cons.1 h
    exact mapValsM_cons.2 ⟨w, M', hidem k v w hw, mapValsM_fixpoint hidem hM, rfl⟩

theorem mapValsM_map {γ} (h : String → β → γ) : ∀ (P : List (String × α)),
    mapValsM (fun n v => (g n v).map (h n)) P = (mapValsM g P).map (List.map fun s => (s.1, h s.1 s.2))
  | [] => rfl
  | (k, v) :: P => by
    rw [mapValsM_cons_eq, mapValsM_cons_eq, mapValsM_map h P]
    cases g k v with
    | none => rfl
    | some w => cases mapValsM g P <;> rfl

theorem mapValsM_congr {g g' : String → α → Option β} : ∀ {P : List (String × α)},
    (∀ kv ∈ P, g kv.1 kv.2 = g' kv.1 kv.2) → mapValsM g P = mapValsM g' P
  | [], _ => rfl
  | (k, v) :: P, h => by
    rw [mapValsM_cons_eq, mapValsM_cons_eq, h (k, v) (by simp),
      mapValsM_congr fun kv hkv => h kv (List.mem_cons_of_mem _ hkv)]

theorem mapValsM_mapVals {γ} (f : String → γ → α) : ∀ (P : List (String × γ)),
    mapValsM g (P.map fun kv => (kv.1, f kv.1 kv.2)) = mapValsM (fun n v => g n (f n v)) P
  | [] => rfl
  | (k, v) :: P => by
    rw [List.map_cons, mapValsM_cons_eq, mapValsM_cons_eq, mapValsM_mapVals f P]

end Pandora
