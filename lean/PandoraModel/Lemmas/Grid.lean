/-
  List facts several properties share, core Lean only: lists given by an index function over `List.range`, grids given by an
  index function (`Blocks.tabulate`), two grids laid out flat zipped row by row, counting through a map.
-/
import PandoraModel.Model.Blocks

namespace Pandora

theorem zipWith_flatMap_flatMap {ι α β γ} (f : α → β → γ) (xs : List ι) (g : ι → List α) (h : ι → List β)
    (hl : ∀ x ∈ xs, (g x).length = (h x).length) :
    List.zipWith f (xs.flatMap g) (xs.flatMap h) = xs.flatMap (fun x => List.zipWith f (g x) (h x)) := by
  induction xs with
  | nil => simp
  | cons x xs ih =>
    simp only [List.flatMap_cons]
    rw [List.zipWith_append (hl x (by simp)), ih (fun y hy => hl y (by simp [hy]))]

theorem getD_range_map {α} (n : Nat) (f : Nat → α) (d : α) (i : Nat) :
    ((List.range n).map f).getD i d = if i < n then f i else d := by
  by_cases h : i < n <;> simp [List.getD_eq_getElem?_getD, h]

theorem map_getD_range {α β} (l : List α) (d : α) (f : α → β) :
    (List.range l.length).map (fun i => f (l.getD i d)) = l.map f := by
  apply List.ext_getElem
  · simp
  · intro i h1 h2
    simp at h1
    simp [List.getD_eq_getElem?_getD, h1]

theorem map_getD_range' {α} (l : List α) (d : α) : (List.range l.length).map (fun i => l.getD i d) = l := by
  simpa using map_getD_range l d id

theorem headD_range_map {α} (n : Nat) (f : Nat → α) (d : α) (h : 0 < n) : ((List.range n).map f).headD d = f 0 := by
  rw [List.headD_eq_head?_getD, List.head?_eq_getElem?, ← List.getD_eq_getElem?_getD, getD_range_map, if_pos h]

theorem count_true_map {α} (l : List α) (p : α → Bool) : (l.map p).count true = l.countP p := by
  rw [List.count_eq_countP, List.countP_map]
  exact List.countP_congr (by simp)

end Pandora

namespace Pandora.Blocks

theorem length_tabulate {β : Type} (n m : Nat) (f : Nat → Nat → β) : (tabulate n m f).length = n := by
  simp [tabulate]

theorem getElem?_tabulate {β : Type} (n m : Nat) (f : Nat → Nat → β) (r : Nat) :
    (tabulate n m f)[r]? = if r < n then some ((List.range m).map (f r)) else none := by
  by_cases h : r < n <;> simp [tabulate, h]

theorem getD_tabulate {β : Type} (n m : Nat) (f : Nat → Nat → β) (d : β) (r c : Nat) :
    ((tabulate n m f).getD r []).getD c d = if r < n ∧ c < m then f r c else d := by
  unfold tabulate
  rw [getD_range_map]
  by_cases hr : r < n
  · rw [if_pos hr, getD_range_map]; simp only [hr, true_and]
  · rw [if_neg hr, if_neg (fun h => hr h.1)]; rfl

theorem tabulate_congr {β : Type} {n m : Nat} {f g : Nat → Nat → β} (h : ∀ r, r < n → ∀ c, c < m → f r c = g r c) :
    tabulate n m f = tabulate n m g :=
  List.map_congr_left fun r hr => List.map_congr_left fun c hc => h r (List.mem_range.1 hr) c (List.mem_range.1 hc)

theorem map_tabulate {α β : Type} (g : α → β) (n m : Nat) (f : Nat → Nat → α) :
    (tabulate n m f).map (fun row => row.map g) = tabulate n m (fun r c => g (f r c)) := by
  simp only [tabulate, List.map_map, Function.comp_def]

theorem zipWith_tabulate {α β γ : Type} (g : α → β → γ) (n m : Nat) (f₁ : Nat → Nat → α) (f₂ : Nat → Nat → β) :
    List.zipWith (fun r₁ r₂ => List.zipWith g r₁ r₂) (tabulate n m f₁) (tabulate n m f₂)
      = tabulate n m (fun r c => g (f₁ r c) (f₂ r c)) := by
  simp only [tabulate, List.zipWith_map, List.zipWith_self]

end Pandora.Blocks
