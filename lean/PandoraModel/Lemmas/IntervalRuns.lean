/-
  The segments of `interval_regularization` (C12's model: `leftBorders`, `rightBorders`, `borders`, paired
  globally by `zip` as `np.argwhere` lists them) are exactly the maximal runs of low-confidence pixels of
  each row: a pixel lies in a segment iff its entry of `confidentFlags` is `false`.

  Needs the last flag of every row to be `true` (the code forces the last column to 1, so this is
  `ambiguity_threshold ≤ 1`, which the schema of `median_for_intervals` enforces): then every row has as many
  left borders as right borders, and the global pairing is the row-by-row pairing.
-/
import PandoraModel.Model.FilterIntervals
import PandoraModel.Lemmas.Grid

namespace Pandora.IntervalRuns
open Pandora.Confidence Pandora.FilterIntervals

theorem _root_.Pandora.FilterIntervals.toGrid_eq_tabulate (ny nx : Nat) (img : Filter.Img) :
    toGrid ny nx img = Blocks.tabulate ny nx img := rfl

def lastD : List Bool → Bool → Bool
  | [], d => d
  | f :: rest, _ => lastD rest f

def cover (ls rs : List Nat) (c : Nat) : Bool := (ls.zip rs).any fun p => decide (p.1 ≤ c) && decide (c ≤ p.2)

theorem cover_eq_true (ls rs : List Nat) (c : Nat) :
    cover ls rs c = true ↔ ∃ p ∈ ls.zip rs, p.1 ≤ c ∧ c ≤ p.2 := by
  simp only [cover, List.any_eq_true, Bool.and_eq_true, decide_eq_true_eq]

def inFalse (j : Nat) (fs : List Bool) (c : Nat) : Prop := ∃ i, c = j + i ∧ fs[i]? = some false

/-- 1 when the flag is `false` (a run of low-confidence pixels is open there), 0 otherwise -/
def openRun : Bool → Nat
  | true => 0
  | false => 1

/-- as many left borders as right borders, up to the run open at the start and the run open at the end -/
theorem borders_length : ∀ (fs : List Bool) (prev : Bool) (j : Nat),
    (leftBorders prev j fs).length + openRun prev = (rightBorders prev j fs).length + openRun (lastD fs prev) := by
  intro fs
  induction fs with
  | nil => intro prev j; simp [leftBorders, rightBorders, lastD]
  | cons f rest ih =>
    intro prev j
    have := ih f (j + 1)
    -- by evaluation; only `false, true` closes a run: one more right border, and the open run is gone
    cases prev <;> cases f
    · exact this
    · exact (congrArg (· + 1) this).trans (Nat.add_right_comm _ _ 1)
    · exact this
    · exact this

theorem inFalse_cons (j : Nat) (f : Bool) (rest : List Bool) (c : Nat) :
    inFalse j (f :: rest) c ↔ (c = j ∧ f = false) ∨ inFalse (j + 1) rest c := by
  constructor
  · rintro ⟨i, rfl, h⟩
    cases i with
    | zero => exact Or.inl ⟨rfl, Option.some.inj h⟩
    | succ i => exact Or.inr ⟨i, (Nat.add_right_comm j 1 i).symm, h⟩
  · rintro (⟨rfl, rfl⟩ | ⟨i, rfl, h⟩)
    · exact ⟨0, rfl, rfl⟩
    · exact ⟨i + 1, Nat.add_right_comm j 1 i, h⟩

theorem inFalse_cons_true (j : Nat) (rest : List Bool) (c : Nat) :
    inFalse j (true :: rest) c ↔ inFalse (j + 1) rest c :=
  (inFalse_cons j true rest c).trans (by simp only [Bool.true_eq_false, and_false, false_or])

theorem inFalse_cons_false (j : Nat) (rest : List Bool) (c : Nat) :
    inFalse j (false :: rest) c ↔ c = j ∨ inFalse (j + 1) rest c :=
  (inFalse_cons j false rest c).trans (by simp only [and_true])

/-- the induction behind `cover_runs`, over the state of the scan: `prev` is the flag left of column `j`; after a
    `true` no run is open, after a `false` a run is open since some column `j0` and is covered too -/
theorem cover_runs_scan : ∀ (fs : List Bool) (prev : Bool) (j j0 c : Nat), lastD fs prev = true →
    (prev = true → (cover (leftBorders true j fs) (rightBorders true j fs) c = true ↔ inFalse j fs c)) ∧
    (prev = false → 1 ≤ j → j0 ≤ j →
      (cover (j0 :: leftBorders false j fs) (rightBorders false j fs) c = true ↔ (j0 ≤ c ∧ c < j) ∨ inFalse j fs c)) := by
  intro fs
  induction fs with
  | nil =>
    intro prev j j0 c hl
    simp only [lastD] at hl
    subst hl
    refine ⟨fun _ => ?_, fun h => by cases h⟩
    simp [leftBorders, rightBorders, cover, inFalse]
  | cons f rest ih =>
    -- in each of the four cases the border lists of `f :: rest` reduce, by evaluation, to those of `rest` with at
    -- most one border in front
    intro prev j j0 c hl
    constructor
    · intro _
      cases f with
      | true => exact ((ih true (j + 1) j0 c hl).1 rfl).trans (inFalse_cons_true j rest c).symm
      | false =>
        exact ((ih false (j + 1) j c hl).2 rfl (Nat.le_add_left 1 j) (Nat.le_succ j)).trans
          ((or_congr_left (by omega)).trans (inFalse_cons_false j rest c).symm)
    · intro _ hj hj0
      cases f with
      | false =>
        exact ((ih false (j + 1) j0 c hl).2 rfl (Nat.le_add_left 1 j) (Nat.le_succ_of_le hj0)).trans
          (((or_congr_left (by omega)).trans or_assoc).trans (or_congr_right (inFalse_cons_false j rest c).symm))
      | true =>
        exact Bool.or_eq_true_iff.trans (or_congr
          (by simp only [Bool.and_eq_true, decide_eq_true_eq]; omega)
          (((ih true (j + 1) j0 c hl).1 rfl).trans (inFalse_cons_true j rest c).symm))

/-- **the row-wise pairing covers exactly the `false` positions** of a row of flags that ends with `true` (so that
    every run is closed) -/
theorem cover_runs (fs : List Bool) (j c : Nat) (hl : lastD fs true = true) :
    cover (leftBorders true j fs) (rightBorders true j fs) c = true ↔ inFalse j fs c :=
  (cover_runs_scan fs true j 0 c hl).1 rfl

theorem confidentFlags_last (thr : Rat) (k : Nat) (row : List Val) (hthr : thr ≤ 1) :
    lastD (confidentFlags thr k row) true = true := by
  have key : ∀ (l : List Bool) (d : Bool), lastD (l ++ [true]) d = true := by
    intro l
    induction l with
    | nil => intro d; rfl
    | cons x xs ih => intro d; exact ih x
  unfold confidentFlags
  by_cases he : (slidingNanMin k row).isEmpty = true
  · have hnil : slidingNanMin k row = [] := List.isEmpty_iff.mp he
    simp [hnil, lastD]
  · simp only [he, Bool.false_eq_true, if_false, hthr, decide_true]
    exact key _ _

theorem row_borders_length (thr : Rat) (k : Nat) (row : List Val) (hthr : thr ≤ 1) :
    (leftBorders true 0 (confidentFlags thr k row)).length = (rightBorders true 0 (confidentFlags thr k row)).length := by
  have := borders_length (confidentFlags thr k row) true 0
  rw [confidentFlags_last thr k row hthr] at this
  exact Nat.add_right_cancel this

/-- **a pixel lies in a segment of C12's model iff its row's confidence flag is `false`** -/
theorem inSegments_iff (thr : Rat) (k : Nat) (amb : Grid Val) (hthr : thr ≤ 1) (r c : Nat) :
    inSegments (segments thr k amb) r c = true ↔
      ∃ row, amb[r]? = some row ∧ (confidentFlags thr k row)[c]? = some false := by
  have hcov : ∀ row, (∃ p ∈ (leftBorders true 0 (confidentFlags thr k row)).zip
        (rightBorders true 0 (confidentFlags thr k row)), p.1 ≤ c ∧ c ≤ p.2)
      ↔ (confidentFlags thr k row)[c]? = some false := fun row =>
    (cover_eq_true _ _ c).symm.trans <|
      (cover_runs _ 0 c (confidentFlags_last thr k row hthr)).trans
        ⟨fun ⟨i, e, h⟩ => (Nat.zero_add i ▸ e) ▸ h, fun h => ⟨c, (Nat.zero_add c).symm, h⟩⟩
  have hseg : segments thr k amb = amb.zipIdx.flatMap (fun x =>
      ((leftBorders true 0 (confidentFlags thr k x.1)).map (fun c => (x.2, c))).zip
        ((rightBorders true 0 (confidentFlags thr k x.1)).map (fun c => (x.2, c)))) := by
    unfold segments borders
    exact zipWith_flatMap_flatMap Prod.mk _ _ _ fun x _ => by rw [List.length_map, List.length_map, row_borders_length thr k x.1 hthr]
  rw [hseg]
  simp only [inSegments, List.any_flatMap, List.zip_map, List.any_map, List.any_eq_true, Function.comp, Prod.map,
    Bool.and_eq_true, decide_eq_true_eq]
  constructor
  · rintro ⟨⟨row, i⟩, hx, p, hp, ⟨rfl, e2⟩, e3⟩
    exact ⟨row, List.mem_zipIdx_iff_getElem?.1 hx, (hcov row).1 ⟨p, hp, e2, e3⟩⟩
  · rintro ⟨row, hrow, hf⟩
    obtain ⟨p, hp, e2, e3⟩ := (hcov row).2 hf
    exact ⟨(row, r), List.mem_zipIdx_iff_getElem?.2 hrow, p, hp, ⟨rfl, e2⟩, e3⟩

end Pandora.IntervalRuns
