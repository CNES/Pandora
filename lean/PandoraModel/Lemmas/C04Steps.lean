/-
  C04 — lemmas about the flag arithmetic of the later steps (Model/FlagSteps.lean): bounds that hold
  whatever `+=` carries, and bit-level closed forms that hold when the bit being added is clear
  (or the site uses `|=`).  Core Lean only.
-/
import PandoraModel.Lemmas.FlagWord
import PandoraModel.Model.FlagSteps

namespace Pandora.C04
open Pandora.Flags Pandora.FlagSteps

theorem raise_lt (op : AddOp) (f b : Nat) (h : f + b < 4096) : raise op f b < 4096 := by
  cases op
  · exact h
  · have h1 : f < 2 ^ 12 := by omega
    have h2 : b < 2 ^ 12 := by omega
    exact Nat.or_lt_two_pow h1 h2

theorem raise_zero (op : AddOp) (f : Nat) : raise op f 0 = f := by
  cases op <;> simp [raise]

/-- a pixel that is not invalid has none of the bits 0, 1, 6, 7, 8, 9: below 4096 it is at most
    4 + 8 + 16 + 32 + 1024 + 2048 -/
theorem notInvalid_le (f : Nat) (hv : isInvalid f = false) (h : f < 4096) : f ≤ 3132 := by
  have h0 : f &&& pixelInvalid = 0 := by simpa [isInvalid] using hv
  have h1 : f &&& (pixelInvalid ||| 3132) = f := by
    rw [show pixelInvalid ||| 3132 = 2 ^ 12 - 1 from by decide, Nat.and_two_pow_sub_one_eq_mod, Nat.mod_eq_of_lt h]
  rw [← h1, Nat.and_or_distrib_left, h0, Nat.zero_or]
  exact Nat.and_le_right

theorem refinePix_lt (ops : Ops) (f : Nat) (st : Bool) (h : f < 4096) : refinePix ops f st < 4096 := by
  unfold refinePix
  cases hv : isInvalid f
  · have := notInvalid_le f hv h
    simp only [Bool.false_eq_true, if_false]
    apply raise_lt
    cases st <;> simp [stoppedInterpolation] <;> omega
  · simpa using h

theorem raise_eq_add (op : AddOp) (f k : Nat) (h : f.testBit k = false) : raise op f (2 ^ k) = f + 2 ^ k := by
  cases op
  · rfl
  · exact (add_two_pow_eq_or f k h).symm

/-- on a pixel that is not invalid (its bits 8 and 9 are therefore clear) `+ 256 + 512·comp − 256·comp` adds 256
    (occlusion) or 512 (mismatch), for `+=` as well as `|=` -/
theorem crossCheckPix_eq (ops : Ops) (f : Nat) (d : CC) (hv : isInvalid f = false) :
    crossCheckPix ops f d = f + (match d with | .consistent => 0 | .occlusion => 2 ^ 8 | .mismatch => 2 ^ 9) := by
  have h8 : f.testBit 8 = false := FlagWord.testBit_of_not_isInvalid hv rfl
  have h9 : f.testBit 9 = false := FlagWord.testBit_of_not_isInvalid hv rfl
  have h9' : (f + 2 ^ 8).testBit 9 = false := by rw [testBit_add_two_pow f 8 9 h8, h9]; rfl
  unfold crossCheckPix
  cases d <;> simp only [hv, Bool.false_eq_true, if_false, occlusion, mismatch, Nat.mul_zero, Nat.mul_one, raise_zero,
      Nat.sub_zero, Nat.add_zero]
  · rw [raise_eq_add _ f 8 h8, raise_eq_add _ _ 9 h9']; omega
  · exact raise_eq_add _ f 8 h8

theorem crossCheckPix_lt (ops : Ops) (f : Nat) (d : CC) (h : f < 4096) : crossCheckPix ops f d < 4096 := by
  cases hv : isInvalid f
  · have := notInvalid_le f hv h
    rw [crossCheckPix_eq ops f d hv]
    cases d <;> simp only [] <;> omega
  · simpa [crossCheckPix, hv] using h

theorem raise_testBit (op : AddOp) (f k j : Nat) (h : op = .or ∨ f.testBit k = false) :
    (raise op f (2 ^ k)).testBit j = (f.testBit j || decide (k = j)) := by
  cases op
  · exact testBit_add_two_pow f k j (h.resolve_left AddOp.noConfusion)
  · exact testBit_or_two_pow f k j

/-- `-= 2^k; += 2^m` on a pixel that carries bit `k` and that the step decided to fill (`go`): what both interpolations
    are made of -/
def replaceBit (op : AddOp) (k m : Nat) (go : Bool) (f : Nat) : Nat :=
  if f.testBit k && go then raise op (f - 2 ^ k) (2 ^ m) else f

theorem replaceBit_lt (op : AddOp) {k m : Nat} (hm : m ≤ k) (go : Bool) (f : Nat) (h : f < 4096) :
    replaceBit op k m go f < 4096 := by
  unfold replaceBit
  split
  · rename_i hb
    rw [Bool.and_eq_true] at hb
    have hge : 2 ^ k ≤ f := Nat.ge_two_pow_of_testBit hb.1
    have hle : 2 ^ m ≤ 2 ^ k := Nat.pow_le_pow_right (by omega) hm
    exact raise_lt _ _ _ (by omega)
  · exact h

/-- bit `j` of a word read by `t` after bit `k`, if set and `go`, was replaced by bit `m` -/
def replacedBit (t : Nat → Bool) (k m : Nat) (go : Bool) (j : Nat) : Bool :=
  (t j && !(t k && go && decide (k = j))) || (t k && go && decide (m = j))

theorem replaceBit_testBit (op : AddOp) (k m : Nat) (go : Bool) (f : Nat)
    (h : op = .or ∨ (f.testBit k = true → f.testBit m = false)) :
    (replaceBit op k m go f).testBit = replacedBit f.testBit k m go := by
  funext j
  unfold replaceBit replacedBit
  cases hk : f.testBit k
  · simp
  · cases go
    · simp
    · simp only [Bool.and_self, if_true, Bool.true_and]
      cases op
      · exact FlagWord.testBit_sub_add f k m j hk (h.resolve_left AddOp.noConfusion hk)
      · exact FlagWord.testBit_sub_or f k m j hk

theorem mcCnnPix_eq (ops : Ops) (f : Nat) (fo fm : Bool) :
    mcCnnPix ops f fo fm = replaceBit ops.fill 9 5 fm (replaceBit ops.fill 8 4 fo f) := by
  unfold mcCnnPix replaceBit
  simp only [FlagWord.and_occlusion, FlagWord.and_mismatch]
  cases fo <;> cases fm <;>
    simp only [Bool.and_true, Bool.and_false, if_true, if_false, Bool.false_eq_true, ite_self, Nat.mul_zero, Nat.mul_one,
      Nat.sub_zero, raise_zero] <;> rfl

theorem sgmPix_eq (ops : Ops) (f : Nat) (near fm fo : Bool) :
    sgmPix ops f near fm fo
      = replaceBit ops.fill 8 4 fo (replaceBit ops.fill 9 (if near then 8 else 5) (near || fm) f) := by
  unfold sgmPix replaceBit
  simp only [FlagWord.and_occlusion, FlagWord.and_mismatch]
  cases near <;> cases fm <;> cases fo <;>
    simp only [Bool.and_true, Bool.and_false, Bool.or_true, Bool.or_false, if_true, if_false, Bool.false_eq_true,
      ite_self] <;> rfl

theorem mcCnnPix_lt (ops : Ops) (f : Nat) (fo fm : Bool) (h : f < 4096) : mcCnnPix ops f fo fm < 4096 := by
  rw [mcCnnPix_eq]
  exact replaceBit_lt _ (by omega) _ _ (replaceBit_lt _ (by omega) _ _ h)

theorem sgmPix_lt (ops : Ops) (f : Nat) (near fm fo : Bool) (h : f < 4096) : sgmPix ops f near fm fo < 4096 := by
  rw [sgmPix_eq]
  exact replaceBit_lt _ (by omega) _ _ (replaceBit_lt _ (by cases near <;> decide) _ _ h)

theorem stepFlag_lt (ops : Ops) (hreg : ops.reg = .or) (border : Bool) (s : Step) (f : Nat) (h : f < 4096) :
    stepFlag ops border s f < 4096 := by
  cases s <;> simp only [stepFlag, borderPix]
  · exact refinePix_lt ops f _ h
  · exact h
  · split
    · rw [hreg]; simp only [raise, intervalRegularized]
      exact Nat.or_lt_two_pow (n := 12) h (by omega)
    · exact h
  · split
    · simp [leftNodataOrBorder]
    · exact crossCheckPix_lt ops f _ h
  · split
    · simp [leftNodataOrBorder]
    · exact mcCnnPix_lt ops f _ _ h
  · exact sgmPix_lt ops f _ _ _ h


/-- **No undocumented bit** (`no_undocumented_bit`, full strength): whatever sequence of steps runs — any
    length, any repetition, any decisions — and whether the bit-raising sites use `+=` (carries included) or
    `|=`, a flag below 4096 stays below 4096.  (Only `median_for_intervals` must keep its `|=`.) -/
theorem run_lt_4096 (ops : Ops) (hreg : ops.reg = .or) (border : Bool) (steps : List Step) (f : Nat)
    (h : f < 4096) : runFlags ops border steps f < 4096 := by
  unfold runFlags
  induction steps generalizing f with
  | nil => simpa using h
  | cons s ss ih =>
    simp only [List.foldl_cons]
    exact ih _ (stepFlag_lt ops hreg border s f h)


/-- the bits the step is about to raise with `+=` are clear (nothing to check for `|=`) -/
def RaiseClear (ops : Ops) (s : Step) (f : Nat) : Prop :=
  match s with
  | .refine _ => ops.refine = .or ∨ f.testBit 3 = false
  | .interpMcCnn _ _ => ops.fill = .or ∨ (f.testBit 4 = false ∧ f.testBit 5 = false)
  | .interpSgm _ _ _ => ops.fill = .or ∨ (f.testBit 4 = false ∧ f.testBit 5 = false ∧ (f.testBit 8 && f.testBit 9) = false)
  | _ => True

/-- the flag after a step, bit by bit (no border rewrite) -/
def expectedBit (s : Step) (f : Nat) (j : Nat) : Bool :=
  match s with
  | .refine st => f.testBit j || (decide (3 = j) && st && !isInvalid f)
  | .filter => f.testBit j
  | .filterIntervals reg => f.testBit j || (reg && decide (11 = j))
  | .crossCheck d => f.testBit j || (!isInvalid f && ((decide (d = .occlusion) && decide (8 = j)) || (decide (d = .mismatch) && decide (9 = j))))
  | .interpMcCnn fo fm => replacedBit (replacedBit f.testBit 8 4 fo) 9 5 fm j
  | .interpSgm near fm fo => replacedBit (replacedBit f.testBit 9 (if near then 8 else 5) (near || fm)) 8 4 fo j

theorem refinePix_testBit (ops : Ops) (f : Nat) (st : Bool) (j : Nat)
    (h : ops.refine = .or ∨ f.testBit 3 = false) :
    (refinePix ops f st).testBit j = expectedBit (.refine st) f j := by
  unfold expectedBit
  unfold refinePix
  cases hv : isInvalid f
  · cases st
    · simp [raise_zero]
    · simp only [Bool.false_eq_true, if_false, if_true, stoppedInterpolation]
      have := raise_testBit ops.refine f 3 j h
      simpa using this
  · simp

theorem crossCheckPix_testBit (ops : Ops) (f : Nat) (d : CC) (j : Nat) :
    (crossCheckPix ops f d).testBit j = expectedBit (.crossCheck d) f j := by
  unfold expectedBit
  cases hv : isInvalid f
  · have h8 : f.testBit 8 = false := FlagWord.testBit_of_not_isInvalid hv rfl
    have h9 : f.testBit 9 = false := FlagWord.testBit_of_not_isInvalid hv rfl
    rw [crossCheckPix_eq ops f d hv]
    cases d
    · simp
    · rw [testBit_add_two_pow f 9 j h9]; simp
    · rw [testBit_add_two_pow f 8 j h8]; simp
  · simp [crossCheckPix, hv]

/-- mc-cnn interpolation: an occlusion that finds a valid pixel on its row becomes "filled occlusion"
    (8 → 4), a mismatch that finds one along a scan direction becomes "filled mismatch" (9 → 5); nothing else
    changes.  Needs `|=`, or bits 4 and 5 still clear. -/
theorem mcCnnPix_testBit (ops : Ops) (f : Nat) (fo fm : Bool) (j : Nat)
    (h : ops.fill = .or ∨ (f.testBit 4 = false ∧ f.testBit 5 = false)) :
    (mcCnnPix ops f fo fm).testBit j = expectedBit (.interpMcCnn fo fm) f j := by
  have h1 := replaceBit_testBit ops.fill 8 4 fo f (h.imp id fun h _ => h.1)
  rw [mcCnnPix_eq, replaceBit_testBit _ 9 5 fm _ (h.imp id fun h _ => by rw [h1]; simp [replacedBit, h.2]), h1]
  rfl

/-- sgm interpolation: a mismatch next to an occlusion is treated as an occlusion (9 → 8), another mismatch with a
    valid neighbour in sight becomes "filled mismatch" (9 → 5), an occlusion with two valid neighbours in sight
    "filled occlusion" (8 → 4); nothing else changes.
    Needs `|=`, or bits 4 and 5 still clear and not both 8 and 9 set. -/
theorem sgmPix_testBit (ops : Ops) (f : Nat) (near fm fo : Bool) (j : Nat)
    (h : ops.fill = .or ∨ (f.testBit 4 = false ∧ f.testBit 5 = false ∧ (f.testBit 8 && f.testBit 9) = false)) :
    (sgmPix ops f near fm fo).testBit j = expectedBit (.interpSgm near fm fo) f j := by
  have h9 := replaceBit_testBit ops.fill 9 (if near then 8 else 5) (near || fm) f
    (h.imp id fun h h9 => by cases near <;> simp_all)
  rw [sgmPix_eq, replaceBit_testBit _ 8 4 fo _ (h.imp id fun h _ => by rw [h9]; cases near <;> simp [replacedBit, h.1]), h9]
  rfl

theorem intervals_testBit (ops : Ops) (hreg : ops.reg = .or) (f : Nat) (reg : Bool) (j : Nat) :
    (stepFlag ops false (.filterIntervals reg) f).testBit j = expectedBit (.filterIntervals reg) f j := by
  unfold expectedBit
  simp only [stepFlag, hreg, raise, intervalRegularized]
  cases reg
  · simp
  · have := testBit_or_two_pow f 11 j
    simp only [Nat.reducePow] at this
    simpa using this

/-- **`+` is `|`**: when the bit being added is clear (or the site uses `|=`), the flag after the step is the
    flag before with exactly the step's own bit changes. -/
theorem stepFlag_testBit (ops : Ops) (hreg : ops.reg = .or) (s : Step) (f j : Nat) (h : RaiseClear ops s f) :
    (stepFlag ops false s f).testBit j = expectedBit s f j := by
  cases s with
  | refine st => exact refinePix_testBit ops f st j h
  | filter => rfl
  | filterIntervals reg => exact intervals_testBit ops hreg f reg j
  | crossCheck d =>
    show (borderPix false (crossCheckPix ops f d)).testBit j = _
    exact crossCheckPix_testBit ops f d j
  | interpMcCnn fo fm =>
    show (borderPix false (mcCnnPix ops f fo fm)).testBit j = _
    exact mcCnnPix_testBit ops f fo fm j h
  | interpSgm near fm fo => exact sgmPix_testBit ops f near fm fo j h

theorem stepFlag_border_rewrite (ops : Ops) (s : Step) (f : Nat) (h : rewritesBorder s = true) :
    stepFlag ops true s f = leftNodataOrBorder := by
  cases s <;> simp [rewritesBorder] at h <;> simp [stepFlag, borderPix]

theorem stepFlag_border_irrelevant (ops : Ops) (s : Step) (f : Nat) (b : Bool) (h : rewritesBorder s = false) :
    stepFlag ops b s f = stepFlag ops false s f := by
  cases s <;> simp [rewritesBorder] at h <;> simp [stepFlag]


theorem replacedBit_raised {t : Nat → Bool} {k m j : Nat} {go : Bool}
    (h : (replacedBit t k m go j && !t j) = true) : m = j := by
  unfold replacedBit at h
  cases ht : t j <;> simp [ht] at h
  exact h.2

theorem replacedBit_cleared {t : Nat → Bool} {k m j : Nat} {go : Bool}
    (h : (t j && !replacedBit t k m go j) = true) : k = j := by
  unfold replacedBit at h
  by_cases hk : k = j
  · exact hk
  · cases ht : t j <;> simp [ht, hk] at h

theorem replacedBit_other {t : Nat → Bool} {k m j : Nat} {go : Bool} (hk : k ≠ j) (hm : m ≠ j) :
    replacedBit t k m go j = t j := by
  unfold replacedBit
  rw [decide_eq_false hk, decide_eq_false hm, Bool.and_false, Bool.not_false, Bool.and_true, Bool.or_false]

theorem replacedBit_of_ne {t : Nat → Bool} {k m j : Nat} {go : Bool} (hm : m ≠ j)
    (h : replacedBit t k m go j = true) : t j = true := by
  unfold replacedBit at h
  rw [decide_eq_false hm, Bool.and_false, Bool.or_false, Bool.and_eq_true] at h
  exact h.1

theorem replacedBit_exchange {t : Nat → Bool} {k m j : Nat} {go : Bool} (hmk : m ≠ k)
    (h : (replacedBit t k m go j && !t j) = true) : t k = true ∧ replacedBit t k m go k = false := by
  unfold replacedBit at h ⊢
  rw [Bool.and_eq_true, Bool.not_eq_true'] at h
  -- bit `j` was clear, so it is set through the second disjunct
  rw [h.2, Bool.false_and, Bool.false_or, Bool.and_eq_true, Bool.and_eq_true] at h
  rw [h.1.1.1, h.1.1.2, decide_eq_false hmk, decide_eq_true rfl]
  exact ⟨rfl, rfl⟩

theorem raised_via (a b c : Bool) (h : (c && !a) = true) : (c && !b) = true ∨ (b && !a) = true := by
  rw [Bool.and_eq_true] at h
  cases b
  · exact Or.inl (by rw [h.1]; rfl)
  · exact Or.inr h.2

/-- a bit raised by a step is one of its own: refinement, cross-checking and the regularisation raise at most the one
    bit their `expectedBit` names; an interpolation is two replacements, and a bit raised by the pair is raised by one
    of them (`raised_via`), that is its target (`replacedBit_raised`) -/
theorem expected_raised_own (s : Step) (f k : Nat) (h : (expectedBit s f k && !f.testBit k) = true) :
    (ownRaise s).testBit k = true := by
  cases s <;> simp only [expectedBit, ownRaise, stoppedInterpolation, intervalRegularized, occlusion, mismatch,
    filledOcclusion, filledMismatch] at h ⊢
  · cases hf : f.testBit k <;> simp [hf] at h
    obtain ⟨⟨rfl, _⟩, _⟩ := h; decide
  · cases hf : f.testBit k <;> simp [hf] at h
  · cases hf : f.testBit k <;> simp [hf] at h
    obtain ⟨_, rfl⟩ := h; decide
  · cases hf : f.testBit k <;> simp [hf] at h
    rcases h.2 with ⟨_, rfl⟩ | ⟨_, rfl⟩ <;> decide
  · rcases raised_via _ (replacedBit f.testBit 8 4 _ k) _ h with h | h <;> cases replacedBit_raised h <;> decide
  · rename_i near fm fo
    rcases raised_via _ (replacedBit f.testBit 9 _ _ k) _ h with h | h <;> cases replacedBit_raised h <;>
      cases near <;> decide

/-- … and a bit cleared is one the step may clear: only the replacements clear anything, each its source bit
    (`replacedBit_cleared`) -/
theorem expected_cleared_may (s : Step) (f k : Nat) (h : (f.testBit k && !expectedBit s f k) = true) :
    (mayClear s).testBit k = true := by
  cases s <;> simp only [expectedBit, mayClear, occlusion, mismatch] at h ⊢
  · cases hf : f.testBit k <;> simp [hf] at h
  · cases hf : f.testBit k <;> simp [hf] at h
  · cases hf : f.testBit k <;> simp [hf] at h
  · cases hf : f.testBit k <;> simp [hf] at h
  · rcases raised_via _ (replacedBit f.testBit 8 4 _ k) _ h with h | h <;> cases replacedBit_cleared h <;> decide
  · rcases raised_via _ (replacedBit f.testBit 9 _ _ k) _ h with h | h <;> cases replacedBit_cleared h <;> decide

end Pandora.C04
