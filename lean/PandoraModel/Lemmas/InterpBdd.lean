/-
  C14 — what the steps of the pipeline share with the filling: `Bdd a q`, "`q` lies between the disparities of two valid
  pixels of the map `a`" (the propositional form of the specification's `betweenValid`), and `allPx` as a statement
  about every pixel.  Core Lean only.
-/
import PandoraModel.Model.Interp

namespace Pandora.C14
open Pandora.Interp

theorem allPx_iff (a : DMap) (p : Nat → Nat → Bool) :
    allPx a p = true ↔ ∀ r c, r < a.rows → c < a.cols → p r c = true := by
  simp only [allPx, List.all_eq_true, List.mem_range]
  constructor
  · intro h r c hr hc; exact h r hr c hc
  · intro h r hr c hc; exact h r c hr hc

def Bdd (a : DMap) (q : Rat) : Prop :=
  (∃ r c v, r < a.rows ∧ c < a.cols ∧ a.valid r c = true ∧ a.disp r c = .num v ∧ v ≤ q) ∧
  (∃ r c v, r < a.rows ∧ c < a.cols ∧ a.valid r c = true ∧ a.disp r c = .num v ∧ q ≤ v)

theorem betweenValid_iff (a : DMap) (q : Rat) : betweenValid a q = true ↔ Bdd a q := by
  unfold betweenValid Bdd
  simp only [Bool.and_eq_true, List.any_eq_true, List.mem_range]
  constructor
  · rintro ⟨⟨r, hr, c, hc, hv, hd⟩, ⟨r', hr', c', hc', hv', hd'⟩⟩
    constructor
    · cases hx : a.disp r c with
      | nan => rw [hx] at hd; simp at hd
      | num v => rw [hx] at hd; exact ⟨r, c, v, hr, hc, hv, hx, by simpa using hd⟩
    · cases hx : a.disp r' c' with
      | nan => rw [hx] at hd'; simp at hd'
      | num v => rw [hx] at hd'; exact ⟨r', c', v, hr', hc', hv', hx, by simpa using hd'⟩
  · rintro ⟨⟨r, c, v, hr, hc, hv, hd, hle⟩, ⟨r', c', v', hr', hc', hv', hd', hle'⟩⟩
    exact ⟨⟨r, hr, c, hc, hv, by rw [hd]; simpa using hle⟩, ⟨r', hr', c', hc', hv', by rw [hd']; simpa using hle'⟩⟩

theorem Bdd.self {a : DMap} {r c : Nat} {q : Rat} (hr : r < a.rows) (hc : c < a.cols)
    (hv : a.valid r c = true) (hd : a.disp r c = .num q) : Bdd a q :=
  ⟨⟨r, c, q, hr, hc, hv, hd, Rat.le_refl⟩, ⟨r, c, q, hr, hc, hv, hd, Rat.le_refl⟩⟩

theorem Bdd.between {a : DMap} {x y q : Rat} (hx : Bdd a x) (hy : Bdd a y) (h1 : x ≤ q) (h2 : q ≤ y) : Bdd a q := by
  obtain ⟨⟨r, c, v, hr, hc, hv, hd, hle⟩, _⟩ := hx
  obtain ⟨_, ⟨r', c', v', hr', hc', hv', hd', hle'⟩⟩ := hy
  exact ⟨⟨r, c, v, hr, hc, hv, hd, Rat.le_trans hle h1⟩, ⟨r', c', v', hr', hc', hv', hd', Rat.le_trans h2 hle'⟩⟩

end Pandora.C14
