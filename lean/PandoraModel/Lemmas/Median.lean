/-
  Order statistics: the sort-based median of the model is the median in the counting sense, and lies between two of
  the values, hence between the smallest and the largest one.  The statements are about a list of numbers; the medians of
  the other steps (`Interp.median`, `Cbca.nanmedian`) are shown equal to this one where their lemmas live.
-/
import PandoraModel.Lemmas.Nums
import Mathlib.Data.List.Sort
import Mathlib.Algebra.Order.Field.Rat
import Mathlib.Tactic.Linarith

namespace Pandora.Filter
open List

theorem insertSorted_eq (x : Rat) (l : List Rat) : insertSorted x l = List.orderedInsert (· ≤ ·) x l := by
  induction l with
  | nil => rfl
  | cons y ys ih => simp [insertSorted, List.orderedInsert, ih]

theorem sortRat_eq (l : List Rat) : sortRat l = List.insertionSort (· ≤ ·) l := by
  induction l with
  | nil => rfl
  | cons x xs ih => simp [sortRat, List.insertionSort, ih, insertSorted_eq]

theorem sortRat_perm (l : List Rat) : sortRat l ~ l := by
  rw [sortRat_eq]; exact List.perm_insertionSort _ l

theorem sortRat_sorted (l : List Rat) : List.Pairwise (· ≤ ·) (sortRat l) := by
  rw [sortRat_eq]; exact List.pairwise_insertionSort _ l

theorem sortRat_length (l : List Rat) : (sortRat l).length = l.length := (sortRat_perm l).length_eq

theorem isKth_of_split (l1 l2 : List Rat) (x : Rat) (h1 : ∀ a ∈ l1, a ≤ x) (h2 : ∀ b ∈ l2, x ≤ b) :
    isKth (l1 ++ x :: l2) l1.length x = true := by
  -- nothing at or after the position of `x` is smaller, everything before it is at most `x`
  have hlt : countLt (l1 ++ x :: l2) x ≤ l1.length := by
    have h0 : List.countP (fun v => decide (v < x)) (x :: l2) = 0 :=
      List.countP_eq_zero.2 fun a ha =>
        decide_eq_false (not_lt.2 (List.forall_mem_cons.2 ⟨le_refl x, h2⟩ a ha)) ▸ Bool.false_ne_true
    rw [countLt, List.countP_append, h0]
    exact List.countP_le_length
  have hle : l1.length < countLe (l1 ++ x :: l2) x := by
    have hall : List.countP (fun v => decide (v ≤ x)) l1 = l1.length :=
      List.countP_eq_length.2 fun a ha => decide_eq_true (h1 a ha)
    rw [countLe, List.countP_append, hall,
      List.countP_cons_of_pos (p := fun v => decide (v ≤ x)) (decide_eq_true (le_refl x))]
    exact Nat.lt_add_of_pos_right (Nat.succ_pos _)
  simp only [isKth, Bool.and_eq_true, decide_eq_true_eq, List.contains_iff_mem]
  exact ⟨⟨List.mem_append_right _ List.mem_cons_self, hlt⟩, hle⟩

theorem sorted_isKth (s : List Rat) (hs : List.Pairwise (· ≤ ·) s) (k : Nat) (hk : k < s.length) :
    isKth s k s[k] = true := by
  have hsplit : s.take k ++ s[k] :: s.drop (k + 1) = s := by
    rw [List.getElem_cons_drop hk, List.take_append_drop]
  have hs' := hs
  rw [← hsplit, List.pairwise_append] at hs'
  obtain ⟨_, hright, hcross⟩ := hs'
  have hright' := List.pairwise_cons.1 hright
  have hlen : (s.take k).length = k := List.length_take_of_le (Nat.le_of_lt hk)
  have e := isKth_of_split (s.take k) (s.drop (k + 1)) s[k]
    (fun a ha => hcross a ha s[k] List.mem_cons_self) (fun b hb => hright'.1 b hb)
  rw [hlen, hsplit] at e
  exact e

theorem isKth_perm {l₁ l₂ : List Rat} (h : l₁ ~ l₂) (k : Nat) (x : Rat) : isKth l₁ k x = isKth l₂ k x := by
  unfold isKth countLt countLe
  rw [h.countP_eq, h.countP_eq]
  congr 2
  simp [h.mem_iff]

theorem isKth_mem {vs : List Rat} {k : Nat} {x : Rat} (h : isKth vs k x = true) : x ∈ vs := by
  simp only [isKth, Bool.and_eq_true] at h
  simpa [List.contains_iff_mem] using h.1.1

theorem isKth_sortRat (vs : List Rat) (k : Nat) (hk : k < vs.length) :
    isKth vs k ((sortRat vs).getD k 0) = true := by
  have hk' : k < (sortRat vs).length := (sortRat_length vs).symm ▸ hk
  rw [List.getD_eq_getElem?_getD, List.getElem?_eq_getElem hk', Option.getD_some, ← isKth_perm (sortRat_perm vs)]
  exact sorted_isKth _ (sortRat_sorted vs) k hk'

/-- the sort-based median is the median of a non-empty list of numbers, in the counting sense -/
theorem median_isMedian (vs : List Rat) (hne : vs ≠ []) :
    ∃ m, medianSorted (sortRat vs) = .num m ∧ isMedian vs m = true := by
  have hpos : 0 < vs.length := List.length_pos_iff.2 hne
  have hk2 : vs.length / 2 < vs.length := Nat.div_lt_self hpos (by decide)
  have hk1 : vs.length / 2 - 1 < vs.length := Nat.lt_of_le_of_lt (Nat.sub_le _ _) hk2
  unfold medianSorted isMedian
  rw [sortRat_length, if_neg (Nat.ne_of_gt hpos)]
  by_cases hodd : vs.length % 2 = 1
  · rw [if_pos hodd]
    exact ⟨_, rfl, by rw [if_pos hodd]; exact isKth_sortRat _ _ hk2⟩
  · rw [if_neg hodd]
    refine ⟨_, rfl, ?_⟩
    rw [if_neg hodd]
    -- the two middle entries of the sorted values are witnesses
    refine List.any_eq_true.2 ⟨_, isKth_mem (isKth_sortRat _ _ hk1),
      List.any_eq_true.2 ⟨_, isKth_mem (isKth_sortRat _ _ hk2), ?_⟩⟩
    rw [isKth_sortRat _ _ hk1, isKth_sortRat _ _ hk2, beq_self_eq_true]
    rfl

/-- the model's `nanmedian` is the median of the non-NaN values -/
theorem nanmedian_isMedian (l : List Val) (hne : nums l ≠ []) :
    ∃ m, nanmedian l = .num m ∧ isMedian (nums l) m = true :=
  median_isMedian (nums l) hne

/-- keeping the entry that beats the one kept so far (`lt b a`: `b` beats `a`) ends with an entry `le` the start and
    `le` every entry -/
theorem foldl_pick {α : Type} {le lt : α → α → Prop} [DecidableRel lt] (trans : ∀ {a b c}, le a b → le b c → le a c)
    (beats : ∀ {a b}, lt b a → le b a) (keeps : ∀ {a b}, ¬ lt b a → le a b) (refl : ∀ a, le a a) (xs : List α) :
    ∀ (a : α), ∀ v ∈ a :: xs, le (xs.foldl (fun a b => if lt b a then b else a) a) v := by
  induction xs with
  | nil => exact fun a v hv => List.mem_singleton.1 hv ▸ refl a
  | cons x xs ih =>
    intro a v hv
    rw [List.foldl_cons]
    by_cases h : lt x a
    · rw [if_pos h]
      rcases List.mem_cons.1 hv with rfl | hv
      · exact trans (ih x x List.mem_cons_self) (beats h)
      · exact ih x v hv
    · rw [if_neg h]
      rcases List.mem_cons.1 hv with rfl | hv
      · exact ih v v List.mem_cons_self
      · rcases List.mem_cons.1 hv with rfl | hv
        · exact trans (ih a a List.mem_cons_self) (keeps h)
        · exact ih a v (List.mem_cons_of_mem _ hv)

theorem minOf_le (vs : List Rat) (v : Rat) (hv : v ∈ vs) : minOf vs ≤ v := by
  cases vs with
  | nil => cases hv
  | cons x xs => exact foldl_pick (le := (· ≤ ·)) (lt := (· < ·)) le_trans le_of_lt not_lt.1 le_refl xs x v hv

theorem le_maxOf (vs : List Rat) (v : Rat) (hv : v ∈ vs) : v ≤ maxOf vs := by
  cases vs with
  | nil => cases hv
  | cons x xs =>
    exact foldl_pick (le := (· ≥ ·)) (lt := (· > ·)) (fun h1 h2 => le_trans h2 h1) le_of_lt not_lt.1 le_refl xs x v hv

/-- a median is one of the values, or the mean of two of them: it lies between two values -/
theorem isMedian_mem_between {vs : List Rat} {m : Rat} (h : isMedian vs m = true) :
    ∃ a ∈ vs, ∃ b ∈ vs, a ≤ m ∧ m ≤ b := by
  unfold isMedian at h
  split at h
  · exact ⟨m, isKth_mem h, m, isKth_mem h, le_refl _, le_refl _⟩
  · obtain ⟨a, ha, h⟩ := List.any_eq_true.1 h
    obtain ⟨b, hb, h⟩ := List.any_eq_true.1 h
    simp only [Bool.and_eq_true, beq_iff_eq] at h
    obtain ⟨_, rfl⟩ := h
    have h2 : (0 : Rat) < 2 := by norm_num
    rcases le_total a b with hab | hab
    · exact ⟨a, ha, b, hb, (le_div_iff₀ h2).2 (by rw [mul_two]; exact add_le_add_right hab a),
        (div_le_iff₀ h2).2 (by rw [mul_two]; exact add_le_add_left hab b)⟩
    · exact ⟨b, hb, a, ha, (le_div_iff₀ h2).2 (by rw [mul_two]; exact add_le_add_left hab b),
        (div_le_iff₀ h2).2 (by rw [mul_two]; exact add_le_add_right hab a)⟩

theorem between_iff {vs : List Rat} {m : Rat} : between vs m = true ↔ minOf vs ≤ m ∧ m ≤ maxOf vs := by
  rw [between, Bool.and_eq_true, decide_eq_true_eq, decide_eq_true_eq]

theorem isMedian_between (vs : List Rat) (m : Rat) (h : isMedian vs m = true) : between vs m = true := by
  obtain ⟨a, ha, b, hb, h1, h2⟩ := isMedian_mem_between h
  exact between_iff.2 ⟨le_trans (minOf_le vs a ha) h1, le_trans h2 (le_maxOf vs b hb)⟩

end Pandora.Filter
