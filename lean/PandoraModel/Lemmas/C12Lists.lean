/-
  C12 — list facts the confidence lemma files build on: the four extrema of `Model/Confidence.lean` as instances of one
  function, the finite cells of a curve, exact sums, increasing index lists.
-/
import PandoraModel.Model.Confidence
import PandoraModel.Lemmas.Grid
import PandoraModel.Lemmas.Nums
import Mathlib.Tactic.Linarith
import Mathlib.Tactic.Ring
import Mathlib.Algebra.Order.Field.Basic

namespace Pandora.C12
open Pandora.Confidence

/-- the extremum of a list for the order `le`, the earliest one among equals -/
def lext {α} (le : α → α → Prop) [DecidableRel le] : List α → Option α
  | [] => none
  | x :: xs =>
    match lext le xs with
    | none => some x
    | some m => some (if le x m then x else m)

theorem lmin_eq_lext (l : List Rat) : lmin l = lext (· ≤ ·) l := by
  induction l with
  | nil => rfl
  | cons x xs ih => rw [lmin, lext, ← ih]; cases lmin xs <;> rfl

theorem lmax_eq_lext (l : List Rat) : lmax l = lext (· ≥ ·) l := by
  induction l with
  | nil => rfl
  | cons x xs ih => rw [lmax, lext, ← ih]; cases lmax xs <;> rfl

theorem lminNat_eq_lext (l : List Nat) : lminNat l = lext (· ≤ ·) l := by
  induction l with
  | nil => rfl
  | cons x xs ih => rw [lminNat, lext, ← ih]; cases lminNat xs <;> rfl

theorem lmaxNat_eq_lext (l : List Nat) : lmaxNat l = lext (· ≥ ·) l := by
  induction l with
  | nil => rfl
  | cons x xs ih => rw [lmaxNat, lext, ← ih]; cases lmaxNat xs <;> rfl

section lext
variable {α β : Type} (le : α → α → Prop) [DecidableRel le]

theorem lext_eq_none (l : List α) : lext le l = none ↔ l = [] := by
  cases l with
  | nil => simp [lext]
  | cons x xs => cases h : lext le xs <;> simp [lext, h]

theorem lext_cons (x : α) (xs : List α) :
    lext le (x :: xs) = some (match lext le xs with | none => x | some m => if le x m then x else m) := by
  rw [lext]
  cases lext le xs <;> rfl

theorem lext_spec (total : ∀ a b, le a b ∨ le b a) (trans : ∀ a b c, le a b → le b c → le a c)
    (l : List α) (m : α) (h : lext le l = some m) : m ∈ l ∧ ∀ y ∈ l, le m y := by
  induction l generalizing m with
  | nil => cases h
  | cons x xs ih =>
    rw [lext] at h
    cases hm : lext le xs with
    | none =>
      rw [hm] at h
      cases h
      rw [(lext_eq_none le xs).1 hm]
      exact ⟨List.mem_singleton_self _, fun y hy => by rw [List.mem_singleton.1 hy]; exact (total x x).elim id id⟩
    | some m' =>
      rw [hm] at h
      dsimp only at h
      obtain ⟨hmem, hle⟩ := ih m' hm
      by_cases hx : le x m'
      · rw [if_pos hx] at h
        cases h
        refine ⟨List.mem_cons_self, fun y hy => ?_⟩
        rcases List.mem_cons.1 hy with rfl | hy
        · exact (total y y).elim id id
        · exact trans _ _ _ hx (hle y hy)
      · rw [if_neg hx] at h
        cases h
        refine ⟨List.mem_cons_of_mem _ hmem, fun y hy => ?_⟩
        rcases List.mem_cons.1 hy with rfl | hy
        · exact (total m y).resolve_right hx
        · exact hle y hy

theorem lext_map (le' : β → β → Prop) [DecidableRel le'] (f : α → β) (hf : ∀ a b, le' (f a) (f b) ↔ le a b)
    (l : List α) : lext le' (l.map f) = (lext le l).map f := by
  induction l with
  | nil => rfl
  | cons x xs ih =>
    rw [List.map_cons, lext, lext, ih]
    cases lext le xs with
    | none => rfl
    | some m =>
      simp only [Option.map_some, hf]
      split <;> rfl

end lext

theorem lmin_eq_none (l : List Rat) : lmin l = none ↔ l = [] := by rw [lmin_eq_lext]; exact lext_eq_none _ l
theorem lmax_eq_none (l : List Rat) : lmax l = none ↔ l = [] := by rw [lmax_eq_lext]; exact lext_eq_none _ l
theorem lminNat_eq_none (l : List Nat) : lminNat l = none ↔ l = [] := by rw [lminNat_eq_lext]; exact lext_eq_none _ l
theorem lmaxNat_eq_none (l : List Nat) : lmaxNat l = none ↔ l = [] := by rw [lmaxNat_eq_lext]; exact lext_eq_none _ l

theorem lmin_cons (x : Rat) (xs : List Rat) :
    lmin (x :: xs) = some (match lmin xs with | none => x | some m => if x ≤ m then x else m) := by
  rw [lmin]
  cases lmin xs <;> rfl

theorem lmax_cons (x : Rat) (xs : List Rat) :
    lmax (x :: xs) = some (match lmax xs with | none => x | some m => if m ≤ x then x else m) := by
  rw [lmax]
  cases lmax xs <;> rfl

theorem lmin_spec (l : List Rat) (m : Rat) (h : lmin l = some m) : m ∈ l ∧ ∀ y ∈ l, m ≤ y :=
  lext_spec _ le_total (fun _ _ _ => le_trans) l m (lmin_eq_lext l ▸ h)

theorem lmax_spec (l : List Rat) (m : Rat) (h : lmax l = some m) : m ∈ l ∧ ∀ y ∈ l, y ≤ m :=
  lext_spec _ (fun a b => le_total b a) (fun _ _ _ h1 h2 => le_trans h2 h1) l m (lmax_eq_lext l ▸ h)

theorem lminNat_spec (l : List Nat) (m : Nat) (h : lminNat l = some m) : m ∈ l ∧ ∀ y ∈ l, m ≤ y :=
  lext_spec _ Nat.le_total (fun _ _ _ => Nat.le_trans) l m (lminNat_eq_lext l ▸ h)

theorem lmaxNat_spec (l : List Nat) (m : Nat) (h : lmaxNat l = some m) : m ∈ l ∧ ∀ y ∈ l, y ≤ m :=
  lext_spec _ (fun a b => Nat.le_total b a) (fun _ _ _ h1 h2 => Nat.le_trans h2 h1) l m (lmaxNat_eq_lext l ▸ h)

theorem lmaxNat_mem (l : List Nat) (m : Nat) (h : lmaxNat l = some m) : m ∈ l := (lmaxNat_spec l m h).1

theorem lmin_map_neg (l : List Rat) : lmin (l.map (fun c => -c)) = (lmax l).map (fun c => -c) := by
  rw [lmin_eq_lext, lmax_eq_lext]
  exact lext_map _ _ _ (fun _ _ => neg_le_neg_iff) l

theorem numsOf_cons_nan (cs : List Val) : numsOf (Val.nan :: cs) = numsOf cs := rfl
theorem numsOf_cons_num (q : Rat) (cs : List Val) : numsOf (Val.num q :: cs) = q :: numsOf cs := rfl

theorem numsOf_eq (l : List Val) : numsOf l = Filter.nums l :=
  Filter.eq_nums rfl (fun _ => rfl) (fun _ _ => rfl) l

theorem mem_numsOf (l : List Val) (q : Rat) : q ∈ numsOf l ↔ Val.num q ∈ l :=
  numsOf_eq l ▸ Filter.mem_nums

theorem numsOf_nil_iff (l : List Val) : numsOf l = [] ↔ ∀ c ∈ l, c = Val.nan :=
  numsOf_eq l ▸ Filter.nums_eq_nil_iff

theorem numsOf_map (l : List Val) (f : Rat → Rat) : numsOf (l.map (Val.map f)) = (numsOf l).map f := by
  rw [numsOf, numsOf, List.filterMap_map, List.map_filterMap]
  exact congrArg (List.filterMap · l) (funext fun c => by cases c <;> rfl)

theorem best_none_iff (isMax : Bool) (curve : Curve) : Spec.best isMax curve = none ↔ ∀ c ∈ curve, c = Val.nan := by
  unfold Spec.best
  cases isMax with
  | true => simp only [if_true]; rw [lmax_eq_none, numsOf_nil_iff]
  | false => simp only [Bool.false_eq_true, if_false]; rw [lmin_eq_none, numsOf_nil_iff]

theorem best_mem (isMax : Bool) (curve : Curve) (b : Rat) (hb : Spec.best isMax curve = some b) : Val.num b ∈ curve := by
  apply (mem_numsOf curve b).1
  unfold Spec.best at hb
  cases isMax with
  | true => exact (lmax_spec _ _ hb).1
  | false => exact (lmin_spec _ _ hb).1

/-- with two distinct global costs (`max_cost ≠ min_cost`, the property's quantifier) the reference cost of the ambiguity
    and risk kernels is the specification's best of a `min` measure -/
theorem pixelBest_eq (mn mx : Rat) (curve : Curve) (hne : mx ≠ mn) : pixelBest mn mx curve = Spec.best false curve := by
  unfold pixelBest Spec.best
  cases lmin (numsOf curve) <;> simp [hne]

theorem zipWith_replicate_left {α β γ} (f : α → β → γ) (a : α) (l : List β) (n : Nat) (h : l.length ≤ n) :
    List.zipWith f (List.replicate n a) l = l.map (f a) := by
  induction l generalizing n with
  | nil => simp
  | cons b l ih =>
    cases n with
    | zero => simp at h
    | succ n =>
      simp only [List.replicate_succ, List.zipWith_cons_cons, List.map_cons]
      rw [ih n (by simpa using h)]

theorem length_flatten_replicate {α} (n : Nat) (l : List α) : (List.replicate n l).flatten.length = n * l.length := by
  rw [List.length_flatten, List.map_replicate, List.sum_replicate_nat]

theorem sum_map_const {β} (ys : List β) (n : Nat) : (ys.map (fun _ => n)).sum = ys.length * n := by
  rw [List.map_const', List.sum_replicate_nat]

theorem count_add_sum {β} (ys : List β) (q : β → Bool) (f : β → Nat) :
    (ys.map q).count true + (ys.map f).sum = (ys.map (fun y => f y + if q y = true then 1 else 0)).sum := by
  induction ys with
  | nil => rfl
  | cons y ys ih =>
    rw [List.map_cons, List.map_cons, List.map_cons, List.sum_cons, List.sum_cons, List.count_cons, ← ih]
    cases q y
    · show _ + 0 + _ = _ + 0 + _; omega
    · show _ + 1 + _ = _ + 1 + _; omega

theorem count_flatMap_map {α β} (xs : List α) (ys : List β) (p : α → β → Bool) :
    (xs.flatMap (fun x => ys.map (p x))).count true = (ys.map (fun y => xs.countP (fun x => p x y))).sum := by
  induction xs with
  | nil => simp [sum_map_const]
  | cons x xs ih =>
    rw [List.flatMap_cons, List.count_append, ih, count_add_sum]
    simp only [List.countP_cons]

theorem filterMap_ite {α} (l : List α) (p : α → Bool) :
    (l.map (fun d => if p d = true then some d else none)).filterMap id = l.filter p := by
  induction l with
  | nil => rfl
  | cons x l ih =>
    cases hp : p x <;> simp [hp, ih]

theorem sorted_le_last (l : List Nat) (hs : l.Pairwise (· < ·)) (b : Nat) (hb : l.getLast? = some b) :
    ∀ x ∈ l, x ≤ b := by
  induction l with
  | nil => simp
  | cons y ys ih =>
    intro x hx
    cases ys with
    | nil => simp at hb hx; subst hb; subst hx; exact Nat.le_refl _
    | cons z zs =>
      have hb' : (z :: zs).getLast? = some b := by simpa using hb
      have hmem : b ∈ (z :: zs) := List.mem_of_getLast? hb'
      rcases List.mem_cons.1 hx with rfl | hx
      · exact Nat.le_of_lt ((List.pairwise_cons.1 hs).1 b hmem)
      · exact ih (List.pairwise_cons.1 hs).2 hb' x hx

theorem lminNat_sorted (l : List Nat) (h : l.Pairwise (· < ·)) : lminNat l = l.head? := by
  cases hm : lminNat l with
  | none => rw [(lminNat_eq_none l).1 hm]; rfl
  | some m =>
    obtain ⟨hmem, hle⟩ := lminNat_spec l m hm
    cases l with
    | nil => cases hmem
    | cons x xs =>
      refine congrArg some (Nat.le_antisymm (hle x List.mem_cons_self) ?_)
      rcases List.mem_cons.1 hmem with rfl | hm'
      · exact Nat.le_refl _
      · exact Nat.le_of_lt ((List.pairwise_cons.1 h).1 m hm')

theorem lmaxNat_sorted (l : List Nat) (h : l.Pairwise (· < ·)) : lmaxNat l = l.getLast? := by
  cases hm : lmaxNat l with
  | none => rw [(lmaxNat_eq_none l).1 hm]; rfl
  | some m =>
    obtain ⟨hmem, hge⟩ := lmaxNat_spec l m hm
    have hne : l ≠ [] := List.ne_nil_of_mem hmem
    rw [List.getLast?_eq_some_getLast hne]
    exact congrArg some (Nat.le_antisymm (sorted_le_last _ h _ (List.getLast?_eq_some_getLast hne) m hmem)
      (hge _ (List.getLast_mem hne)))

theorem sumRat_nil : sumRat [] = 0 := rfl
theorem sumRat_cons (x : Rat) (xs : List Rat) : sumRat (x :: xs) = x + sumRat xs := rfl

theorem sumRat_eq_sum (l : List Rat) : sumRat l = l.sum := rfl

theorem sumRat_append (a b : List Rat) : sumRat (a ++ b) = sumRat a + sumRat b := by
  rw [sumRat_eq_sum, sumRat_eq_sum, sumRat_eq_sum, List.sum_append]

theorem sumRat_map_le {ι} (l : List ι) (f g : ι → Rat) (h : ∀ x ∈ l, f x ≤ g x) :
    sumRat (l.map f) ≤ sumRat (l.map g) := by
  induction l with
  | nil => exact le_refl _
  | cons x xs ih =>
    rw [List.map_cons, List.map_cons, sumRat_cons, sumRat_cons]
    exact add_le_add (h x List.mem_cons_self) (ih fun y hy => h y (List.mem_cons_of_mem _ hy))

theorem sumRat_map_nonneg {ι} (l : List ι) (f : ι → Rat) (h : ∀ x ∈ l, 0 ≤ f x) : 0 ≤ sumRat (l.map f) := by
  induction l with
  | nil => exact le_refl _
  | cons x xs ih =>
    rw [List.map_cons, sumRat_cons]
    exact add_nonneg (h x List.mem_cons_self) (ih fun y hy => h y (List.mem_cons_of_mem _ hy))

end Pandora.C12
