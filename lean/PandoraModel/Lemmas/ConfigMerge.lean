/-
  Dictionaries, `update_conf` on dictionaries of dictionaries, `json_checker` on dictionary schemas, the lambda
  fragment on numbers, the three-valued `Dom.and` (core Lean only, no generated table): the lemmas the theorems of C05
  (`Properties/C05Class.lean`, `C05.lean`, `C05Machine.lean`, `C05Whole.lean`), C17 (`Properties/C17Whole.lean`,
  `C17Doc.lean`) and their compositions (`C19C05.lean`, `C19C20.lean`) share.  Nothing here depends on a table
  regenerated from the source, so a broken table of one property does not break the other property's file
  through this one.

  `wfVal`: no dictionary, at any depth, has a key twice (true of every Python dictionary).  `deepRw`: what
  `update_conf` makes of a value merged into nothing (the three magic strings of every nested dictionary
  rewritten, lists left alone).
-/
import PandoraModel.Model.ConfigSpec
import PandoraModel.Lemmas.MapValsM
import PandoraModel.Lemmas.SchemaSem

namespace Pandora.Merge
open Pandora.Config

theorem lookup_eq_find (d : Dict) (k : String) : Dict.lookup d k = (d.find? (·.1 == k)).map (·.2) := by
  induction d with
  | nil => rfl
  | cons kv rest ih => by_cases h : kv.1 = k <;> simp [Dict.lookup, h, ih]

theorem hasKey_iff_mem_keys (d : Dict) (k : String) : Dict.hasKey d k = true ↔ k ∈ Dict.keys d := by
  simp [Dict.hasKey, lookup_eq_find, Dict.keys]

theorem hasKey_eq_false_iff (d : Dict) (k : String) : Dict.hasKey d k = false ↔ k ∉ Dict.keys d := by
  rw [← hasKey_iff_mem_keys]; simp

theorem lookup_none_iff (d : Dict) (k : String) : Dict.lookup d k = none ↔ k ∉ Dict.keys d := by
  rw [← hasKey_iff_mem_keys]
  simp [Dict.hasKey]

theorem mem_keys_of_lookup {d : Dict} {k : String} {v : JVal} (h : Dict.lookup d k = some v) :
    k ∈ Dict.keys d := by
  rw [← hasKey_iff_mem_keys, Dict.hasKey, h]; rfl

theorem setKey_absent (d : Dict) (k : String) (v : JVal) (h : Dict.lookup d k = none) :
    Dict.setKey d k v = d ++ [(k, v)] := by
  induction d with
  | nil => simp [Dict.setKey]
  | cons kv rest ih =>
    obtain ⟨k', v'⟩ := kv
    by_cases hk : k' = k
    · simp [Dict.lookup, hk] at h
    · simp [Dict.lookup, hk] at h
      simp [Dict.setKey, hk, ih h]

theorem keys_setKey_present (d : Dict) (k : String) (v : JVal) (h : Dict.lookup d k ≠ none) :
    Dict.keys (Dict.setKey d k v) = Dict.keys d := by
  induction d with
  | nil => simp [Dict.lookup] at h
  | cons kv rest ih =>
    obtain ⟨k', v'⟩ := kv
    by_cases hk : k' = k
    · simp [Dict.setKey, hk, Dict.keys]
    · simp [Dict.lookup, hk] at h
      have := ih h
      simp [Dict.setKey, hk, Dict.keys] at this ⊢
      exact this

theorem keys_setKey (d : Dict) (k : String) (v : JVal) :
    Dict.keys (Dict.setKey d k v) = Dict.keys d ++ [k].filter (fun x => !(Dict.keys d).contains x) := by
  cases hl : Dict.lookup d k with
  | none =>
    have hm : k ∉ Dict.keys d := (lookup_none_iff d k).1 hl
    rw [setKey_absent d k v hl]
    simp only [Dict.keys] at hm ⊢
    simp [hm]
  | some u =>
    have hm : k ∈ Dict.keys d := mem_keys_of_lookup hl
    rw [keys_setKey_present d k v (by simp [hl])]
    simp [hm]

theorem lookup_setKey (d : Dict) (k k' : String) (v : JVal) :
    Dict.lookup (Dict.setKey d k v) k' = if k = k' then some v else Dict.lookup d k' := by
  induction d with
  | nil =>
    by_cases h : k = k' <;> simp [Dict.setKey, Dict.lookup, h]
  | cons kv rest ih =>
    obtain ⟨k0, v0⟩ := kv
    by_cases h0 : k0 = k
    · subst h0
      by_cases h : k0 = k' <;> simp [Dict.setKey, Dict.lookup, h]
    · by_cases h : k = k'
      · subst h
        simp [Dict.setKey, Dict.lookup, h0, ih]
      · by_cases h1 : k0 = k'
        · subst h1
          simp [Dict.setKey, Dict.lookup, h0, h]
        · simp [Dict.setKey, Dict.lookup, h0, h1, ih, h]

theorem setKey_same (d : Dict) (k : String) (v : JVal) (h : Dict.lookup d k = some v) :
    Dict.setKey d k v = d := by
  induction d with
  | nil => simp [Dict.lookup] at h
  | cons kv rest ih =>
    obtain ⟨k', v'⟩ := kv
    by_cases e : k' = k
    · subst e; simp [Dict.lookup] at h; subst h; simp [Dict.setKey]
    · simp [Dict.lookup, e] at h; simp [Dict.setKey, e, ih h]

theorem lookup_setKey_ne (d : Dict) (k k' : String) (v : JVal) (h : k ≠ k') :
    Dict.lookup (Dict.setKey d k v) k' = Dict.lookup d k' := by
  rw [lookup_setKey]
  simp [h]

theorem mem_of_lookup (d : Dict) (k : String) (v : JVal) (h : Dict.lookup d k = some v) : (k, v) ∈ d := by
  obtain ⟨kv, hf, rfl⟩ := Option.map_eq_some_iff.1 ((lookup_eq_find d k).symm.trans h)
  have hk := List.find?_some hf
  exact beq_iff_eq.1 hk ▸ List.mem_of_find?_eq_some hf

theorem lookup_of_mem (d : Dict) (k : String) (v : JVal) (hnd : (Dict.keys d).Nodup) (h : (k, v) ∈ d) :
    Dict.lookup d k = some v := by
  induction d with
  | nil => simp at h
  | cons kv rest ih =>
    obtain ⟨k', v'⟩ := kv
    simp only [Dict.keys, List.map_cons, List.nodup_cons] at hnd
    simp only [List.mem_cons, Prod.mk.injEq] at h
    rcases h with ⟨rfl, rfl⟩ | h
    · simp [Dict.lookup]
    · have hne : k' ≠ k := by
        intro e; subst e
        exact hnd.1 (List.mem_map_of_mem (f := (·.1)) h)
      simp [Dict.lookup, hne, ih hnd.2 h]

theorem forall_mem_setKey (P : JVal → Prop) (d : Dict) (k : String) (v : JVal) (hnd : (Dict.keys d).Nodup)
    (hpres : Dict.lookup d k ≠ none) (hd : ∀ kv ∈ d, P kv.2) (hv : P v) :
    ∀ kv ∈ Dict.setKey d k v, P kv.2 := by
  intro kv hm
  have hk := keys_setKey_present d k v hpres
  have hl := lookup_of_mem _ kv.1 kv.2 (by rw [hk]; exact hnd) hm
  rw [lookup_setKey] at hl
  by_cases e : k = kv.1
  · simp only [e, if_true, Option.some.injEq] at hl
    rw [← hl]; exact hv
  · simp only [e, if_false] at hl
    exact hd _ (mem_of_lookup d kv.1 kv.2 hl)

theorem nodup_iff (d : Dict) : Dict.nodup d = true ↔ (Dict.keys d).Nodup := by
  induction d with
  | nil => simp [Dict.nodup, Dict.keys]
  | cons kv rest ih =>
    simp only [Dict.nodup, Bool.and_eq_true, Bool.not_eq_true', ih, hasKey_eq_false_iff, Dict.keys, List.map_cons,
      List.nodup_cons]

theorem dict_ext : ∀ (a b : Dict), Dict.keys a = Dict.keys b → (Dict.keys a).Nodup →
    (∀ k, Dict.lookup a k = Dict.lookup b k) → a = b := by
  intro a
  induction a with
  | nil => intro b hk _ _; cases b <;> simp [Dict.keys] at hk ⊢
  | cons x xs ih =>
    intro b hk hnd hl
    cases b with
    | nil => simp [Dict.keys] at hk
    | cons y ys =>
      obtain ⟨k, v⟩ := x
      obtain ⟨k', v'⟩ := y
      simp only [Dict.keys, List.map_cons, List.cons.injEq] at hk
      obtain ⟨rfl, hk2⟩ := hk
      simp only [Dict.keys, List.map_cons, List.nodup_cons] at hnd
      have hv : v = v' := by
        have := hl k
        simpa [Dict.lookup] using this
      subst hv
      have : xs = ys := by
        apply ih ys hk2 hnd.2
        intro q
        by_cases e : k = q
        · subst e
          have h1 : Dict.lookup xs k = none := (lookup_none_iff xs k).2 hnd.1
          have h2 : Dict.lookup ys k = none := by
            apply (lookup_none_iff ys k).2
            have : Dict.keys ys = Dict.keys xs := hk2.symm
            rw [this]; exact hnd.1
          rw [h1, h2]
        · have := hl q
          simpa [Dict.lookup, e] using this
      rw [this]

theorem lookup_append (a b : Dict) (k : String) :
    Dict.lookup (a ++ b) k = match Dict.lookup a k with | some v => some v | none => Dict.lookup b k := by
  simp only [lookup_eq_find, List.find?_append]
  cases a.find? (·.1 == k) <;> rfl

theorem nodup_append_filter {A B : List String} (hA : A.Nodup) (hB : B.Nodup) :
    (A ++ B.filter fun k => !A.contains k).Nodup := by
  rw [List.nodup_append]
  refine ⟨hA, List.Pairwise.sublist List.filter_sublist hB, ?_⟩
  rintro a ha _ hb rfl
  simpa [ha] using (List.mem_filter.1 hb).2

theorem keys_filter (d : Dict) (p : String → Bool) :
    Dict.keys (d.filter fun kv => p kv.1) = (Dict.keys d).filter p := by
  simp [Dict.keys, List.filter_map, Function.comp_def]

theorem lookup_filter (p : String → Bool) (k : String) (hk : p k = true) (d : Dict) :
    Dict.lookup (d.filter fun kv => p kv.1) k = Dict.lookup d k := by
  simp only [lookup_eq_find, List.find?_filter]
  congr 2
  funext kv
  by_cases e : kv.1 = k <;> simp [e, hk]

theorem foldl_setKey_fresh : ∀ (items d : Dict), (Dict.keys items).Nodup →
    (∀ k ∈ Dict.keys items, Dict.lookup d k = none) →
    items.foldl (fun d s => Dict.setKey d s.1 s.2) d = d ++ items
  | [], d, _, _ => by simp
  | (k, v) :: rest, d, hnd, hf => by
    simp only [Dict.keys, List.map_cons, List.nodup_cons, List.mem_cons, forall_eq_or_imp] at hnd hf
    rw [List.foldl_cons, setKey_absent d k v hf.1, foldl_setKey_fresh rest _ hnd.2]
    · simp
    · intro x hx
      rw [lookup_append, hf.2 x hx]
      have : k ≠ x := fun e => hnd.1 (e ▸ hx)
      simp [Dict.lookup, this]

theorem foldl_setKey_same : ∀ (items d : Dict), (∀ s ∈ items, Dict.lookup d s.1 = some s.2) →
    items.foldl (fun d s => Dict.setKey d s.1 s.2) d = d
  | [], _, _ => rfl
  | s :: rest, d, h => by
    rw [List.foldl_cons, setKey_same d s.1 s.2 (h s (by simp))]
    exact foldl_setKey_same rest d fun x hx => h x (List.mem_cons_of_mem _ hx)

theorem mapValsM_spec {g : String → JVal → Option JVal} : ∀ {P M : Dict}, mapValsM g P = some M →
    Dict.keys M = Dict.keys P ∧ ∀ n, Dict.lookup M n = (Dict.lookup P n).bind (g n)
  | [], _, h => by cases h; exact ⟨rfl, fun _ => rfl⟩
  | (k, v) :: P, _, h => by
    refine ⟨mapValsM_keys h, fun n => ?_⟩
    obtain ⟨w, M', hw, hM, rfl⟩ := mapValsM_cons.1 h
    have hl := (mapValsM_spec hM).2
    by_cases e : k = n
    · subst e; simp [Dict.lookup, hw]
    · simp [Dict.lookup, e, hl n]

mutual
/-- no dictionary inside the value has a key twice (dictionaries inside lists are not looked at:
    `update_conf` does not enter lists) -/
def wfVal : JVal → Bool
  | .obj kvs => wfDict kvs
  | _ => true
def wfDict : Dict → Bool
  | [] => true
  | (k, v) :: rest => !(Dict.hasKey rest k) && (wfVal v && wfDict rest)
end

mutual
/-- `update_conf({}, v)`-style deep copy: every leaf of every nested dictionary goes through
    `rewriteLeaf` (`"NaN"`, `"inf"`, `"-inf"` become floats); lists are leaves -/
def deepRw : JVal → JVal
  | .obj kvs => .obj (deepRwD kvs)
  | v => rewriteLeaf v
def deepRwD : Dict → Dict
  | [] => []
  | (k, v) :: rest => (k, deepRw v) :: deepRwD rest
end

@[simp] theorem deepRw_obj (kvs : Dict) : deepRw (.obj kvs) = .obj (deepRwD kvs) := by simp [deepRw]

theorem deepRw_leaf (v : JVal) (h : v.isObj = false) : deepRw v = rewriteLeaf v := by
  cases v <;> simp [JVal.isObj] at h <;> simp [deepRw]

@[simp] theorem deepRwD_nil : deepRwD [] = [] := by simp [deepRwD]

@[simp] theorem deepRwD_cons (k : String) (v : JVal) (rest : Dict) :
    deepRwD ((k, v) :: rest) = (k, deepRw v) :: deepRwD rest := by simp [deepRwD]

@[simp] theorem wfVal_obj (kvs : Dict) : wfVal (.obj kvs) = wfDict kvs := by simp [wfVal]

theorem wfVal_leaf (v : JVal) (h : v.isObj = false) : wfVal v = true := by
  cases v <;> simp [JVal.isObj] at h <;> simp [wfVal]

@[simp] theorem wfDict_nil : wfDict [] = true := by simp [wfDict]

theorem wfDict_cons (k : String) (v : JVal) (rest : Dict) :
    wfDict ((k, v) :: rest) = (!(Dict.hasKey rest k) && (wfVal v && wfDict rest)) := by simp [wfDict]

theorem deepRwD_eq_map : ∀ d : Dict, deepRwD d = d.map fun kv => (kv.1, deepRw kv.2)
  | [] => by simp
  | (k, v) :: rest => by simp [deepRwD, deepRwD_eq_map rest]

theorem keys_deepRwD (d : Dict) : Dict.keys (deepRwD d) = Dict.keys d := by
  simp [deepRwD_eq_map, Dict.keys, Function.comp_def]

theorem lookup_deepRwD (d : Dict) (k : String) :
    Dict.lookup (deepRwD d) k = (Dict.lookup d k).map deepRw := by
  simp [lookup_eq_find, deepRwD_eq_map, List.find?_map, Function.comp_def]

theorem deepRwD_leaves (d : Dict) (h : ∀ kv ∈ d, kv.2.isObj = false) : deepRwD d = ConfigSpec.rewriteDict d := by
  induction d with
  | nil => simp [ConfigSpec.rewriteDict]
  | cons kv rest ih =>
    obtain ⟨k, v⟩ := kv
    simp only [deepRwD_cons, ConfigSpec.rewriteDict, List.map_cons, List.cons.injEq, Prod.mk.injEq, true_and]
    exact ⟨deepRw_leaf v (h (k, v) (by simp)), by
      have := ih (fun kv hm => h kv (List.mem_cons_of_mem _ hm)); simpa [ConfigSpec.rewriteDict] using this⟩

theorem mem_deepRwD {d : Dict} {k : String} {v : JVal} (h : (k, v) ∈ deepRwD d) :
    ∃ u, (k, u) ∈ d ∧ v = deepRw u := by
  rw [deepRwD_eq_map, List.mem_map] at h
  obtain ⟨⟨_, u⟩, hm, he⟩ := h
  cases he
  exact ⟨u, hm, rfl⟩

theorem wfDict_iff (d : Dict) :
    wfDict d = true ↔ (Dict.keys d).Nodup ∧ ∀ kv ∈ d, wfVal kv.2 = true := by
  induction d with
  | nil => simp [Dict.keys]
  | cons kv rest ih =>
    obtain ⟨k, v⟩ := kv
    simp only [wfDict_cons, Bool.and_eq_true, Bool.not_eq_true', ih, hasKey_eq_false_iff, Dict.keys, List.map_cons,
      List.nodup_cons, List.forall_mem_cons]
    exact ⟨fun ⟨a, b, c, d⟩ => ⟨⟨a, c⟩, b, d⟩, fun ⟨⟨a, c⟩, b, d⟩ => ⟨a, b, c, d⟩⟩

theorem wfDict_keys_nodup (d : Dict) (h : wfDict d = true) : (Dict.keys d).Nodup := ((wfDict_iff d).1 h).1

theorem wfDict_mem {d : Dict} (h : wfDict d = true) {k : String} {v : JVal} (hm : (k, v) ∈ d) : wfVal v = true :=
  ((wfDict_iff d).1 h).2 _ hm

theorem rewriteLeaf_of_ne {v : JVal} (h1 : v ≠ .str "NaN") (h2 : v ≠ .str "inf") (h3 : v ≠ .str "-inf") :
    rewriteLeaf v = v := by
  simp [rewriteLeaf, h1, h2, h3]

theorem rewriteLeaf_cases (v : JVal) :
    (v = .str "NaN" ∧ rewriteLeaf v = .float .nan) ∨ (v = .str "inf" ∧ rewriteLeaf v = .float .pinf) ∨
    (v = .str "-inf" ∧ rewriteLeaf v = .float .ninf) ∨ rewriteLeaf v = v := by
  by_cases h1 : v = .str "NaN"
  · exact Or.inl ⟨h1, by rw [h1]; rfl⟩
  · by_cases h2 : v = .str "inf"
    · exact Or.inr (Or.inl ⟨h2, by rw [h2]; rfl⟩)
    · by_cases h3 : v = .str "-inf"
      · exact Or.inr (Or.inr (Or.inl ⟨h3, by rw [h3]; rfl⟩))
      · exact Or.inr (Or.inr (Or.inr (rewriteLeaf_of_ne h1 h2 h3)))

theorem rewriteLeaf_float_or_self (v : JVal) : (∃ f, rewriteLeaf v = .float f) ∨ rewriteLeaf v = v := by
  rcases rewriteLeaf_cases v with ⟨_, h⟩ | ⟨_, h⟩ | ⟨_, h⟩ | h
  · exact Or.inl ⟨_, h⟩
  · exact Or.inl ⟨_, h⟩
  · exact Or.inl ⟨_, h⟩
  · exact Or.inr h

theorem rewriteLeaf_idem (v : JVal) : rewriteLeaf (rewriteLeaf v) = rewriteLeaf v := by
  rcases rewriteLeaf_float_or_self v with ⟨f, h⟩ | h
  · rw [h]; exact rewriteLeaf_of_ne (by simp) (by simp) (by simp)
  · rw [h, h]

theorem rewriteLeaf_isObj (v : JVal) : (rewriteLeaf v).isObj = v.isObj := by
  rcases rewriteLeaf_cases v with ⟨e, h⟩ | ⟨e, h⟩ | ⟨e, h⟩ | h
  · rw [h, e]; rfl
  · rw [h, e]; rfl
  · rw [h, e]; rfl
  · rw [h]

theorem deepRw_eq_obj {v : JVal} {cfg : Dict} (h : deepRw v = .obj cfg) :
    ∃ cfgU, v = .obj cfgU ∧ cfg = deepRwD cfgU := by
  cases hv : v.isObj
  · rw [deepRw_leaf v hv] at h
    have := rewriteLeaf_isObj v
    rw [h, hv] at this; simp [JVal.isObj] at this
  · cases v <;> simp [JVal.isObj] at hv
    rename_i kvs
    simp at h
    exact ⟨kvs, rfl, h.symm⟩

theorem rewriteLeaf_obj (s : Dict) : rewriteLeaf (.obj s) = .obj s := by simp [rewriteLeaf]

theorem rewriteLeaf_inv {u v : JVal} (h : rewriteLeaf u = v) (hv : ∀ f, v ≠ .float f) : u = v := by
  rcases rewriteLeaf_float_or_self u with ⟨f, hf⟩ | hs
  · exact absurd (h.symm.trans hf) (hv f)
  · exact hs.symm.trans h

mutual
theorem deepRw_idem : ∀ v : JVal, deepRw (deepRw v) = deepRw v
  | .obj kvs => by simp [deepRwD_idem kvs]
  | .null | .bool _ | .int _ | .float _ | .list _ => by simp [deepRw, rewriteLeaf]
  | .str s => by
    have h : (rewriteLeaf (.str s)).isObj = false := by rw [rewriteLeaf_isObj]; rfl
    rw [deepRw_leaf (.str s) rfl, deepRw_leaf _ h, rewriteLeaf_idem]
theorem deepRwD_idem : ∀ d : Dict, deepRwD (deepRwD d) = deepRwD d
  | [] => by simp
  | (k, v) :: rest => by simp [deepRw_idem v, deepRwD_idem rest]
end

mutual
theorem wfVal_deepRw : ∀ v : JVal, wfVal v = true → wfVal (deepRw v) = true
  | .obj kvs, h => by simpa using wfDict_deepRwD kvs (by simpa using h)
  | .null, _ | .bool _, _ | .int _, _ | .float _, _ | .list _, _ => by simp [deepRw, rewriteLeaf, wfVal]
  | .str s, _ => by
    apply wfVal_leaf
    rw [deepRw_leaf (.str s) rfl, rewriteLeaf_isObj]; rfl
theorem wfDict_deepRwD : ∀ d : Dict, wfDict d = true → wfDict (deepRwD d) = true
  | [], _ => by simp
  | (k, v) :: rest, h => by
    simp only [wfDict_cons, Bool.and_eq_true, Bool.not_eq_true'] at h
    simp only [deepRwD_cons, wfDict_cons, Bool.and_eq_true, Bool.not_eq_true']
    refine ⟨?_, wfVal_deepRw v h.2.1, wfDict_deepRwD rest h.2.2⟩
    rw [hasKey_eq_false_iff, keys_deepRwD, ← hasKey_eq_false_iff]; exact h.1
end

/-- a value `update_conf` leaves as it is -/
def fixedVal (v : JVal) : Prop := deepRw v = v

theorem fixedVal_deepRw (v : JVal) : fixedVal (deepRw v) := deepRw_idem v

theorem fixedVal_of_leaf (v : JVal) (h : v.isObj = false) (hr : rewriteLeaf v = v) : fixedVal v := by
  unfold fixedVal; rw [deepRw_leaf v h, hr]

theorem fixedVal_obj (d : Dict) : fixedVal (.obj d) ↔ deepRwD d = d := by
  unfold fixedVal; simp

theorem rewriteLeaf_of_fixed {v : JVal} (hf : fixedVal v) : rewriteLeaf v = v := by
  cases hv : v.isObj
  · unfold fixedVal at hf; rwa [deepRw_leaf v hv] at hf
  · cases v <;> simp [JVal.isObj] at hv
    exact rewriteLeaf_obj _

theorem fixedDict_iff (d : Dict) : deepRwD d = d ↔ ∀ kv ∈ d, fixedVal kv.2 := by
  rw [deepRwD_eq_map]
  conv => lhs; rhs; rw [← List.map_id d]
  rw [List.map_inj_left]
  exact forall₂_congr fun kv _ => by simp [fixedVal, Prod.ext_iff]

theorem fixedDict_mem {d : Dict} (h : deepRwD d = d) {k : String} {v : JVal} (hm : (k, v) ∈ d) : fixedVal v :=
  (fixedDict_iff d).1 h _ hm

theorem fixedDict_of_mem (d : Dict) (h : ∀ kv ∈ d, fixedVal kv.2) : deepRwD d = d := (fixedDict_iff d).2 h

theorem wf_fixed_setKey (d : Dict) (k : String) (v : JVal) (hw : wfDict d = true) (hf : deepRwD d = d)
    (hpres : Dict.lookup d k ≠ none) (hleaf : v.isObj = false) (hfix : rewriteLeaf v = v) :
    wfDict (Dict.setKey d k v) = true ∧ deepRwD (Dict.setKey d k v) = Dict.setKey d k v := by
  have hnd := wfDict_keys_nodup d hw
  constructor
  · apply (wfDict_iff _).2
    refine ⟨by rw [keys_setKey_present d k v hpres]; exact hnd, ?_⟩
    exact forall_mem_setKey (fun x => wfVal x = true) d k v hnd hpres
      ((wfDict_iff d).1 hw).2 (wfVal_leaf v hleaf)
  · apply fixedDict_of_mem
    exact forall_mem_setKey fixedVal d k v hnd hpres
      ((fixedDict_iff d).1 hf) (fixedVal_of_leaf v hleaf hfix)

theorem updateConf_nil (g : Bool) (d : Dict) : updateConf g d [] = .ok d := by simp [updateConf]

theorem updateConf_cons (g : Bool) (d : Dict) (k : String) (v : JVal) (rest : Dict) :
    updateConf g d ((k, v) :: rest) =
      match updateVal g (Dict.lookup d k) v with
      | .error e => .error e
      | .ok v' => updateConf g (Dict.setKey d k v') rest := by
  rw [updateConf]
  cases updateVal g (Dict.lookup d k) v <;> rfl

theorem updateVal_leaf (g : Bool) (dv : Option JVal) (v : JVal) (h : v.isObj = false) :
    updateVal g dv v = .ok (rewriteLeaf v) := by
  cases v <;> simp [JVal.isObj] at h <;> simp [updateVal]

theorem updateVal_obj_none (g : Bool) (sub : Dict) :
    updateVal g none (.obj sub) = (updateConf g [] sub).map JVal.obj := by
  simp [updateVal]

theorem updateVal_obj_obj (g : Bool) (dsub sub : Dict) :
    updateVal g (some (.obj dsub)) (.obj sub) = (updateConf g dsub sub).map JVal.obj := by
  simp [updateVal]

theorem updateVal_obj_other (g : Bool) (other : JVal) (sub : Dict) (h : other.isObj = false) :
    updateVal g (some other) (.obj sub) =
      if g then .error .type
      else match sub with
        | [] => .ok other
        | (_, .obj _) :: _ => .error .attr
        | _ :: _ => .error .type := by
  cases other <;> simp [JVal.isObj] at h <;> cases g <;> simp [updateVal] <;>
    (split <;> simp_all)

/-- what a successful `update_conf(d, e)` looks like (`e` without duplicate keys): the keys of `d`
    keep their place, the new keys of `e` follow in the order of `e`; a key `e` does not name keeps
    the value of `d`; a key `e` names holds what `updateVal` makes of `e`'s value and `d`'s value -/
theorem updateConf_inv (g : Bool) :
    ∀ (e d out : Dict), (Dict.keys e).Nodup → updateConf g d e = .ok out →
      Dict.keys out = Dict.keys d ++ (Dict.keys e).filter (fun k => !(Dict.keys d).contains k) ∧
      (∀ k, Dict.lookup e k = none → Dict.lookup out k = Dict.lookup d k) ∧
      (∀ k v, Dict.lookup e k = some v →
        ∃ v', updateVal g (Dict.lookup d k) v = .ok v' ∧ Dict.lookup out k = some v') := by
  intro e
  induction e with
  | nil =>
    intro d out _ h
    simp [updateConf] at h
    subst h
    simp [Dict.keys, Dict.lookup]
  | cons kv rest ih =>
    intro d out hnd h
    obtain ⟨k, v⟩ := kv
    simp only [Dict.keys, List.map_cons, List.nodup_cons] at hnd
    rw [updateConf_cons] at h
    cases hv : updateVal g (Dict.lookup d k) v with
    | error e => simp [hv] at h
    | ok v' =>
      simp only [hv] at h
      obtain ⟨hkeys, hnone, hsome⟩ := ih (Dict.setKey d k v') out hnd.2 h
      have hkrest : Dict.lookup rest k = none := (lookup_none_iff rest k).2 hnd.1
      refine ⟨?_, ?_, ?_⟩
      · -- no key of the rest is `k`: that `k` has been stored does not change which of them are new
        rw [hkeys, keys_setKey, List.append_assoc]
        show _ = Dict.keys d ++ ([k] ++ Dict.keys rest).filter _
        rw [List.filter_append]
        congr 2
        apply List.filter_congr
        intro x hx
        have : x ≠ k := fun e => hnd.1 (e ▸ hx)
        simp [this]
      · intro q hq
        have hne : k ≠ q := by
          intro e; subst e; simp [Dict.lookup] at hq
        have hq' : Dict.lookup rest q = none := by simpa [Dict.lookup, hne] using hq
        rw [hnone q hq', lookup_setKey]; simp [hne]
      · intro q u hq
        by_cases e : k = q
        · subst e
          have hu : u = v := by simpa [Dict.lookup] using hq.symm
          subst hu
          refine ⟨v', hv, ?_⟩
          rw [hnone k hkrest, lookup_setKey]; simp
        · have hq' : Dict.lookup rest q = some u := by simpa [Dict.lookup, e] using hq
          obtain ⟨u', hu', hlu'⟩ := hsome q u hq'
          rw [lookup_setKey] at hu'
          simp only [e, if_false] at hu'
          exact ⟨u', hu', hlu'⟩

/-- `update_conf(d, e)` succeeds as soon as every item of `e` can be merged with what `d` holds
    under its key -/
theorem updateConf_intro (g : Bool) :
    ∀ (e d : Dict), (Dict.keys e).Nodup →
      (∀ k v, Dict.lookup e k = some v → ∃ v', updateVal g (Dict.lookup d k) v = .ok v') →
      ∃ out, updateConf g d e = .ok out := by
  intro e
  induction e with
  | nil => intro d _ _; exact ⟨d, updateConf_nil g d⟩
  | cons kv rest ih =>
    intro d hnd hitems
    obtain ⟨k, v⟩ := kv
    simp only [Dict.keys, List.map_cons, List.nodup_cons] at hnd
    obtain ⟨v', hv⟩ := hitems k v (by simp [Dict.lookup])
    rw [updateConf_cons, hv]
    apply ih (Dict.setKey d k v') hnd.2
    intro q u hq
    have hne : k ≠ q := by
      intro e; subst e
      have := (lookup_none_iff rest k).2 hnd.1
      rw [this] at hq; cases hq
    rw [lookup_setKey]; simp only [hne, if_false]
    exact hitems q u (by simpa [Dict.lookup, hne] using hq)

/-- **`update_conf` on a dictionary of leaves**: the default's keys keep their position, the user's
    new keys are appended in the user's order, every user value is stored (rewritten), every
    default the user did not override is kept -/
theorem updateConf_leaves (g : Bool) :
    ∀ (items cur : Dict), (∀ kv ∈ items, kv.2.isObj = false) → (Dict.keys items).Nodup →
      ∃ out, updateConf g cur items = .ok out ∧
        Dict.keys out = Dict.keys cur ++ (Dict.keys items).filter (fun k => !(Dict.keys cur).contains k) ∧
        (∀ k, Dict.lookup out k =
          match Dict.lookup items k with
          | some v => some (rewriteLeaf v)
          | none => Dict.lookup cur k) := by
  intro items cur hleaf hnd
  have hitem : ∀ k v, Dict.lookup items k = some v → updateVal g (Dict.lookup cur k) v = .ok (rewriteLeaf v) :=
    fun k v hl => updateVal_leaf g _ v (hleaf (k, v) (mem_of_lookup items k v hl))
  obtain ⟨out, hout⟩ := updateConf_intro g items cur hnd (fun k v hl => ⟨_, hitem k v hl⟩)
  obtain ⟨hkeys, hnone, hsome⟩ := updateConf_inv g items cur out hnd hout
  refine ⟨out, hout, hkeys, fun k => ?_⟩
  cases hl : Dict.lookup items k with
  | none => exact hnone k hl
  | some v =>
    obtain ⟨v', hv', hlo⟩ := hsome k v hl
    rw [hitem k v hl] at hv'
    cases hv'
    exact hlo

theorem updateVal_flat_inv {g : Bool} {dvo : Option JVal} {u v' : JVal}
    (hd : ∀ dv, dvo = some dv → dv.isObj = false) (h : updateVal g dvo u = .ok v') (hv' : v'.isObj = false) :
    (u.isObj = false ∧ v' = rewriteLeaf u) ∨ (g = false ∧ u = .obj [] ∧ dvo = some v') := by
  cases huo : u.isObj
  · rw [updateVal_leaf g _ u huo] at h
    cases h
    exact .inl ⟨rfl, rfl⟩
  · cases u <;> simp [JVal.isObj] at huo
    rename_i sub
    cases dvo with
    | none =>
      rw [updateVal_obj_none] at h
      cases hu : updateConf g [] sub <;> simp [hu, Except.map] at h
      rw [← h] at hv'; cases hv'
    | some dv =>
      rw [updateVal_obj_other g dv sub (hd dv rfl)] at h
      cases g
      · cases sub with
        | nil => simp at h; exact .inr ⟨rfl, rfl, by rw [h]⟩
        | cons kv rest => obtain ⟨k0, v0⟩ := kv; cases v0 <;> simp at h
      · simp at h

theorem updateConf_keys_nodup (g : Bool) (d S S' : Dict) (hnd : (Dict.keys S).Nodup) (hd : (Dict.keys d).Nodup)
    (h : updateConf g d S = .ok S') : (Dict.keys S').Nodup := by
  obtain ⟨hk, _, _⟩ := updateConf_inv g S d S' hnd h
  rw [hk]
  exact nodup_append_filter hd hnd

/-- needs `strictMerge`: without it an empty user dictionary leaves the leaf default it meets in place -/
theorem updateConf_leaves_of_strict {d S S' : Dict} (hnd : (Dict.keys S).Nodup) (hdl : ∀ kv ∈ d, kv.2.isObj = false)
    (h : updateConf true d S = .ok S') (hall : ∀ kv ∈ S', kv.2.isObj = false) : ∀ kv ∈ S, kv.2.isObj = false := by
  obtain ⟨-, -, hsome⟩ := updateConf_inv true S d S' hnd h
  intro kv hkv
  obtain ⟨v', hv', hl'⟩ := hsome kv.1 kv.2 (lookup_of_mem S kv.1 kv.2 hnd hkv)
  rcases updateVal_flat_inv (fun dv hdv => hdl (kv.1, dv) (mem_of_lookup d _ _ hdv)) hv'
    (hall (kv.1, v') (mem_of_lookup S' kv.1 v' hl')) with ⟨hu, -⟩ | ⟨hg, -⟩
  · exact hu
  · cases hg

theorem updateConf_leaf_fixed (g : Bool) (d S S' : Dict) (hnd : (Dict.keys S).Nodup)
    (hdv : ∀ kv ∈ d, kv.2.isObj = false ∧ rewriteLeaf kv.2 = kv.2)
    (h : updateConf g d S = .ok S') (k : String) (v : JVal) (hv : Dict.lookup S' k = some v)
    (hvo : v.isObj = false) : rewriteLeaf v = v := by
  obtain ⟨_, hnone, hsome⟩ := updateConf_inv g S d S' hnd h
  cases hl : Dict.lookup S k with
  | none => rw [hnone k hl] at hv; exact (hdv (k, v) (mem_of_lookup d k v hv)).2
  | some u =>
    obtain ⟨v', hv', hl'⟩ := hsome k u hl
    rw [hv] at hl'; cases hl'
    rcases updateVal_flat_inv (fun dv hdk => (hdv (k, dv) (mem_of_lookup d k dv hdk)).1) hv' hvo with
      ⟨-, rfl⟩ | ⟨-, -, hdk⟩
    · exact rewriteLeaf_idem u
    · exact (hdv (k, v) (mem_of_lookup d k v hdk)).2

theorem updateConf_item_error (g : Bool) (e d : Dict) (hnd : (Dict.keys e).Nodup) (k : String) (v : JVal)
    (hk : Dict.lookup e k = some v) (err : Err) (hv : updateVal g (Dict.lookup d k) v = .error err)
    (out : Dict) : updateConf g d e ≠ .ok out := by
  intro h
  obtain ⟨_, _, hsome⟩ := updateConf_inv g e d out hnd h
  obtain ⟨v', hv', _⟩ := hsome k v hk
  rw [hv] at hv'; cases hv'

mutual
/-- a value merged where the default has nothing: a deep copy with the magic strings rewritten -/
theorem updateVal_none (g : Bool) : ∀ v : JVal, wfVal v = true → updateVal g none v = .ok (deepRw v)
  | .obj sub, h => by
    have := updateConf_fresh g sub [] (by simpa using h) (by intro k _; simp [Dict.lookup])
    simp [updateVal, this, Except.map]
  | .null, _ | .bool _, _ | .int _, _ | .float _, _ | .str _, _ | .list _, _ => by simp [updateVal, deepRw]
/-- items whose keys are all new are appended, deep-copied -/
theorem updateConf_fresh (g : Bool) : ∀ (items cur : Dict), wfDict items = true →
    (∀ k ∈ Dict.keys items, Dict.lookup cur k = none) →
    updateConf g cur items = .ok (cur ++ deepRwD items)
  | [], cur, _, _ => by simp [updateConf]
  | (k, v) :: rest, cur, h, hnew => by
    simp only [wfDict_cons, Bool.and_eq_true, Bool.not_eq_true'] at h
    have hk : Dict.lookup cur k = none := hnew k (by simp [Dict.keys])
    have hknr : k ∉ Dict.keys rest := (hasKey_eq_false_iff rest k).1 h.1
    rw [updateConf_cons, hk, updateVal_none g v h.2.1]
    simp only
    rw [setKey_absent cur k _ hk, updateConf_fresh g rest (cur ++ [(k, deepRw v)]) h.2.2]
    · simp
    · intro q hq
      have hne : k ≠ q := fun e => hknr (e ▸ hq)
      have : Dict.lookup cur q = none := hnew q (by simp [Dict.keys] at hq ⊢; exact Or.inr hq)
      rw [← setKey_absent cur k _ hk, lookup_setKey]; simp [hne, this]
end

mutual
/-- a value that is already what `update_conf` would make of it, merged onto itself -/
theorem updateVal_self (g : Bool) : ∀ v : JVal, wfVal v = true → fixedVal v →
    updateVal g (some v) v = .ok v
  | .obj sub, h, hf => by
    have hf' : deepRwD sub = sub := (fixedVal_obj _).1 hf
    have := updateConf_sub g sub sub (by simpa using h) hf' (fun _ _ hl => hl)
    simp [updateVal, this, Except.map]
  | .null, _, _ | .bool _, _, _ | .int _, _, _ | .float _, _, _ | .list _, _, _ => by simp [updateVal, rewriteLeaf]
  | .str s, _, hf => by
    have := rewriteLeaf_of_fixed (v := .str s) hf
    simp [updateVal, this]
/-- merging a part of a dictionary into that dictionary changes nothing -/
theorem updateConf_sub (g : Bool) : ∀ (e d : Dict), wfDict e = true → deepRwD e = e →
    (∀ k v, Dict.lookup e k = some v → Dict.lookup d k = some v) → updateConf g d e = .ok d
  | [], d, _, _, _ => updateConf_nil g d
  | (k, v) :: rest, d, h, hf, hsub => by
    simp only [wfDict_cons, Bool.and_eq_true, Bool.not_eq_true'] at h
    simp only [deepRwD_cons, List.cons.injEq, Prod.mk.injEq, true_and] at hf
    have hk : Dict.lookup d k = some v := hsub k v (by simp [Dict.lookup])
    have hknr : Dict.lookup rest k = none := by
      cases hl : Dict.lookup rest k with
      | none => rfl
      | some u => simp [Dict.hasKey, hl] at h
    rw [updateConf_cons, hk, updateVal_self g v h.2.1 hf.1]
    simp only
    rw [setKey_same d k v hk]
    apply updateConf_sub g rest d h.2.2 hf.2
    intro q u hq
    have hne : k ≠ q := by
      intro e; subst e; rw [hknr] at hq; cases hq
    exact hsub q u (by simpa [Dict.lookup, hne] using hq)
end

/-- merging `e` into `d` returns `e` itself when `e` has the keys of `d` first and every value of
    `e` merges into what `d` holds under its key to itself -/
theorem updateConf_replace (g : Bool) (d e : Dict) (X : List String) (hnd : (Dict.keys e).Nodup)
    (hkeys : Dict.keys e = Dict.keys d ++ X)
    (hitem : ∀ k v, Dict.lookup e k = some v → updateVal g (Dict.lookup d k) v = .ok v) :
    updateConf g d e = .ok e := by
  -- the merge succeeds (every item merges); its result has the keys of `e` and the same lookups, so it is `e`
  obtain ⟨out, hout⟩ := updateConf_intro g e d hnd (fun k v hl => ⟨v, hitem k v hl⟩)
  obtain ⟨hk, hnone, hsome⟩ := updateConf_inv g e d out hnd hout
  have hdisj : ∀ x ∈ X, x ∉ Dict.keys d := by
    intro x hx hd
    rw [hkeys] at hnd
    exact (List.nodup_append.1 hnd).2.2 x hd x hx rfl
  have hfilter : (Dict.keys e).filter (fun k => !(Dict.keys d).contains k) = X := by
    rw [hkeys, List.filter_append]
    have h1 : (Dict.keys d).filter (fun k => !(Dict.keys d).contains k) = [] := by
      rw [List.filter_eq_nil_iff]; intro a ha; simp [ha]
    have h2 : X.filter (fun k => !(Dict.keys d).contains k) = X := by
      rw [List.filter_eq_self]; intro a ha; simp [hdisj a ha]
    rw [h1, h2]; rfl
  have hkeysEq : Dict.keys out = Dict.keys e := by rw [hk, hfilter, hkeys]
  have : out = e := by
    apply dict_ext out e hkeysEq (by rw [hkeysEq]; exact hnd)
    intro k
    cases hl : Dict.lookup e k with
    | some v =>
      obtain ⟨v', hv', hlo⟩ := hsome k v hl
      rw [hitem k v hl] at hv'; cases hv'
      exact hlo
    | none =>
      rw [hnone k hl]
      have : k ∉ Dict.keys d := by
        intro hd
        have : k ∈ Dict.keys e := by rw [hkeys]; exact List.mem_append_left _ hd
        exact (lookup_none_iff e k).1 hl this
      exact (lookup_none_iff d k).2 this
  rw [hout, this]

theorem updateConf_again (g : Bool) (d S S' : Dict) (hnd : (Dict.keys S).Nodup) (hnd' : (Dict.keys S').Nodup)
    (hdv : ∀ kv ∈ d, kv.2.isObj = false ∧ rewriteLeaf kv.2 = kv.2) (hm : updateConf g d S = .ok S')
    (hall : ∀ kv ∈ S', kv.2.isObj = false) : updateConf g d S' = .ok S' := by
  obtain ⟨hk, _, _⟩ := updateConf_inv g S d S' hnd hm
  apply updateConf_replace g d S' _ hnd' hk
  intro k v hv
  have hvo := hall (k, v) (mem_of_lookup S' k v hv)
  rw [updateVal_leaf g _ v hvo, updateConf_leaf_fixed g d S S' hnd hdv hm k v hv hvo]

theorem updateVal_kept_or_new (g : Bool) (dv : Option JVal) (v : JVal) (hwf : wfVal v = true)
    (hf : fixedVal v) (h : dv = some v ∨ dv = none) : updateVal g dv v = .ok v := by
  rcases h with rfl | rfl
  · exact updateVal_self g v hwf hf
  · rw [updateVal_none g v hwf, hf]

/-- a dictionary in the form `update_conf` delivers, merged onto a prefix of itself, is returned as it is -/
theorem updateConf_append (g : Bool) (d X : Dict) (hw : wfDict (d ++ X) = true) (hf : deepRwD (d ++ X) = d ++ X) :
    updateConf g d (d ++ X) = .ok (d ++ X) := by
  apply updateConf_replace g d (d ++ X) (Dict.keys X) (wfDict_keys_nodup _ hw) (by simp [Dict.keys])
  intro k v hk
  have hm := mem_of_lookup _ k v hk
  apply updateVal_kept_or_new g _ v (wfDict_mem hw hm) (fixedDict_mem hf hm)
  rw [lookup_append] at hk
  cases hd : Dict.lookup d k with
  | some u => rw [hd] at hk; exact Or.inl hk
  | none => exact Or.inr rfl

/-- `Checker(schema).validate(cfg)` for a dictionary schema: every named key validates (an absent
    one must be optional) and the dictionary has no other key; a non-dictionary is refused -/
theorem dict_accepts_iff (o : Oracle) (entries : List (String × Bool × Schema)) (kvs : Dict) :
    Schema.accepts o (.dict entries) (.obj kvs) = true ↔
      (∀ e ∈ entries, (match Dict.lookup kvs e.1 with
                       | some v => Schema.accepts o e.2.2 v = true
                       | none => e.2.1 = true)) ∧
      (∀ kv ∈ kvs, ∃ e ∈ entries, e.1 = kv.1) := by
  simp only [Schema.accepts_dict, Bool.and_eq_true, List.all_eq_true, List.any_eq_true, beq_iff_eq]
  refine and_congr_left fun _ => forall_congr' fun e => imp_congr_right fun _ => ?_
  cases h : Dict.lookup kvs e.1 with
  | some v => rw [Schema.entryOk_of_lookup_some h]
  | none => rw [Schema.entryOk_of_lookup_none h]

theorem dict_accepts_lookup {o : Oracle} {entries : List (String × Bool × Schema)} {kvs : Dict} {k : String} {v : JVal}
    (hacc : Schema.accepts o (.dict entries) (.obj kvs) = true) (hl : Dict.lookup kvs k = some v) :
    ∃ e ∈ entries, e.1 = k ∧ Schema.accepts o e.2.2 v = true := by
  obtain ⟨hent, hkeys⟩ := (dict_accepts_iff o entries kvs).1 hacc
  obtain ⟨e, he, hek⟩ := hkeys (k, v) (mem_of_lookup kvs k v hl)
  have := hent e he
  rw [show e.1 = k from hek, hl] at this
  exact ⟨e, he, hek, this⟩

/-! What the lambdas of the step schemas are made of: `And(type, lambda)`, a number (the parameter, or the
parameter modulo a literal) compared with an integer literal, combined by `and` / `or` / `&`, and `x in (…)`. -/

theorem accepts_type_func (o : Oracle) (t : PyType) (body : Expr) (v : JVal) :
    Schema.accepts o (.all [.type t, .func body]) v = (t.isInstance v && body.holds v) := by
  simp only [Schema.accepts_all, Schema.accepts_type, Schema.accepts_func, List.all_cons, List.all_nil, Bool.and_true]

theorem pyCmp_num {a b : JVal} {x y : Num} (ha : a.toNum? = some x) (hb : b.toNum? = some y) (op : CmpOp) :
    pyCmp op a b = some (.bool (cmpNum op x y)) := by
  cases op <;> simp only [pyCmp, pyEq, ha, hb, cmpNum]

theorem eval_cmp_var_lit {x : JVal} {nx : Num} (h : x.toNum? = some nx) (op : CmpOp) (n : Int) :
    (Expr.cmp op .var (.lit (.int n))).eval x = some (.bool (cmpNum op nx (.int n))) := by
  simp only [Expr.eval, pyCmp_num (b := .int n) h rfl]

theorem eval_cmp_lit_var {x : JVal} {nx : Num} (h : x.toNum? = some nx) (op : CmpOp) (n : Int) :
    (Expr.cmp op (.lit (.int n)) .var).eval x = some (.bool (cmpNum op (.int n) nx)) := by
  simp only [Expr.eval, pyCmp_num (a := .int n) rfl h]

theorem eval_cmp_mod (op : CmpOp) (i m n : Int) :
    (Expr.cmp op (.mod .var m) (.lit (.int n))).eval (.int i) = some (.bool (cmpNum op (.int (i % m)) (.int n))) := by
  simp only [Expr.eval, pyMod, pyCmp_num (a := .int (i % m)) (b := .int n) rfl rfl]

/-! on operands that are Booleans (comparisons), the operand-returning `and` / `or` and `&` are the
    Boolean connectives -/

theorem eval_and_bool {a b : Expr} {x : JVal} {p q : Bool} (ha : a.eval x = some (.bool p))
    (hb : b.eval x = some (.bool q)) : (a.and b).eval x = some (.bool (p && q)) := by
  cases p <;> simp [Expr.eval, ha, hb, JVal.truthy]

theorem eval_or_bool {a b : Expr} {x : JVal} {p q : Bool} (ha : a.eval x = some (.bool p))
    (hb : b.eval x = some (.bool q)) : (a.or b).eval x = some (.bool (p || q)) := by
  cases p <;> simp [Expr.eval, ha, hb, JVal.truthy]

theorem eval_bitand_bool {a b : Expr} {x : JVal} {p q : Bool} (ha : a.eval x = some (.bool p))
    (hb : b.eval x = some (.bool q)) : (a.bitand b).eval x = some (.bool (p && q)) := by
  simp only [Expr.eval, ha, hb, pyBitand]

theorem holds_of_eval {e : Expr} {x : JVal} {p : Bool} (h : e.eval x = some (.bool p)) : e.holds x = p := by
  simp only [Expr.holds, h, JVal.truthy]

theorem holds_isIn_var (items : List JVal) (x : JVal) :
    (Expr.isIn .var items).holds x = items.any (fun it => pyEq x it) := rfl

theorem pyEq_int (i n : Int) : pyEq (.int i) (.int n) = decide (i = n) := rfl

theorem pyEq_str (s t : String) : pyEq (.str s) (.str t) = decide (s = t) := by
  show decide (JVal.str s = JVal.str t) = decide (s = t)
  simp only [JVal.str.injEq]

end Pandora.Merge

namespace Pandora.ConfigSpec

theorem Dom.and_eq_reject (a b : Dom) : Dom.and a b = .reject ↔ a = .reject ∨ b = .reject := by
  cases a <;> cases b <;> simp [Dom.and]

theorem Dom.and_eq_accept (a b : Dom) : Dom.and a b = .accept ↔ a = .accept ∧ b = .accept := by
  cases a <;> cases b <;> simp [Dom.and]

end Pandora.ConfigSpec
