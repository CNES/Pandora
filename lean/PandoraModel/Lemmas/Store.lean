/-
  Reading a `PyArr.Store` after `set` and `alloc` — the array written holds the new content, every other array the content
  it had — and the block loops as one `set`.  The other statements are `set`s and `alloc`s (`Lemmas/StorePush.lean`).
  (The block loop with two destinations, `blockedSt2` of `Model/PyArrMultiscale.lean`, has its twin lemmas beside its one
  program, `Properties/C15Kernels.lean`: that model file imports the multiscale model, this file only `Model/PyArr.lean`.)
  Core Lean only.
-/
import PandoraModel.Model.PyArr

namespace Pandora.PyArr
variable {α : Type} (s : Store α)

@[ext] theorem Store.ext {s t : Store α} (h1 : s.arr = t.arr) (h2 : s.next = t.next) : s = t := by
  cases s; cases t; cases h1; cases h2; rfl

theorem set_arr (d : Nat) (a : Arr α) (k : Nat) : (s.set d a).arr k = if k = d then a else s.arr k := rfl

@[simp] theorem set_arr_self (k : Nat) (a : Arr α) : (s.set k a).arr k = a :=
  if_pos rfl

@[simp] theorem set_arr_ne {k j : Nat} (h : j ≠ k) (a : Arr α) : (s.set k a).arr j = s.arr j :=
  if_neg h

theorem set_set (k : Nat) (a b : Arr α) : (s.set k a).set k b = s.set k b := by
  refine Store.ext (funext fun j => ?_) rfl
  rw [set_arr, set_arr, set_arr]
  split <;> rfl

theorem set_comm {j k : Nat} (h : j ≠ k) (a b : Arr α) : (s.set j a).set k b = (s.set k b).set j a := by
  refine Store.ext (funext fun i => ?_) rfl
  rw [set_arr, set_arr, set_arr, set_arr]
  split
  · subst i; rw [if_neg (Ne.symm h)]
  · rfl

theorem set_same (k : Nat) : s.set k (s.arr k) = s := by
  refine Store.ext (funext fun j => ?_) rfl
  rw [set_arr]
  split
  · subst j; rfl
  · rfl

@[simp] theorem alloc_snd (a : Arr α) : (s.alloc a).2 = s.next := rfl

@[simp] theorem alloc_next (a : Arr α) : (s.alloc a).1.next = s.next + 1 := rfl

theorem alloc_arr (a : Arr α) (k : Nat) : (s.alloc a).1.arr k = if k = s.next then a else s.arr k := rfl

@[simp] theorem alloc_arr_new (a : Arr α) : (s.alloc a).1.arr s.next = a :=
  if_pos rfl

@[simp] theorem alloc_arr_old (a : Arr α) {j : Nat} (h : j ≠ s.next) : (s.alloc a).1.arr j = s.arr j :=
  if_neg h

theorem innerLoopSt_eq (kern : Arr α → Nat → Nat → α) (dst base : Nat) (h : dst ≠ base) (yb ylen ys : Nat) :
    ∀ (chunks : List (Nat × Nat)) (xb : Nat) (s : Store α),
      innerLoopSt kern dst base yb ylen ys chunks xb s =
        s.set dst (Blocks.innerLoop (kern (s.arr base)) yb ylen ys chunks xb (s.arr dst))
  | [], xb, s => (set_same s dst).symm
  | (xs, xlen) :: rest, xb, s => by
    rw [innerLoopSt, innerLoopSt_eq kern dst base h yb ylen ys rest (xb + xlen) _, assignSt,
      set_arr_ne _ (Ne.symm h), set_arr_self, set_set, Blocks.innerLoop]

theorem outerLoopSt_eq (kern : Arr α → Nat → Nat → α) (dst base : Nat) (h : dst ≠ base)
    (xchunks : List (Nat × Nat)) (offx : Nat) :
    ∀ (chunks : List (Nat × Nat)) (yb : Nat) (s : Store α),
      outerLoopSt kern dst base xchunks offx chunks yb s =
        s.set dst (Blocks.outerLoop (kern (s.arr base)) xchunks offx chunks yb (s.arr dst))
  | [], yb, s => (set_same s dst).symm
  | (ys, ylen) :: rest, yb, s => by
    rw [outerLoopSt, outerLoopSt_eq kern dst base h xchunks offx rest (yb + ylen) _,
      innerLoopSt_eq kern dst base h, set_arr_ne _ (Ne.symm h), set_arr_self, set_set, Blocks.outerLoop]

end Pandora.PyArr
