/-
  Laws of the scalar run-time support `Model/PyExpr.lean`: Python's `int()` of an exact rational (`rtrunc`; the definitions
  of the same function that other translators' kernels are stated with, `PyInterp.truncRat`, `Refinement.pyInt` and
  `PyVecIdx.truncQ`, are equal to it), `min` / `max` of integers and of floats that are not NaN, `&` on non-negative integers,
  and the arithmetic of `Val` on numbers (a simp set, under the names the documents of C06 cite: `C06Kernels.v…_num`).
-/
import PandoraModel.Model.PyInterp
import PandoraModel.Model.Refinement
import PandoraModel.Model.PyVecIdx
import Mathlib.Data.Rat.Floor

namespace Pandora.PyExpr

theorem rtrunc_of_nonneg {q : ℚ} (h : 0 ≤ q) : rtrunc q = q.floor := if_neg (not_lt.mpr h)

theorem rtrunc_intCast (z : Int) : rtrunc (z : ℚ) = z := by
  unfold rtrunc; split
  · exact Rat.ceil_intCast z
  · exact Rat.floor_intCast z

theorem rtrunc_div (a : Int) (b : Nat) (hb : 0 < b) : rtrunc ((a : ℚ) / (b : ℚ)) = Int.tdiv a b := by
  have hb' : (0 : ℚ) < (b : ℚ) := by exact_mod_cast hb
  by_cases ha : 0 ≤ a
  · rw [rtrunc_of_nonneg (div_nonneg (by exact_mod_cast ha) hb'.le), Int.tdiv_eq_ediv_of_nonneg ha]
    exact Rat.floor_intCast_div_natCast a b
  · have ha' : a < 0 := not_le.mp ha
    rw [rtrunc, if_pos (div_neg_of_neg_of_pos (by exact_mod_cast ha') hb'), Rat.ceil_eq_neg_floor_neg,
      show -((a : ℚ) / (b : ℚ)) = ((-a : Int) : ℚ) / (b : ℚ) by push_cast; ring,
      show (((-a : Int) : ℚ) / (b : ℚ)).floor = -a / (b : Int) from Rat.floor_intCast_div_natCast (-a) b,
      ← Int.tdiv_eq_ediv_of_nonneg (by omega), Int.neg_tdiv, Int.neg_neg]

theorem rtrunc_half (a : Int) (ha : 0 ≤ a) : rtrunc ((a : ℚ) / 2) = a / 2 :=
  (rtrunc_div a 2 (by decide)).trans (Int.tdiv_eq_ediv_of_nonneg ha)

theorem truncRat_eq (q : ℚ) : PyInterp.truncRat q = rtrunc q := by
  conv_rhs => rw [← Rat.num_div_den q]
  exact (rtrunc_div q.num q.den q.den_pos).symm

theorem pyInt_eq (q : ℚ) : Refinement.pyInt q = rtrunc q := by
  unfold Refinement.pyInt rtrunc
  by_cases h : 0 ≤ q
  · rw [if_pos h, if_neg (not_lt.mpr h)]
  · rw [if_neg h, if_pos (not_le.mp h), Rat.ceil_eq_neg_floor_neg]

theorem truncQ_eq (q : ℚ) : PyVecIdx.truncQ q = rtrunc q := pyInt_eq q

theorem rmax_eq_max (a b : ℚ) : rmax a b = max a b := by
  unfold rmax; split_ifs with h
  · exact (max_eq_right h.le).symm
  · exact (max_eq_left (not_lt.mp h)).symm

theorem rmin_eq_min (a b : ℚ) : rmin a b = min a b := by
  unfold rmin; split_ifs with h
  · exact (min_eq_right h.le).symm
  · exact (min_eq_left (not_lt.mp h)).symm

theorem imax_eq_max (a b : Int) : imax a b = max a b := by unfold imax; split <;> omega

theorem imin_eq_min (a b : Int) : imin a b = min a b := by unfold imin; split <;> omega

/-- the test `size > 0` of an extent clamped at 0 -/
theorem imax_pos (a : Int) : 0 < imax a 0 ↔ 0 < a := by rw [imax_eq_max]; omega

theorem imin_nat (a b : Nat) : imin (a : Int) (b : Int) = ((min a b : Nat) : Int) := by
  rw [imin_eq_min]; omega

theorem imax_nat (a b : Nat) : imax (a : Int) (b : Int) = ((max a b : Nat) : Int) := by
  rw [imax_eq_max]; omega

/-- the clamps `max(0, lo - 1)` and `min(n - 1, hi + 1)` of an index next to `lo` / `hi`; each is stated for both orders of
    the operands (primed: the other order), since `simp` matches the text of the source -/
theorem imax_pred (lo : Nat) : imax 0 ((lo : Int) - 1) = ((lo - 1 : Nat) : Int) := by
  rw [imax_eq_max]; omega

theorem imax_pred' (lo : Nat) : imax ((lo : Int) - 1) 0 = ((lo - 1 : Nat) : Int) := by
  rw [imax_eq_max, max_comm, ← imax_eq_max]; exact imax_pred lo

theorem imin_succ (n hi : Nat) (hn : 0 < n) :
    imin ((n : Int) - 1) ((hi : Int) + 1) = ((min (n - 1) (hi + 1) : Nat) : Int) := by
  rw [imin_eq_min]; omega

theorem imin_succ' (n hi : Nat) (hn : 0 < n) :
    imin ((hi : Int) + 1) ((n : Int) - 1) = ((min (n - 1) (hi + 1) : Nat) : Int) := by
  rw [imin_eq_min, min_comm, ← imin_eq_min]; exact imin_succ n hi hn

end Pandora.PyExpr

namespace Pandora.PyInterp

theorem band_natCast (f c : Nat) : band (f : Int) (c : Int) = ((f &&& c : Nat) : Int) := by
  simp [band]

/-- the test `x & c == 0` of a flag word -/
theorem band_eq_zero_iff (f c : Nat) : band (f : Int) (c : Int) = 0 ↔ f &&& c = 0 := by
  rw [band_natCast, Int.natCast_eq_zero]

end Pandora.PyInterp

namespace Pandora.C06Kernels
open Pandora.PyExpr

@[simp] theorem vlt_num (a b : ℚ) : vlt (.num a) (.num b) = decide (a < b) := rfl
@[simp] theorem vle_num (a b : ℚ) : vle (.num a) (.num b) = decide (a ≤ b) := rfl
@[simp] theorem veq_num (a b : ℚ) : veq (.num a) (.num b) = decide (a = b) := rfl
@[simp] theorem vne_num (a b : ℚ) : vne (.num a) (.num b) = !decide (a = b) := rfl
@[simp] theorem vadd_num (a b : ℚ) : vadd (.num a) (.num b) = .num (a + b) := rfl
@[simp] theorem vsub_num (a b : ℚ) : vsub (.num a) (.num b) = .num (a - b) := rfl
@[simp] theorem vmul_num (a b : ℚ) : vmul (.num a) (.num b) = .num (a * b) := rfl
@[simp] theorem vdiv_num (a b : ℚ) : vdiv (.num a) (.num b) = .num (a / b) := rfl
@[simp] theorem vneg_num (a : ℚ) : vneg (.num a) = .num (-a) := rfl
@[simp] theorem vabs_num (a : ℚ) : vabs (.num a) = .num (rabs a) := rfl
@[simp] theorem vpow_num (a : ℚ) (n : Nat) : vpow (.num a) n = .num (rpow a n) := rfl
@[simp] theorem visZero_num (a : ℚ) : visZero (.num a) = decide (a = 0) := rfl
@[simp] theorem vmax_num (a b : ℚ) : vmax (.num a) (.num b) = .num (rmax a b) := by
  simp only [vmax, rmax, vlt_num, decide_eq_true_eq]; split_ifs <;> rfl
@[simp] theorem vmin_num (a b : ℚ) : vmin (.num a) (.num b) = .num (rmin a b) := by
  simp only [vmin, rmin, vlt_num, decide_eq_true_eq]; split_ifs <;> rfl

end Pandora.C06Kernels
