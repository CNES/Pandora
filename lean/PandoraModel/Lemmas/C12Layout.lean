/-
  C12 — ambiguity: the flat `np.repeat / reshape / .T / flatten` layout used by the ambiguity and risk kernels is the
  (disparity, eta) product it is meant to be, hence the kernel's count is the specification's ambiguity integral; the
  repair proposed for finding F10 (negate the cost volume of a max measure before the kernels) is correct with respect
  to the specification.
-/
import PandoraModel.Lemmas.C12Lists

namespace Pandora.C12
open Pandora.Confidence

theorem npRepeat_nil {α} (k : Nat) : npRepeat ([] : List α) k = [] := rfl

theorem length_npRepeat {α} (xs : List α) (k : Nat) : (npRepeat xs k).length = xs.length * k := by
  rw [npRepeat, List.length_flatMap]
  simp only [List.length_replicate]
  exact sum_map_const xs k

theorem chunks_append {α} (k n : Nat) (l₁ l₂ : List α) (h : l₁.length = k) :
    chunks k (n + 1) (l₁ ++ l₂) = l₁ :: chunks k n l₂ := by
  subst h
  simp [chunks]

theorem mem_chunks {α} (k : Nat) : ∀ (n : Nat) (l : List α) (row : List α), row ∈ chunks k n l → ∀ x ∈ row, x ∈ l := by
  intro n
  induction n with
  | zero => intro l row h; simp [chunks] at h
  | succ n ih =>
    intro l row h x hx
    rw [chunks, List.mem_cons] at h
    rcases h with rfl | h
    · exact List.mem_of_mem_take hx
    · exact List.mem_of_mem_drop (ih _ _ h x hx)

theorem chunks_flatMap {α β} (xs : List α) (g : α → List β) (k : Nat) (hg : ∀ x ∈ xs, (g x).length = k) :
    chunks k xs.length (xs.flatMap g) = xs.map g := by
  induction xs with
  | nil => simp [chunks]
  | cons x xs ih =>
    rw [List.flatMap_cons, List.length_cons, chunks_append k _ _ _ (hg x (by simp))]
    rw [ih (fun y hy => hg y (by simp [hy]))]
    simp

theorem map_columns {α ε β γ} (d : β) (rows : List α) (etas : List ε) (g : α → ε → β) (F : List β → γ) :
    (List.range etas.length).map (fun i => F (column d (rows.map (fun r => etas.map (g r))) i))
      = etas.map (fun e => F (rows.map (fun r => g r e))) := by
  apply List.ext_getElem
  · simp
  · intro i h1 h2
    have hi : i < etas.length := by simpa using h1
    simp only [List.getElem_map, List.getElem_range, column, List.map_map]
    congr 1
    apply List.map_congr_left
    intro r _
    simp [List.getD_eq_getElem?_getD, hi]

/-- `np.repeat(xs, n)` zipped with `n_x` tiled copies of `ys` (`n = len(ys)`) is the product `xs × ys` -/
theorem zipWith_repeat_tile {α β γ} (f : α → β → γ) (xs : List α) (ys : List β) :
    List.zipWith f (npRepeat xs ys.length) (List.replicate xs.length ys).flatten
      = xs.flatMap (fun x => ys.map (f x)) := by
  rw [← List.map_const', ← List.flatMap_def, npRepeat, zipWith_flatMap_flatMap f xs _ _ (by simp)]
  congr 1
  funext x
  exact zipWith_replicate_left f x ys _ (Nat.le_refl _)

theorem reshape_repeat {α} (l : List α) (n : Nat) (h : 0 < n) :
    reshapeRows (npRepeat l n) n = l.map (List.replicate n) := by
  unfold reshapeRows
  rw [length_npRepeat, Nat.mul_div_cancel _ h]
  exact chunks_flatMap l (List.replicate n) n (by simp)

theorem transpose_replicate_rows {α} (d : α) (l : List α) (n : Nat) :
    transposeN d n (l.map (List.replicate n)) = List.replicate n l := by
  unfold transposeN column
  rw [List.map_congr_left (g := fun _ => l)]
  · rw [List.map_const', List.length_range]
  · intro j hj
    simp at hj
    rw [List.map_map]
    conv => rhs; rw [← List.map_id l]
    apply List.map_congr_left
    intro e _
    simp [List.getD_eq_getElem?_getD, hj]

/-- `np.repeat(l, n).reshape((-1, n)).T.flatten()` is `l` tiled `n` times (numba has no `np.tile`) -/
theorem tile_eq {α} (d : α) (l : List α) (n : Nat) :
    (transposeN d n (reshapeRows (npRepeat l n) n)).flatten = (List.replicate n l).flatten := by
  cases n with
  | zero => rfl
  | succ n => rw [reshape_repeat l _ (Nat.succ_pos n), transpose_replicate_rows]

/-- `two_dim_etas` is the eta grid tiled once per disparity (index `d * n_eta + i ↦ eta_i`) -/
theorem twoDimEtas_eq (etas : List Rat) (nd : Nat) : twoDimEtas etas nd = (List.replicate nd etas).flatten :=
  tile_eq 0 etas nd

/-- flat index `d * n_eta + i` of the comparison array holds "cell `d` is within `eta_i` of the best" -/
theorem pixelCmp_eq (mn mx : Rat) (etas : List Rat) (curve : Curve) (m : Rat) :
    pixelCmp mn mx etas curve m
      = curve.flatMap (fun c => etas.map (fun e => Spec.within false mn mx m e c)) := by
  unfold pixelCmp
  simp only []
  rw [twoDimEtas_eq etas curve.length]
  rw [zipWith_replicate_left _ _ _ _ (Nat.le_of_eq (length_flatten_replicate _ _))]
  have h1 : ((List.replicate curve.length etas).flatten).map (fun x => (m - mn) / (mx - mn) + x)
      = (List.replicate (curve.map (normNeg mn mx)).length (etas.map (fun x => (m - mn) / (mx - mn) + x))).flatten := by
    rw [List.length_map, List.map_flatten, List.map_replicate]
  rw [h1]
  have h2 : etas.length = (etas.map (fun x => (m - mn) / (mx - mn) + x)).length := by simp
  rw [h2, zipWith_repeat_tile, List.flatMap_map]
  congr 1
  funext c
  rw [List.map_map]
  apply List.map_congr_left
  intro e _
  cases c with
  | nan => rfl
  | num q => exact decide_eq_decide.mpr Iff.rfl

theorem countP_within_all_nan (isMax : Bool) (mn mx b e : Rat) (curve : Curve) (hall : ∀ c ∈ curve, c = Val.nan) :
    curve.countP (Spec.within isMax mn mx b e) = curve.length := by
  rw [List.countP_eq_length]
  intro c hc
  rw [hall c hc]; rfl

/-- **ambiguity_def** (pixel level, `min` measure): the kernel's flat count is the ambiguity integral
    of the specification — for every curve, every eta grid, every normalisation range `mn ≠ mx` -/
theorem pixelAmbiguity_spec (mn mx : Rat) (etas : List Rat) (curve : Curve) (hne : mx ≠ mn) :
    pixelAmbiguity mn mx etas curve = Spec.ambCount false mn mx etas curve := by
  unfold pixelAmbiguity Spec.ambCount Spec.ambAt
  rw [pixelBest_eq mn mx curve hne]
  cases hb : Spec.best false curve with
  | none =>
    simp only [countP_within_all_nan _ _ _ _ _ curve ((best_none_iff false curve).1 hb)]
    rw [sum_map_const]
  | some m =>
    simp only [Option.getD_some]
    rw [pixelCmp_eq mn mx etas curve m]
    exact count_flatMap_map curve etas (fun c e => Spec.within false mn mx m e c)

theorem pixelSampled_spec (mn mx : Rat) (etas : List Rat) (curve : Curve) (hne : mx ≠ mn) :
    pixelSampled mn mx etas curve = etas.map (Spec.ambAt false mn mx curve) := by
  unfold pixelSampled Spec.ambAt
  rw [pixelBest_eq mn mx curve hne]
  cases hb : Spec.best false curve with
  | none =>
    simp only [countP_within_all_nan _ _ _ _ _ curve ((best_none_iff false curve).1 hb)]
    rw [List.map_const']
  | some m =>
    simp only [Option.getD_some]
    rw [pixelCmp_eq mn mx etas curve m]
    rw [chunks_flatMap curve _ etas.length (by simp),
      map_columns false curve etas (fun c e => Spec.within false mn mx m e c) (List.count true)]
    exact List.map_congr_left fun e _ => count_true_map curve _

def negCurve (curve : Curve) : Curve := curve.map (Val.map (fun c => -c))

theorem best_neg (curve : Curve) : Spec.best false (negCurve curve) = (Spec.best true curve).map (fun c => -c) := by
  unfold Spec.best negCurve
  simp only [Bool.false_eq_true, if_false, if_true]
  rw [numsOf_map, lmin_map_neg]

theorem norm_neg (mn mx c : Rat) (hne : mx ≠ mn) : Spec.norm (-mx) (-mn) (-c) = 1 - Spec.norm mn mx c := by
  have hd : mx - mn ≠ 0 := sub_ne_zero.mpr hne
  unfold Spec.norm
  rw [show -mn - -mx = mx - mn by ring, eq_sub_iff_add_eq, ← add_div, div_eq_one_iff_eq hd]
  ring

theorem within_neg (mn mx b e : Rat) (hne : mx ≠ mn) (c : Val) :
    Spec.within false (-mx) (-mn) (-b) e (Val.map (fun c => -c) c) = Spec.within true mn mx b e c := by
  cases c with
  | nan => rfl
  | num q =>
    simp only [Val.map, Spec.within, Bool.false_eq_true, if_false, if_true, norm_neg _ _ _ hne]
    exact decide_eq_decide.mpr ⟨fun h => by linarith, fun h => by linarith⟩

/-- on the negated curve (and the negated, swapped normalisation range) the min-measure ambiguity integral is the
    max-measure one of the original curve -/
theorem ambCount_neg (mn mx : Rat) (etas : List Rat) (curve : Curve) (hne : mx ≠ mn) :
    Spec.ambCount false (-mx) (-mn) etas (negCurve curve) = Spec.ambCount true mn mx etas curve := by
  unfold Spec.ambCount Spec.ambAt
  congr 1
  apply List.map_congr_left
  intro e _
  rw [best_neg]
  unfold negCurve
  rw [List.countP_map]
  apply List.countP_congr
  intro c _
  -- without a finite cost the reference value is `0 = −0` on both sides
  have hb : ((Spec.best true curve).map (fun c => -c)).getD 0 = -((Spec.best true curve).getD 0) := by
    cases Spec.best true curve <;> simp
  simp only [Function.comp, hb]
  rw [within_neg mn mx _ e hne c]

/-- **the repair `C12-max-measure` is correct** (pixel level): `compute_ambiguity` run on the negated cost volume
    — whose global minimum and maximum are `−mx` and `−mn` — returns the max-measure ambiguity of the specification -/
theorem max_measure_fix_correct (mn mx : Rat) (etas : List Rat) (curve : Curve) (hne : mx ≠ mn) :
    pixelAmbiguity (-mx) (-mn) etas (negCurve curve) = Spec.ambCount true mn mx etas curve := by
  rw [pixelAmbiguity_spec (-mx) (-mn) etas (negCurve curve) (by intro h; apply hne; linarith)]
  exact ambCount_neg mn mx etas curve hne

end Pandora.C12
