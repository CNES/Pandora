/-
  What the definitions of `Model/Cbca.lean` do on each form of their input.  Three parts, in the namespaces their users
  call them by:
  * `Pandora.Cbca`: the steps with / without a facing right column (`comb`, `step2`, `sum2`, `step4`, `sum4`) and
    `sentinelAt`, the notion behind `s1At` and `s3At`;
  * `Pandora.C11`: arms inside the image (`ArmsIn`, what `comb` keeps of it), the horizontal arms of the region
    (`hLeft`, `hRight`), the aggregated area (`inArea`), `valEq`;
  * `Pandora.C13`: the longest arm `armBound` (bound of `armCoded` in C11, radius of the locality theorems of C13), and
    the prescribed output as a value — `aggSpec` for a plane, `specAgg` for the whole step — of which `specCell` /
    `specAt` are the tests.
-/
import PandoraModel.Model.Cbca

namespace Pandora.Cbca

theorem c0_nan : c0 .nan = 0 := rfl

theorem c0_num (q : Rat) : c0 (.num q) = q := rfl

/-! ## with and without a facing column

Proved by `delta` and a rewrite of the discriminant: `unfold` / `simp [step2]` first prove the equation lemma of the
definition, which is slow to check here (the unifier tries to evaluate `rightCol`, a comparison of rationals). -/

theorem comb_of_rightCol (P : Plane) (y x : Nat) {xr : Nat} (h : rightCol P.d P.Wr x = some xr) :
    comb P y x = some ⟨min (P.armsL y x).left (P.armsR y xr).left, min (P.armsL y x).right (P.armsR y xr).right,
      min (P.armsL y x).top (P.armsR y xr).top, min (P.armsL y x).bot (P.armsR y xr).bot⟩ := by
  delta comb; rw [h]

theorem comb_of_none (P : Plane) (y x : Nat) (h : rightCol P.d P.Wr x = none) : comb P y x = none := by
  delta comb; rw [h]

variable {P : Plane} {y x : Nat} {a : Arms}

theorem step2_of_comb (h : comb P y x = some a) :
    step2 P y x = s1At P.W (P.cv y) ((x : Int) + a.right) - s1At P.W (P.cv y) ((x : Int) - a.left - 1) := by
  delta step2; rw [h]

theorem step2_of_none (h : comb P y x = none) : step2 P y x = 0 := by
  delta step2; rw [h]

theorem sum2_of_comb (h : comb P y x = some a) : sum2 P y x = a.right + a.left := by
  delta sum2; rw [h]

theorem sum2_of_none (h : comb P y x = none) : sum2 P y x = 0 := by
  delta sum2; rw [h]

theorem step4_of_comb (h : comb P y x = some a) :
    step4 P y x = s3At P x ((y : Int) + a.bot) - s3At P x ((y : Int) - a.top - 1) := by
  delta step4; rw [h]

theorem step4_of_none (h : comb P y x = none) : step4 P y x = 0 := by
  delta step4; rw [h]

theorem sum4_of_comb (h : comb P y x = some a) :
    sum4 P y x = sum2 P y x + (a.top + a.bot)
      + (if a.top ≠ 0 then sumRangeN (fun y' => sum2 P y' x) (y - a.top) a.top else 0)
      + (if a.bot ≠ 0 then sumRangeN (fun y' => sum2 P y' x) (y + 1) a.bot else 0) + 1 := by
  delta sum4; rw [h]

theorem sum4_of_none (h : comb P y x = none) : sum4 P y x = sum2 P y x + 1 := by
  delta sum4; rw [h]

/-! ## a running sum behind a zero sentinel

`s1At` and `s3At` are the same notion: a running sum `S 0 … S (n-1)` stored with one extra cell behind it that stays `0`,
read with a Python index — the index `-1` (the cell "before the first") is that extra cell. -/

def sentinelAt (n : Nat) (S : Nat → Rat) (i : Int) : Rat :=
  let k : Int := if i < 0 then i + (n + 1) else i
  if 0 ≤ k ∧ k < n then S k.toNat else 0

theorem s1At_eq (W : Nat) (row : Nat → Val) : s1At W row = sentinelAt W (step1 row) := rfl

theorem s3At_eq (P : Plane) (x : Nat) : s3At P x = sentinelAt P.H (step3 P x) := rfl

theorem sentinelAt_nat (n : Nat) (S : Nat → Rat) (k : Nat) : sentinelAt n S (k : Int) = if k < n then S k else 0 := by
  unfold sentinelAt
  have h : ¬ ((k : Int) < 0) := by omega
  simp only [h, if_false, Int.toNat_natCast, Int.natCast_nonneg, true_and, Int.ofNat_lt]

theorem sentinelAt_neg_one (n : Nat) (S : Nat → Rat) : sentinelAt n S (-1) = 0 := by
  unfold sentinelAt
  have h : ¬ ((0 : Int) ≤ -1 + ((n : Int) + 1) ∧ -1 + ((n : Int) + 1) < (n : Int)) := by omega
  simp only [show ((-1 : Int) < 0) from by omega, if_true, h, if_false]

end Pandora.Cbca

namespace Pandora.C11
open Pandora.Cbca

def ArmsIn (H W : Nat) (a : Arms) (y x : Nat) : Prop := a.left ≤ x ∧ x + a.right < W ∧ a.top ≤ y ∧ y + a.bot < H

theorem armsInImage_spec {H W : Nat} {arms : Nat → Nat → Arms} (h : armsInImage H W arms = true)
    {y x : Nat} (hy : y < H) (hx : x < W) : ArmsIn H W (arms y x) y x := by
  unfold armsInImage at h
  simp only [List.all_eq_true, List.mem_range, Bool.and_eq_true, decide_eq_true_eq] at h
  have := h y hy x hx
  exact ⟨this.1.1.1, this.1.1.2, this.1.2, this.2⟩

theorem exists_rightCol_of_comb {P : Plane} {y x : Nat} {a : Arms} (h : comb P y x = some a) :
    ∃ xr, rightCol P.d P.Wr x = some xr ∧
      a = ⟨min (P.armsL y x).left (P.armsR y xr).left, min (P.armsL y x).right (P.armsR y xr).right,
           min (P.armsL y x).top (P.armsR y xr).top, min (P.armsL y x).bot (P.armsR y xr).bot⟩ := by
  cases hr : rightCol P.d P.Wr x with
  | none => rw [comb_of_none P y x hr] at h; cases h
  | some xr => rw [comb_of_rightCol P y x hr] at h; exact ⟨xr, rfl, (Option.some.inj h).symm⟩

theorem comb_in {P : Plane} {y x : Nat} {a : Arms} (h : comb P y x = some a)
    (hin : ArmsIn P.H P.W (P.armsL y x) y x) : ArmsIn P.H P.W a y x := by
  obtain ⟨xr, _, rfl⟩ := exists_rightCol_of_comb h
  obtain ⟨h1, h2, h3, h4⟩ := hin
  exact ⟨Nat.le_trans (Nat.min_le_left _ _) h1, Nat.lt_of_le_of_lt (Nat.add_le_add_left (Nat.min_le_left _ _) x) h2,
    Nat.le_trans (Nat.min_le_left _ _) h3, Nat.lt_of_le_of_lt (Nat.add_le_add_left (Nat.min_le_left _ _) y) h4⟩

theorem hLeft_of_comb {P : Plane} {x y' : Nat} {a' : Arms} (h : comb P y' x = some a') : hLeft P x y' = a'.left := by
  delta hLeft; rw [h]

theorem hRight_of_comb {P : Plane} {x y' : Nat} {a' : Arms} (h : comb P y' x = some a') : hRight P x y' = a'.right := by
  delta hRight; rw [h]

theorem hLeft_of_none {P : Plane} {x y' : Nat} (h : comb P y' x = none) : hLeft P x y' = 0 := by
  delta hLeft; rw [h]

theorem hRight_of_none {P : Plane} {x y' : Nat} (h : comb P y' x = none) : hRight P x y' = 0 := by
  delta hRight; rw [h]

theorem sum2_eq_hRight_add_hLeft (P : Plane) (x y' : Nat) : sum2 P y' x = hRight P x y' + hLeft P x y' := by
  cases h : comb P y' x with
  | none => rw [sum2_of_none h, hRight_of_none h, hLeft_of_none h]
  | some a => rw [sum2_of_comb h, hRight_of_comb h, hLeft_of_comb h]

theorem inArea_iff (inp : Input) (y x : Nat) :
    inArea inp y x = true ↔ inp.off ≤ y ∧ y < inp.off + inp.h ∧ inp.off ≤ x ∧ x < inp.off + inp.w :=
  decide_eq_true_iff

theorem inArea_spec {inp : Input} {y x : Nat} (h : inArea inp y x = true) :
    y - inp.off < inp.h ∧ x - inp.off < inp.w := by
  have := (inArea_iff inp y x).mp h
  omega

theorem inArea_iff_exists (inp : Input) (y x : Nat) :
    inArea inp y x = true ↔ ∃ ya xa, ya < inp.h ∧ xa < inp.w ∧ y = ya + inp.off ∧ x = xa + inp.off := by
  rw [inArea_iff]
  constructor
  · intro h
    exact ⟨y - inp.off, x - inp.off, by omega, by omega, by omega, by omega⟩
  · rintro ⟨ya, xa, h1, h2, rfl, rfl⟩
    omega

theorem valEq_refl (v : Val) : valEq v v = true := by
  cases v <;> simp [valEq]

end Pandora.C11

namespace Pandora.C13
open Pandora.Cbca

/-- the longest possible arm for `cbca_distance = dist` -/
def armBound (dist : Nat) : Nat := max (dist - 1) 1

/-- two rooms that are equal when clipped at the longest arm are equal for everything an arm loop tests -/
theorem armBound_rooms {dist room room' : Nat} (h : min (armBound dist) room = min (armBound dist) room') :
    min (dist - 1) room = min (dist - 1) room' ∧ (1 ≤ room ↔ 1 ≤ room') ∧
    min (dist - 1) room ≤ min (armBound dist) room ∧ (1 ≤ room → 1 ≤ min (armBound dist) room) := by
  unfold armBound at *
  omega

/-- the aggregated cell of a plane as the property prescribes it -/
def aggSpec (P : Plane) (y x : Nat) : Val :=
  match P.cv y x with
  | .nan => .nan
  | .num _ => .num (specSum P y x / specCount P y x)

/-- the aggregated cost volume as the property prescribes it: region mean inside the aggregated area, the margin
    of width `offset_row_col` untouched -/
def specAgg (inp : Input) (y x dsp : Nat) : Val :=
  if inArea inp y x then aggSpec (inp.plane dsp) (y - inp.off) (x - inp.off) else inp.cv y x dsp

theorem aggSpec_of_nan {P : Plane} {y x : Nat} (h : P.cv y x = .nan) : aggSpec P y x = .nan := by
  unfold aggSpec
  rw [h]

theorem aggSpec_of_num {P : Plane} {y x : Nat} {q : Rat} (h : P.cv y x = .num q) :
    aggSpec P y x = .num (specSum P y x / specCount P y x) := by
  unfold aggSpec
  rw [h]

theorem aggSpec_congr {P P' : Plane} {y x y' x' : Nat} (hcv : P.cv y x = P'.cv y' x')
    (h : specSum P y x = specSum P' y' x' ∧ specCount P y x = specCount P' y' x') :
    aggSpec P y x = aggSpec P' y' x' := by
  unfold aggSpec
  rw [hcv, h.1, h.2]

theorem specCell_aggSpec (P : Plane) (y x : Nat) : specCell P y x (aggSpec P y x) = true := by
  unfold specCell
  cases h : P.cv y x with
  | nan => rw [aggSpec_of_nan h]; rfl
  | num q => rw [aggSpec_of_num h]; exact C11.valEq_refl _

theorem specAgg_inArea (inp : Input) (ya xa dsp : Nat) (hya : ya < inp.h) (hxa : xa < inp.w) :
    specAgg inp (ya + inp.off) (xa + inp.off) dsp = aggSpec (inp.plane dsp) ya xa := by
  unfold specAgg
  rw [if_pos ((C11.inArea_iff_exists inp _ _).2 ⟨ya, xa, hya, hxa, rfl, rfl⟩), Nat.add_sub_cancel, Nat.add_sub_cancel]

theorem specAgg_margin (inp : Input) (y x dsp : Nat) (h : inArea inp y x = false) :
    specAgg inp y x dsp = inp.cv y x dsp := by
  unfold specAgg
  rw [h]
  rfl

/-- the prescribed volume passes the test of the whole step, when coded and declarative arms agree -/
theorem specAt_specAgg (inp : Input) (dsp : Nat) (h : inp.plane dsp = inp.planeRef dsp) (y x : Nat) :
    specAt inp y x dsp (specAgg inp y x dsp) = true := by
  unfold specAt specAgg
  split
  · rw [← h]
    exact specCell_aggSpec _ _ _
  · exact C11.valEq_refl _

end Pandora.C13
