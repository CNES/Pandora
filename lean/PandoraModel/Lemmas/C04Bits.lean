/-
  C04 — the bit tests of the code (`flag & bit != 0`, `flag & PANDORA_MSK_PIXEL_INVALID != 0`) and the two
  ways of raising a bit (`+=`, `|=`) expressed with `Nat.testBit` / div-mod, so that `omega` and Boolean
  reasoning apply.  Core Lean only.
-/
import PandoraModel.Model.Flags

namespace Pandora.C04
open Pandora.Flags

theorem and_two_pow_eq (f k : Nat) : f &&& 2 ^ k = if f.testBit k then 2 ^ k else 0 := by
  apply Nat.eq_of_testBit_eq
  intro i
  rw [Nat.testBit_and, Nat.testBit_two_pow]
  by_cases h : k = i
  · subst h
    cases hb : f.testBit k <;> simp [Nat.testBit_two_pow_self]
  · cases hb : f.testBit k <;> simp [h, Nat.testBit_two_pow_of_ne h]

theorem hasBit_two_pow (f k : Nat) : hasBit f (2 ^ k) = f.testBit k := by
  unfold hasBit
  rw [and_two_pow_eq]
  cases h : f.testBit k
  · simp
  · simp

/-- the same in the spelling of the code (`hasBit` is the spelling of the specifications) -/
theorem and_two_pow_ne_zero (f k : Nat) : ((f &&& 2 ^ k) != 0) = f.testBit k := hasBit_two_pow f k

theorem and_or_ne_zero (f a b : Nat) : ((f &&& (a ||| b)) != 0) = (((f &&& a) != 0) || ((f &&& b) != 0)) := by
  rw [Nat.and_or_distrib_left, Bool.eq_iff_iff]
  simp only [bne_iff_ne, ne_eq, Nat.or_eq_zero_iff, Bool.or_eq_true]
  omega

theorem pixelInvalid_eq : pixelInvalid = 2 ^ 0 ||| (2 ^ 1 ||| (2 ^ 6 ||| (2 ^ 7 ||| (2 ^ 8 ||| 2 ^ 9)))) := by decide

/-- `flag & PANDORA_MSK_PIXEL_INVALID != 0` tests the bits 0, 1, 6, 7, 8, 9 -/
theorem isInvalid_eq (f : Nat) :
    isInvalid f = (f.testBit 0 || (f.testBit 1 || (f.testBit 6 || (f.testBit 7 || (f.testBit 8 || f.testBit 9))))) := by
  unfold isInvalid
  rw [pixelInvalid_eq]
  simp only [and_or_ne_zero, and_two_pow_ne_zero]

theorem add_two_pow_eq_or (f k : Nat) (h : f.testBit k = false) : f + 2 ^ k = f ||| 2 ^ k := by
  -- f = 2^(k+1) * a + r with r < 2^k
  have hr : f % 2 ^ (k + 1) < 2 ^ k := by
    rw [Nat.testBit_eq_decide_div_mod_eq] at h
    have h' : f / 2 ^ k % 2 = 0 := by
      have := Nat.mod_two_eq_zero_or_one (f / 2 ^ k)
      simp at h; omega
    rw [Nat.pow_succ, Nat.mod_mul, h']
    simp
    exact Nat.mod_lt _ (Nat.two_pow_pos k)
  have hf : f = 2 ^ (k + 1) * (f / 2 ^ (k + 1)) + f % 2 ^ (k + 1) := (Nat.div_add_mod f _).symm
  generalize f / 2 ^ (k + 1) = a at hf
  generalize f % 2 ^ (k + 1) = r at hf hr
  subst hf
  have h1 : r + 2 ^ k < 2 ^ (k + 1) := by rw [Nat.pow_succ]; omega
  have h2 : r < 2 ^ (k + 1) := by rw [Nat.pow_succ]; omega
  calc 2 ^ (k + 1) * a + r + 2 ^ k = 2 ^ (k + 1) * a + (r + 2 ^ k) := by omega
    _ = 2 ^ (k + 1) * a ||| (r + 2 ^ k) := Nat.two_pow_add_eq_or_of_lt h1 a
    _ = 2 ^ (k + 1) * a ||| (r ||| 2 ^ k) := by rw [Nat.or_two_pow_eq_add_of_lt hr]
    _ = (2 ^ (k + 1) * a ||| r) ||| 2 ^ k := by rw [Nat.or_assoc]
    _ = (2 ^ (k + 1) * a + r) ||| 2 ^ k := by rw [Nat.two_pow_add_eq_or_of_lt h2 a]

theorem testBit_or_two_pow (f k j : Nat) : (f ||| 2 ^ k).testBit j = (f.testBit j || decide (k = j)) := by
  rw [Nat.testBit_or, Nat.testBit_two_pow]

theorem testBit_add_two_pow (f k j : Nat) (h : f.testBit k = false) :
    (f + 2 ^ k).testBit j = (f.testBit j || decide (k = j)) := by
  rw [add_two_pow_eq_or f k h, testBit_or_two_pow]

theorem testBit_sub_two_pow (f k j : Nat) (h : f.testBit k = true) :
    (f - 2 ^ k).testBit j = (f.testBit j && !decide (k = j)) := by
  -- `f = (f - 2^k) + 2^k` with bit `k` of `f - 2^k` clear: `testBit_add_two_pow` read backwards
  have hge : 2 ^ k ≤ f := Nat.ge_two_pow_of_testBit h
  have hclear : (f - 2 ^ k).testBit k = false := by
    rw [Nat.testBit_eq_decide_div_mod_eq] at h ⊢
    have h' : f / 2 ^ k % 2 = 1 := by simpa using h
    have : (f - 2 ^ k) / 2 ^ k = f / 2 ^ k - 1 := by
      have := Nat.sub_mul_div f (2 ^ k) 1
      simpa using this
    rw [this]
    simp only [decide_eq_false_iff_not]
    have hq : 1 ≤ f / 2 ^ k := by
      have := Nat.div_le_div_right (c := 2 ^ k) hge
      rwa [Nat.div_self (Nat.two_pow_pos k)] at this
    omega
  have hf : f = (f - 2 ^ k) + 2 ^ k := by omega
  have key := testBit_add_two_pow (f - 2 ^ k) k j hclear
  rw [← hf] at key
  by_cases hkj : k = j
  · subst hkj; simp [hclear]
  · simp [hkj] at key ⊢; exact key.symm

end Pandora.C04
