/-
  A normal form for the store a straight-line array program leaves: the store it started from, some of whose arrays were
  rebound (`set`), followed by the arrays it allocated, in order (`push`).  Every statement of `Model/PyArr.lean` maps a normal
  form to a normal form; what a program returns is then ONE equation, from which content, freshness and frame are read off.
-/
import PandoraModel.Lemmas.Store

namespace Pandora.PyArr
variable {α : Type}

def Store.push (s : Store α) : List (Arr α) → Store α
  | [] => s
  | c :: cs => (s.alloc c).1.push cs

variable (s : Store α) (cs : List (Arr α))

theorem alloc_eq_push (a : Arr α) : s.alloc a = (s.push [a], s.next) := rfl

theorem push_push (ds : List (Arr α)) : (s.push cs).push ds = s.push (cs ++ ds) := by
  induction cs generalizing s with
  | nil => rfl
  | cons c cs ih => exact ih _

@[simp] theorem push_next : (s.push cs).next = s.next + cs.length := by
  induction cs generalizing s with
  | nil => rfl
  | cons c cs ih => rw [Store.push, ih, alloc_next, List.length_cons, Nat.add_assoc, Nat.add_comm 1]

theorem push_arr_old {k : Nat} (h : k < s.next) : (s.push cs).arr k = s.arr k := by
  induction cs generalizing s with
  | nil => rfl
  | cons c cs ih => rw [Store.push, ih _ (Nat.lt_succ_of_lt h), alloc_arr_old _ _ (Nat.ne_of_lt h)]

/- The lemmas about the new identities name the base's `next` by a variable `n` with `hn : s.next = n`: when the base is
   `s0` itself `hn` is `rfl`, when old arrays of it were rebound (`(s0.set k a).push cs`) the identities in the program
   text are still `s0.next + i`, and `simp` discharges `hn` with `next_set`. -/
theorem push_arr_new {n : Nat} (hn : s.next = n) (i : Nat) :
    (s.push cs).arr (n + i) = cs.getD i (s.arr (n + i)) := by
  subst hn
  induction cs generalizing s i with
  | nil => rfl
  | cons c cs ih =>
    cases i with
    | zero => rw [Store.push, push_arr_old _ _ (Nat.lt_succ_self _)]; exact alloc_arr_new s c
    | succ i =>
      rw [Store.push, List.getD_cons_succ, ← alloc_arr_old s c (j := s.next + (i + 1)) (by omega),
        show s.next + (i + 1) = (s.alloc c).1.next + i by rw [alloc_next]; omega]
      exact ih _ i

theorem push_arr_next {n : Nat} (hn : s.next = n) :
    (s.push cs).arr n = cs.getD 0 (s.arr n) := push_arr_new s cs hn 0

theorem alloc_set_old (c a : Arr α) {k : Nat} (h : k ≠ s.next) :
    (s.alloc c).1.set k a = ((s.set k a).alloc c).1 := by
  refine Store.ext (funext fun j => ?_) rfl
  rw [set_arr, alloc_arr, alloc_arr, set_arr]
  split
  · subst j; exact (if_neg h).symm
  · rfl

theorem alloc_set_new (c a : Arr α) : (s.alloc c).1.set s.next a = (s.alloc a).1 := by
  refine Store.ext (funext fun j => ?_) rfl
  rw [set_arr, alloc_arr, alloc_arr]
  split <;> rfl

theorem push_set_old {k : Nat} (h : k < s.next) (a : Arr α) :
    (s.push cs).set k a = (s.set k a).push cs := by
  induction cs generalizing s with
  | nil => rfl
  | cons c cs ih => rw [Store.push, ih _ (Nat.lt_succ_of_lt h), alloc_set_old _ _ _ (Nat.ne_of_lt h)]; rfl

theorem push_set_new {n : Nat} (hn : s.next = n) {i : Nat} (h : i < cs.length) (a : Arr α) :
    (s.push cs).set (n + i) a = s.push (cs.set i a) := by
  subst hn
  induction cs generalizing s i with
  | nil => cases h
  | cons c cs ih =>
    cases i with
    | zero => rw [Store.push, Nat.add_zero, push_set_old _ _ (Nat.lt_succ_self _), alloc_set_new]; rfl
    | succ i =>
      rw [Store.push, show s.next + (i + 1) = (s.alloc c).1.next + i by rw [alloc_next]; omega,
        ih _ (Nat.lt_of_succ_lt_succ h)]
      rfl

theorem push_set_next {n : Nat} (hn : s.next = n) {c : Arr α} (a : Arr α) :
    (s.push (c :: cs)).set n a = s.push (a :: cs) :=
  push_set_new s (c :: cs) hn (i := 0) (Nat.succ_pos _) a

/-- not a `rfl` lemma on purpose: `simp` must be able to use it when it discharges `k < (s.set j a).next` for `push_arr_old` /
    `push_set_old` (a side goal changed by a `rfl` lemma is not accepted back).  `C10Kernels.set_next` states the same as a `rfl`
    simp lemma; the store proofs call `simp only` with this one. -/
theorem next_set (k : Nat) (a : Arr α) : (s.set k a).next = s.next := by unfold Store.set; rfl

/-! every statement of `Model/PyArr.lean` is an `alloc` or a `set` (for `Store.full`, `Store.zoom` of `Model/PyArrMultiscale.lean` and
    `Store.maskFill3` of `Model/PyArr3.lean`, which this file does not import, the same rule stands next to their users:
    `full_eq`, `zoom_eq` in `Properties/C15Kernels.lean`, `maskFill3_eq` in `Properties/C03Kernels.lean`) -/
theorem copy_eq (k : Nat) : s.copy k = s.alloc (s.arr k) := rfl
theorem maskFill_eq (k : Nat) (m : Mask) (v : α) :
    s.maskFill k m v = s.set k (fun r c => if m r c then v else s.arr k r c) := rfl
theorem maskCopy_eq (dst : Nat) (m : Mask) (src : Nat) :
    s.maskCopy dst m src = s.set dst (fun r c => if m r c then s.arr src r c else s.arr dst r c) := rfl
theorem maskOr_eq (s : Store Nat) (k : Nat) (m : Mask) (c : Nat) :
    s.maskOr k m c = s.set k (fun r c' => if m r c' then s.arr k r c' ||| c else s.arr k r c') := rfl
/-- `a[mask] += c` is read by no translated program; the rule completes the set for `Model/PyArr.lean` -/
theorem maskAdd_eq (s : Store Nat) (k : Nat) (m : Mask) (c : Nat) :
    s.maskAdd k m c = s.set k (fun r c' => if m r c' then s.arr k r c' + c else s.arr k r c') := rfl

/-- the block statement whose destination is the first array the program allocated and whose windows are read from an old
    one (`out = np.copy(data); <block loop writing into out>`): a dropped `np.copy` leaves no such destination -/
theorem blockedSt_push (p : Blocks.Plan) (kern : Arr α → Nat → Nat → α) (c : Arr α) {base : Nat} (hb : base < s.next) :
    blockedSt p kern s.next base (s.push (c :: cs)) = s.push (Blocks.blocked p (kern (s.arr base)) c :: cs) := by
  unfold blockedSt
  rw [outerLoopSt_eq _ _ _ (Nat.ne_of_gt hb), push_set_next _ _ rfl, push_arr_old _ _ hb, push_arr_next _ _ rfl]
  rfl

theorem alloc_spec_of_eq_push {p : Store α × Nat} {c : Arr α} (h : p = (s.push [c], s.next)) :
    p.2 = s.next ∧ p.1.next = s.next + 1 ∧ p.1.arr s.next = c ∧ ∀ k, k ≠ s.next → p.1.arr k = s.arr k := by
  subst h
  exact ⟨rfl, rfl, alloc_arr_new s c, fun k hk => alloc_arr_old s c hk⟩

end Pandora.PyArr
