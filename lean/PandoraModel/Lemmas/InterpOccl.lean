/- mc-cnn occlusion kernel (reversed mask + argmax, then the same to the right) against
   "nearest valid pixel on the left, otherwise on the right". -/
import PandoraModel.Model.Interp

namespace Pandora.Interp

/-- `argmax` of a mask whose first entry (the pixel itself) is False: 0 when no candidate is valid, otherwise 1 + the
    position of the first valid candidate -/
theorem argmax_false_cons {α} (p : α → Bool) (js : List α) :
    (js.find? p = none → argmaxBool (false :: js.map p) = 0) ∧
    (∀ j, js.find? p = some j → ∃ k, js[k]? = some j ∧ p j = true ∧ argmaxBool (false :: js.map p) = k + 1) := by
  have hidx : (false :: js.map p).findIdx (fun b => b) = js.findIdx p + 1 := by
    rw [List.findIdx_cons, List.findIdx_map]; rfl
  constructor
  · intro hnone
    have : js.findIdx p = js.length := by
      rw [List.findIdx_eq_length]; intro x hx; simpa using (List.find?_eq_none.mp hnone) x hx
    simp [argmaxBool, hidx, this]
  · intro j hj
    have hlt := List.findIdx_lt_length.mpr ⟨j, List.mem_of_find?_eq_some hj, List.find?_some hj⟩
    exact ⟨_, List.find?_eq_getElem?_findIdx ▸ hj, List.find?_some hj, by simp [argmaxBool, hidx, hlt]⟩

theorem range'_map_shift {β : Type} (c n : Nat) (f : Nat → β) :
    (List.range' c n).map f = (List.range n).map fun k => f (c + k) := by
  rw [List.range'_eq_map_range, List.map_map]
  rfl

theorem firstValid_row (m : DMap) (r : Nat) (js : List Nat) :
    firstValid m (js.map fun (j : Nat) => ((r : Int), (j : Int))) = (js.find? (m.valid r)).map (m.disp r) := by
  unfold firstValid
  rw [List.find?_map]
  simp only [Option.map_map]
  have h1 : (m.validAt ∘ fun (j : Nat) => ((r : Int), (j : Int))) = m.valid r := by
    funext j; simp [DMap.validAt]
  rw [h1]
  congr 1

theorem reverse_range_getElem? (c k j : Nat) (h : (List.range c).reverse[k]? = some j) : j + (k + 1) = c := by
  rw [List.getElem?_eq_some_iff] at h
  obtain ⟨hk, hj⟩ := h
  simp at hk
  rw [List.getElem_reverse] at hj
  simp at hj
  omega

theorem range'_getElem? (s n k j : Nat) (h : (List.range' s n)[k]? = some j) : j = s + k := by
  rw [List.getElem?_eq_some_iff] at h
  obtain ⟨_, hj⟩ := h
  simp at hj
  omega

/-- The search of `interpolate_occlusion_mc_cnn` for a pixel carrying bit 8 (hence invalid): the disparity of
    the nearest valid pixel on the left, otherwise of the nearest on the right, with `msk[arg_valid] = True`;
    without any valid pixel in the row the pixel's own disparity with `msk[arg_valid] = False`. -/
theorem occlMcCore_eq (m : DMap) (r c : Nat) (hc : c < m.cols) (hinv : m.valid r c = false) :
    occlMcCore m r c =
      match sourceOcclMc m r c with
      | some v => (v, true)
      | none => (m.disp r c, false) := by
  unfold occlMcCore
  -- the two masks of the code start with the pixel itself (False), followed by the candidates
  have hL : ((List.range (c + 1)).map fun j => m.valid r j).reverse
      = false :: ((List.range c).reverse.map (m.valid r)) := by
    rw [List.range_succ, List.map_append, List.reverse_append]; simp [hinv]
  have hR : ((List.range (m.cols - c)).map fun k => m.valid r (c + k))
      = false :: ((List.range' (c + 1) (m.cols - (c + 1))).map (m.valid r)) := by
    have hn : m.cols - c = (m.cols - (c + 1)) + 1 := by omega
    rw [← range'_map_shift, hn, List.range'_succ, List.map_cons, hinv]
  rw [hL, hR]
  unfold sourceOcclMc leftPts rightPts
  rw [firstValid_row, firstValid_row]
  obtain ⟨hLn, hLs⟩ := argmax_false_cons (m.valid r) (List.range c).reverse
  obtain ⟨hRn, hRs⟩ := argmax_false_cons (m.valid r) (List.range' (c + 1) (m.cols - (c + 1)))
  cases hl : (List.range c).reverse.find? (m.valid r) with
  | some j =>
    obtain ⟨k, hk, hvj, ha⟩ := hLs j hl
    have hja := reverse_range_getElem? c k j hk
    simp only [ha, Nat.succ_ne_zero, beq_iff_eq, if_false, Option.map_some, List.getD_eq_getElem?_getD,
      List.getElem?_cons_succ, List.getElem?_map, hk, Option.getD_some, hvj]
    rw [show c - (k + 1) = j by omega]
  | none =>
    simp only [hLn hl, beq_self_eq_true, if_true, Option.map_none]
    cases hr : (List.range' (c + 1) (m.cols - (c + 1))).find? (m.valid r) with
    | some j =>
      obtain ⟨k, hk, hvj, ha⟩ := hRs j hr
      have hja := range'_getElem? _ _ k j hk
      simp only [ha, Option.map_some, List.getD_eq_getElem?_getD, List.getElem?_cons_succ, List.getElem?_map, hk,
        Option.getD_some, hvj]
      rw [show c + (k + 1) = j by omega]
    | none => simp [hRn hr]

end Pandora.Interp
