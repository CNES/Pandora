/-
  Block independence of the `array_split` + accumulated-offset loops (shared by C03, C10 and C15): the chunks of
  `array_split` lie end to end (`Contig`), and a loop over such chunks is ONE `assign` of the strip they make up.
-/
import PandoraModel.Model.Blocks

namespace Pandora.Blocks

/-- the chunks are laid end to end from source index `s` to source index `e` -/
inductive Contig : List (Nat × Nat) → Nat → Nat → Prop
  | nil (s : Nat) : Contig [] s s
  | cons (s len e : Nat) (rest : List (Nat × Nat)) : Contig rest (s + len) e → Contig ((s, len) :: rest) s e

def SortedFrom : Nat → List Nat → Prop
  | _, [] => True
  | st, p :: ps => st ≤ p ∧ SortedFrom p ps

theorem Contig.le {l : List (Nat × Nat)} {s e : Nat} (h : Contig l s e) : s ≤ e := by
  induction h with
  | nil s => exact Nat.le_refl _
  | cons s len e rest _ ih => exact Nat.le_trans (Nat.le_add_right s len) ih

theorem Contig.piece {rest : List (Nat × Nat)} {s m e : Nat} (h : s ≤ m) (hr : Contig rest m e) :
    Contig ((s, m - s) :: rest) s e := by
  have := Contig.cons s (m - s) e rest
  rw [Nat.add_sub_of_le h] at this
  exact this hr

theorem splitFrom_contig (L : Nat) : ∀ (pts : List Nat) (st : Nat), SortedFrom st pts →
    Contig (splitFrom L st pts) (min st L) L
  | [], st, _ =>
    Contig.piece (Nat.le_min.2 ⟨Nat.min_le_right st L, Nat.min_le_right st L⟩)
      ((Nat.min_self L).symm ▸ Contig.nil L)
  | p :: ps, st, h =>
    Contig.piece (Nat.le_min.2 ⟨Nat.le_trans (Nat.min_le_left st L) h.1, Nat.min_le_right st L⟩)
      (splitFrom_contig L ps p h.2)

theorem arraySplit_contig (L : Nat) (pts : List Nat) (h : SortedFrom 0 pts) :
    Contig (arraySplit L pts) 0 L := by
  have := splitFrom_contig L pts 0 h
  rwa [Nat.zero_min] at this

theorem sortedFrom_map_range (start step : Nat) : ∀ (n k : Nat) (st : Nat), st ≤ start + k * step →
    SortedFrom st ((List.range' k n).map (fun k => start + k * step))
  | 0, _, _, _ => trivial
  | n + 1, k, st, h => by
    simp only [List.range'_succ, List.map_cons, SortedFrom]
    exact ⟨h, sortedFrom_map_range start step n (k + 1) _
      (Nat.add_le_add_left (Nat.mul_le_mul_right step (Nat.le_succ k)) start)⟩

theorem arange_sorted (start stop step : Nat) : SortedFrom 0 (arange start stop step) := by
  unfold arange
  rw [List.range_eq_range']
  exact sortedFrom_map_range start step _ 0 0 (Nat.zero_le _)

private theorem add_sub_add {b l i : Nat} (h : b + l ≤ i) : l + (i - (b + l)) = i - b := by
  rw [Nat.sub_add_eq, Nat.add_sub_of_le (Nat.le_sub_of_add_le' h)]

private theorem range_split (b l₁ l₂ i : Nat) :
    (b ≤ i ∧ i < b + (l₁ + l₂)) ↔ (b ≤ i ∧ i < b + l₁) ∨ (b + l₁ ≤ i ∧ i < b + l₁ + l₂) := by omega

private theorem shift_sub {b l i : Nat} (s : Nat) (h : b + l ≤ i) : s + l + (i - (b + l)) = s + (i - b) := by
  rw [Nat.add_assoc, add_sub_add h]

/-! One rectangle written after an adjacent one (same rows, next columns; or same columns, next rows) with the
    matching source offsets is one assignment of the union. -/

theorem assign_assign_right {β : Type} (out : Nat → Nat → β) (yb ylen xb l₁ l₂ ys xs : Nat) (f : Nat → Nat → β) :
    assign (assign out yb ylen xb l₁ ys xs f) yb ylen (xb + l₁) l₂ ys (xs + l₁) f
      = assign out yb ylen xb (l₁ + l₂) ys xs f := by
  funext r c
  simp only [assign]
  by_cases hy : yb ≤ r ∧ r < yb + ylen
  · by_cases h2 : xb + l₁ ≤ c ∧ c < xb + l₁ + l₂
    · rw [if_pos ⟨hy.1, hy.2, h2⟩, if_pos ⟨hy.1, hy.2, (range_split xb l₁ l₂ c).2 (.inr h2)⟩, shift_sub xs h2.1]
    · rw [if_neg fun h => h2 h.2.2]
      by_cases h1 : xb ≤ c ∧ c < xb + l₁
      · rw [if_pos ⟨hy.1, hy.2, h1⟩, if_pos ⟨hy.1, hy.2, (range_split xb l₁ l₂ c).2 (.inl h1)⟩]
      · rw [if_neg fun h => h1 h.2.2, if_neg fun h => ((range_split xb l₁ l₂ c).1 h.2.2).elim h1 h2]
  · rw [if_neg fun h => hy ⟨h.1, h.2.1⟩, if_neg fun h => hy ⟨h.1, h.2.1⟩, if_neg fun h => hy ⟨h.1, h.2.1⟩]

theorem assign_assign_below {β : Type} (out : Nat → Nat → β) (yb l₁ l₂ xb xlen ys xs : Nat) (f : Nat → Nat → β) :
    assign (assign out yb l₁ xb xlen ys xs f) (yb + l₁) l₂ xb xlen (ys + l₁) xs f
      = assign out yb (l₁ + l₂) xb xlen ys xs f := by
  funext r c
  simp only [assign]
  by_cases hx : xb ≤ c ∧ c < xb + xlen
  · by_cases h2 : yb + l₁ ≤ r ∧ r < yb + l₁ + l₂
    · rw [if_pos ⟨h2.1, h2.2, hx⟩, if_pos (and_assoc.1 ⟨(range_split yb l₁ l₂ r).2 (.inr h2), hx⟩), shift_sub ys h2.1]
    · rw [if_neg fun h => h2 ⟨h.1, h.2.1⟩]
      by_cases h1 : yb ≤ r ∧ r < yb + l₁
      · rw [if_pos ⟨h1.1, h1.2, hx⟩, if_pos (and_assoc.1 ⟨(range_split yb l₁ l₂ r).2 (.inl h1), hx⟩)]
      · rw [if_neg fun h => h1 ⟨h.1, h.2.1⟩, if_neg fun h => ((range_split yb l₁ l₂ r).1 ⟨h.1, h.2.1⟩).elim h1 h2]
  · rw [if_neg fun h => hx h.2.2, if_neg fun h => hx h.2.2, if_neg fun h => hx h.2.2]

theorem assign_zero_width {β : Type} (out : Nat → Nat → β) (yb ylen xb ys xs : Nat) (f : Nat → Nat → β) :
    assign out yb ylen xb 0 ys xs f = out := by
  funext r c
  exact if_neg fun h => Nat.lt_irrefl c (Nat.lt_of_lt_of_le h.2.2.2 h.2.2.1)

theorem assign_zero_height {β : Type} (out : Nat → Nat → β) (yb xb xlen ys xs : Nat) (f : Nat → Nat → β) :
    assign out yb 0 xb xlen ys xs f = out := by
  funext r c
  exact if_neg fun h => Nat.lt_irrefl r (Nat.lt_of_lt_of_le h.2.1 h.1)

theorem innerLoop_contig {β : Type} (f : Nat → Nat → β) (yb ylen ys : Nat) {chunks : List (Nat × Nat)} {s e : Nat}
    (h : Contig chunks s e) :
    ∀ (xb : Nat) (out : Nat → Nat → β),
      innerLoop f yb ylen ys chunks xb out = assign out yb ylen xb (e - s) ys s f := by
  induction h with
  | nil s => intro xb out; rw [innerLoop, Nat.sub_self, assign_zero_width]
  | cons s len e rest h' ih =>
    intro xb out
    rw [innerLoop, ih, assign_assign_right, add_sub_add h'.le]

theorem outerLoop_contig {β : Type} (f : Nat → Nat → β) {xchunks : List (Nat × Nat)} (offx : Nat) {lx : Nat}
    (hx : Contig xchunks 0 lx) {chunks : List (Nat × Nat)} {s e : Nat} (h : Contig chunks s e) :
    ∀ (yb : Nat) (out : Nat → Nat → β),
      outerLoop f xchunks offx chunks yb out = assign out yb (e - s) offx lx s 0 f := by
  induction h with
  | nil s => intro yb out; rw [outerLoop, Nat.sub_self, assign_zero_height]
  | cons s len e rest h' ih =>
    intro yb out
    rw [outerLoop, ih, innerLoop_contig f yb len s hx, Nat.sub_zero, assign_assign_below, add_sub_add h'.le]

/-- **Block independence.**  Whatever the split points `np.arange(start, stop, step)` (any start, any
    stop, any step — sorted is all that matters, and `arange` is always sorted) and whatever the array
    size, the blocked loops compute the single unsplit assignment. -/
theorem blocked_eq_direct {β : Type} (p : Plan) (f : Nat → Nat → β) (out : Nat → Nat → β) :
    blocked p f out = direct p f out := by
  unfold blocked
  rw [outerLoop_contig f p.offX (arraySplit_contig p.lx _ (arange_sorted p.startX p.stopX p.stepX))
    (arraySplit_contig p.ly _ (arange_sorted p.startY p.stopY p.stepY))]
  funext r c
  simp only [assign, direct, Nat.sub_zero, Nat.zero_add]

/-- **The blocked loop over the array of all `w × w` windows of an `ny × nx` map, written from offset `h`** (`h` cells of
    the window lie before the pixel, `w - 1 - h` after it): a pixel whose window lies inside the map gets the kernel of
    the window whose corner is `h` cells up and left of it, every other pixel keeps what the output map held. -/
theorem blocked_windows {β : Type} (s : Split) (h w ny nx : Nat) (k out : Nat → Nat → β)
    (hy : s.beginY = h) (hx : s.beginX = h) (hh : h < w) (hny : w ≤ ny) (hnx : w ≤ nx) (r c : Nat) :
    blocked (s.plan (ny - w + 1) (nx - w + 1) [ny, nx]) k out r c
      = if h ≤ r ∧ r + (w - 1 - h) < ny ∧ h ≤ c ∧ c + (w - 1 - h) < nx then k (r - h) (c - h) else out r c := by
  -- the last window position along an axis of length `n`: offset `h` plus the `n - w + 1` positions
  have bound : ∀ {n i : Nat}, w ≤ n → (i < h + (n - w + 1) ↔ i + (w - 1 - h) < n) := by omega
  rw [blocked_eq_direct]
  simp only [direct, Split.plan, hy, hx, bound hny, bound hnx]

theorem blocked_independent {β : Type} (p q : Plan) (f : Nat → Nat → β) (out : Nat → Nat → β)
    (h1 : p.ly = q.ly) (h2 : p.lx = q.lx) (h3 : p.offY = q.offY) (h4 : p.offX = q.offX) :
    blocked p f out = blocked q f out := by
  rw [blocked_eq_direct, blocked_eq_direct]
  unfold direct
  rw [h1, h2, h3, h4]

theorem blocked_plan_independent {β : Type} (s s' : Split) (hy : s.beginY = s'.beginY) (hx : s.beginX = s'.beginX)
    (ly lx : Nat) (dims : List Nat) (f : Nat → Nat → β) (out : Nat → Nat → β) :
    blocked (s.plan ly lx dims) f out = blocked (s'.plan ly lx dims) f out :=
  blocked_independent _ _ f out rfl rfl hy hx

end Pandora.Blocks
