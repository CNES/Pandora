/-
  The laws of the primitives of the vector sub-language (`Model/PyVec.lean`, `Model/PyVecIdx.lean`): what each operation does to
  the length, what it returns on vectors given as `L.map f` over one index list (the normal form in which the proofs about the
  translated vector kernels, C07 and C12, compare the generated text with the hand models), when its bounds test holds; and the
  float operations of `Model/PyLoops.lean` on finite values.  What mentions a property's model stays in that property's
  Kernels file.
-/
import PandoraModel.Model.PyVecIdx
import PandoraModel.Lemmas.Grid
import Mathlib.Algebra.Order.Field.Rat

namespace Pandora.PyVec
open Pandora.PyLoops

theorem zipWith_map_map {α β γ δ : Type} (f : β → γ → δ) (L : List α) (a : α → β) (b : α → γ) :
    List.zipWith f (L.map a) (L.map b) = L.map (fun x => f (a x) (b x)) := by
  rw [List.zipWith_map, List.zipWith_self]

theorem select_map {α β : Type} (L : List β) (f : β → α) (p : β → Bool) :
    select (L.map f) (L.map p) = (L.filter p).map f := by
  simp only [select, zipWith_map_map]
  induction L with
  | nil => rfl
  | cons x L ih =>
    by_cases h : p x <;> simp [h, ih]

theorem select_self {α : Type} (v : List α) (p : α → Bool) : select v (v.map p) = v.filter p := by
  simpa using select_map v id p

theorem maskSet_map {α β : Type} (L : List β) (f : β → α) (m : β → Bool) (c : α) :
    maskSet (L.map f) (L.map m) c = L.map (fun x => if m x then c else f x) :=
  zipWith_map_map _ L f m

theorem countTrue_map {α : Type} (L : List α) (f : α → Bool) : countTrue (L.map f) = ((L.filter f).length : Int) := by
  rw [countTrue, count_true_map, List.countP_eq_length_filter]

theorem arange_natCast (n : Nat) : PyVec.arange (n : Int) = (List.range n).map (fun (i : Nat) => (i : Int)) := by
  simp [PyVec.arange]

theorem getAt_eq_getD {α : Type} (d : α) (v : List α) (i : Int) : getAt d v i = v.getD i.toNat d := rfl

theorem getAt_natCast {α : Type} (d : α) (v : List α) (c : Nat) : getAt d v (c : Int) = v.getD c d := by
  rw [getAt_eq_getD, Int.toNat_natCast]

theorem getD_map_ofVal (l : List Val) (c : Nat) : (l.map Fl.ofVal).getD c Fl.nan = Fl.ofVal (l.getD c .nan) := by
  simp only [List.getD_eq_getElem?_getD, List.getElem?_map]
  cases l[c]? <;> rfl

theorem getAt_map_ofVal (l : List Val) (i : Int) : getAt Fl.nan (l.map Fl.ofVal) i = Fl.ofVal (l.getD i.toNat .nan) := by
  rw [getAt_eq_getD, getD_map_ofVal]


theorem ext_getD {α : Type} (d : α) (l1 l2 : List α) (hl : l1.length = l2.length)
    (h : ∀ c, c < l1.length → l1.getD c d = l2.getD c d) : l1 = l2 := by
  apply List.ext_getElem hl
  intro c h1 h2
  have := h c h1
  simpa [List.getD_eq_getElem?_getD, List.getElem?_eq_getElem h1, List.getElem?_eq_getElem h2] using this

theorem sameLen_of_length {α β : Type} (a : List α) (b : List β) (h : a.length = b.length) : sameLen a b = true := by
  simp only [sameLen, h, beq_self_eq_true]

theorem sameLen_map {α β γ : Type} (L : List α) (a : α → β) (b : α → γ) : sameLen (L.map a) (L.map b) = true := by
  simp [sameLen]

theorem gather_map {α β : Type} (d : α) (v : List α) (L : List β) (f : β → Int) :
    gather d v (L.map f) = L.map (fun x => getAt d v (f x)) := by
  simp [gather, List.map_map, Function.comp_def]

theorem replicate_len {α β : Type} (x : α) (R : List β) : List.replicate (len R).toNat x = R.map (fun _ => x) := by
  rw [len, Int.toNat_natCast, List.map_const']

theorem full_natCast {α : Type} (x : α) (n : Nat) : PyVec.full x (n : Int) = (List.range n).map (fun _ => x) := by
  rw [PyVec.full, Int.toNat_natCast, List.map_const', List.length_range]

theorem getAt_map_range {α : Type} (d : α) (n : Nat) (g : Nat → α) (c : Nat) :
    getAt d ((List.range n).map g) (c : Int) = if c < n then g c else d := by
  rw [getAt_natCast, getD_range_map]

theorem inRange_iff (n i : Int) : inRange n i = true ↔ 0 ≤ i ∧ i < n := by
  simp only [inRange, Bool.and_eq_true, decide_eq_true_eq]

theorem inRange_natCast (n i : Nat) : inRange (n : Int) (i : Int) = decide (i < n) := by
  simp [inRange]

theorem gatherOk_iff {α : Type} (v : List α) (idx : List Int) :
    gatherOk v idx = true ↔ ∀ i ∈ idx, 0 ≤ i ∧ i < (v.length : Int) := by
  simp only [gatherOk, List.all_eq_true, inRange_iff, len]

theorem gatherOk_natCast {α : Type} (v : List α) (S : List Nat) (n : Nat) (hv : v.length = n) (h : ∀ c ∈ S, c < n) :
    gatherOk v (S.map (fun (c : Nat) => (c : Int))) = true := by
  rw [gatherOk_iff, hv]
  intro i hi
  obtain ⟨c, hc, rfl⟩ := List.mem_map.1 hi
  exact ⟨Int.natCast_nonneg c, Int.ofNat_lt.2 (h c hc)⟩

theorem gatherOk_map_filter {α β : Type} (v : List α) (L : List β) (f : β → Int) (p : β → Bool)
    (h : ∀ x, p x = true → inRange (len v) (f x) = true) : gatherOk v ((L.filter p).map f) = true := by
  rw [gatherOk_iff]
  intro i hi
  obtain ⟨x, hx, rfl⟩ := List.mem_map.1 hi
  exact (inRange_iff _ _).1 (h x (List.mem_filter.1 hx).2)

theorem all_map_id {α : Type} (L : List α) (p : α → Bool) (h : ∀ x ∈ L, p x = true) : (L.map p).all id = true := by
  simp only [List.all_map, List.all_eq_true]
  intro x hx
  exact h x hx

theorem gather_range_cast {α : Type} (d : α) (n : Nat) (g : Nat → α) (IC : List Nat) (hIC : ∀ c ∈ IC, c < n) :
    gather d ((List.range n).map g) (IC.map (fun (c : Nat) => (c : Int))) = IC.map g := by
  rw [gather_map]
  apply List.map_congr_left
  intro c hc
  rw [getAt_map_range, if_pos (hIC c hc)]

@[simp] theorem length_full {α : Type} (x : α) (n : Int) : (full x n).length = n.toNat := List.length_replicate

@[simp] theorem length_zip2 {α β γ : Type} (f : α → β → γ) (a : List α) (b : List β) :
    (zip2 f a b).length = min a.length b.length := List.length_zipWith

@[simp] theorem length_mapR {α β γ : Type} (f : α → β → γ) (a : List α) (s : β) : (mapR f a s).length = a.length :=
  List.length_map _

@[simp] theorem length_mapL {α β γ : Type} (f : α → β → γ) (s : α) (b : List β) : (mapL f s b).length = b.length :=
  List.length_map _

@[simp] theorem length_tabulate {α : Type} (n : Nat) (f : Int → α) : (tabulate (n : Int) f).length = n := by
  simp [tabulate]

@[simp] theorem length_maskSet {α : Type} (v : List α) (m : List Bool) (x : α) :
    (maskSet v m x).length = min v.length m.length := List.length_zipWith

theorem repeatEach_map {α β : Type} (f : α → β) (l : List α) (n : Int) :
    repeatEach (l.map f) n = (repeatEach l n).map f := by
  simp [repeatEach, List.flatMap_map, List.map_flatMap, List.map_replicate]

theorem tabulate_eq {α : Type} (n : Nat) (f : Int → α) :
    tabulate (n : Int) f = (List.range n).map (fun (i : Nat) => f (i : Int)) := by
  unfold tabulate
  rw [Int.toNat_natCast]

theorem fdiv_fin (a b : Rat) (h : b ≠ 0) : fdiv (.fin a) (.fin b) = .fin (a / b) := by
  simp [fdiv, h]

@[simp] theorem fdiv_nan_left (x : Fl) : fdiv .nan x = .nan := by cases x <;> rfl

theorem gatherOk_perm {α : Type} (v : List α) (s : List Int) (hs : s.Perm (PyVec.arange (PyVec.len v))) :
    gatherOk v s = true :=
  hs.all_eq.trans (gatherOk_natCast v _ v.length rfl fun _ hc => List.mem_range.1 hc)

end Pandora.PyVec

namespace Pandora.PyVecIdx
open Pandora.PyVec

theorem mem_whereIdx (b : List Bool) (c : Nat) : ((c : Int) ∈ whereIdx b) ↔ b.getD c false = true := by
  simp only [whereIdx, List.mem_map, List.mem_filter, List.mem_range]
  constructor
  · rintro ⟨a, ⟨_, h⟩, hc⟩
    have : a = c := by exact_mod_cast hc
    subst this; exact h
  · intro h
    refine ⟨c, ⟨?_, h⟩, rfl⟩
    by_contra hlt
    simp [List.getD_eq_getElem?_getD, List.getElem?_eq_none (Nat.le_of_not_lt hlt)] at h

theorem gatherOk_where {α : Type} (v : List α) (b : List Bool) (h : b.length ≤ v.length) :
    gatherOk v (whereIdx b) = true :=
  gatherOk_natCast v _ v.length rfl fun _ hc => Nat.lt_of_lt_of_le (List.mem_range.1 (List.mem_filter.1 hc).1) h

theorem gatherOk_where_map {α β : Type} (L : List β) (f : β → α) (p : β → Bool) :
    gatherOk (L.map f) (whereIdx (L.map p)) = true :=
  gatherOk_where _ _ (by simp only [List.length_map, Nat.le_refl])

theorem length_setAt {α : Type} (v : List α) (i : Int) (x : α) : (setAt v i x).length = v.length := by
  unfold setAt; split <;> simp

theorem getD_setAt {α : Type} (v : List α) (i : Int) (x : α) (c : Nat) (d : α) :
    (setAt v i x).getD c d = if i = (c : Int) ∧ c < v.length then x else v.getD c d := by
  unfold setAt
  by_cases h0 : 0 ≤ i
  · obtain ⟨k, rfl⟩ := Int.eq_ofNat_of_zero_le h0
    simp only [h0, if_true, Int.toNat_natCast, List.getD_eq_getElem?_getD, List.getElem?_set]
    by_cases hk : k = c
    · subst hk
      by_cases hl : k < v.length <;> simp [hl]
    · have : ¬ ((k : Int) = (c : Int)) := by exact_mod_cast hk
      simp [hk, this]
  · have : ¬ (i = (c : Int)) := by omega
    simp [h0, this]

theorem length_scatterSet {α : Type} (v : List α) (idx : List Int) (vals : List α) :
    (scatterSet v idx vals).length = v.length := by
  unfold scatterSet
  generalize idx.zip vals = ps
  induction ps generalizing v with
  | nil => rfl
  | cons p ps ih => simp [List.foldl_cons, ih, length_setAt]

theorem getD_scatterSet_map {α : Type} (v : List α) (idx : List Int) (h : Int → α) (c : Nat) (d : α) :
    (scatterSet v idx (idx.map h)).getD c d = if (c : Int) ∈ idx ∧ c < v.length then h c else v.getD c d := by
  induction idx generalizing v with
  | nil => simp [scatterSet]
  | cons i idx ih =>
    have step : scatterSet v (i :: idx) ((i :: idx).map h) = scatterSet (setAt v i (h i)) idx (idx.map h) := by
      simp [scatterSet]
    rw [step, ih, length_setAt, getD_setAt]
    by_cases hc : (c : Int) ∈ idx
    · by_cases hl : c < v.length <;> simp [hc, hl]
    · by_cases hi : i = (c : Int)
      · subst hi
        by_cases hl : c < v.length <;> simp [hc, hl]
      · have : ¬ ((c : Int) = i) := fun e => hi e.symm
        simp [hc, hi, this]

theorem zipWith3_map {α β γ δ ε : Type} (f : β → γ → δ → ε) (L : List α) (a : α → β) (b : α → γ) (c : α → δ) :
    PyVecIdx.zipWith3 f (L.map a) (L.map b) (L.map c) = L.map (fun x => f (a x) (b x) (c x)) := by
  induction L with
  | nil => rfl
  | cons x L ih => simp [PyVecIdx.zipWith3, ih]

theorem tileRows_len {α β : Type} (v : List α) (L : List β) : tileRows v (len L) = L.map (fun _ => v) :=
  replicate_len v L

theorem tileCols_len {α β γ : Type} (L : List β) (f : β → α) (R : List γ) :
    tileCols (L.map f) (len R) = L.map (fun c => R.map (fun _ => f c)) := by
  simp [tileCols, replicate_len, List.map_map, Function.comp_def]

theorem sameShape_map {α β γ δ : Type} (L : List α) (R : List β) (a : α → β → γ) (b : α → β → δ) :
    sameShape (L.map fun x => R.map (a x)) (L.map fun x => R.map (b x)) = true := by
  simp [sameShape]

theorem gather2Ok_map {α β γ : Type} (L : List α) (R : List β) (f : α → β → γ) (p : α → β → Bool) :
    gather2Ok (L.map fun x => R.map (f x)) (L.map fun x => whereIdx (R.map (p x))) = true := by
  simp only [gather2Ok, zipWith_map_map, List.length_map, beq_self_eq_true, Bool.true_and]
  have : ∀ x, gatherOk (R.map (f x)) (whereIdx (R.map (p x))) = true := fun x => gatherOk_where _ _ (by simp)
  simp [this]

end Pandora.PyVecIdx

namespace Pandora.PyLoops.Fl

theorem le_fin (a b : Rat) : Fl.le (.fin a) (.fin b) = decide (a ≤ b) := by
  simp only [Fl.le, Fl.lt, Fl.eq, Rat.le_iff_lt_or_eq, Bool.decide_or]

@[simp] theorem sub_fin (a b : Rat) : Fl.sub (.fin a) (.fin b) = .fin (a - b) := by
  simp [Fl.sub, Fl.neg, Fl.add, sub_eq_add_neg]

@[simp] theorem sub_nan_left (x : Fl) : Fl.sub .nan x = .nan := by cases x <;> rfl

protected theorem mul_comm (a b : Fl) : Fl.mul a b = Fl.mul b a := by
  cases a <;> cases b <;> simp [Fl.mul, mul_comm]

protected theorem add_comm (a b : Fl) : Fl.add a b = Fl.add b a := by
  cases a <;> cases b <;> simp [Fl.add, add_comm]

end Pandora.PyLoops.Fl
