/-
  Index arithmetic of the matching-cost model: `point_interval` in closed form, the shifted right images as
  linear interpolation, the disparity range as an arithmetic progression.  `x.gmin`, `x.gmax`, `x.nSamples` name the
  global interval of an input and its number of samples.
-/
import PandoraModel.Lemmas.MCSums

namespace Pandora.MC

abbrev Input.gmin (x : Input) : Int := gridMin x.dminG x.L.rows x.L.cols
abbrev Input.gmax (x : Input) : Int := gridMax x.dmaxG x.L.rows x.L.cols
abbrev Input.nSamples (x : Input) : Nat := nDisp x.gmin x.gmax x.sp

def fracBit (k : Int) (sp : Nat) : Int := if k % (sp : Int) = 0 then 0 else 1

theorem fracBit_nonneg (k : Int) (sp : Nat) : 0 ≤ fracBit k sp := by unfold fracBit; split <;> omega
theorem fracBit_le_one (k : Int) (sp : Nat) : fracBit k sp ≤ 1 := by unfold fracBit; split <;> omega

theorem neg_ediv_fracBit (k : Int) (sp : Nat) (hs : 0 < sp) :
    (-k) / (sp : Int) = -(k / (sp : Int)) - fracBit k sp := by
  rw [Int.neg_ediv, Int.sign_eq_one_of_pos (by exact_mod_cast hs)]
  unfold fracBit
  simp only [Int.dvd_iff_emod_eq_zero]

theorem add_mul_ediv (a b : Int) (sp : Nat) (hs : 0 < sp) : (b * (sp : Int) + a) / (sp : Int) = b + a / sp := by
  have hs' : (sp : Int) ≠ 0 := by exact_mod_cast (Nat.pos_iff_ne_zero.mp hs)
  rw [Int.add_comm, Int.add_mul_ediv_right _ _ hs', Int.add_comm]

theorem cdiv_eq (k : Int) (sp : Nat) (hs : 0 < sp) : cdiv k sp = k / (sp : Int) + fracBit k sp := by
  unfold cdiv
  rw [neg_ediv_fracBit k sp hs]
  omega

theorem cdiv_mul_add (n a : Int) (sp : Nat) (hs : 0 < sp) : cdiv (n * (sp : Int) + a) sp = n + cdiv a sp := by
  unfold cdiv
  rw [Int.neg_add, ← Int.neg_mul, add_mul_ediv _ _ sp hs]
  omega

/-- closed form of `point_interval` for the disparity `k/sp`: with `D = ⌊k/sp⌋` and `e = [fractional]`,
    `p = [max 0 (-D), min nxL (nxL - D - e))` and `q = [max 0 D, min nxR (nxR + D + e))` -/
theorem pointInterval_closed (nxL nxR k : Int) (sp : Nat) (hs : 0 < sp) :
    pointInterval nxL nxR k sp =
      ⟨max 0 (-(k / (sp : Int))), min nxL (nxL - k / (sp : Int) - fracBit k sp),
       max 0 (k / (sp : Int)), min nxR (nxR + k / (sp : Int) + fracBit k sp)⟩ := by
  have hs' : (0 : Int) < sp := by exact_mod_cast hs
  have hf0 := fracBit_nonneg k sp
  have hf1 := fracBit_le_one k sp
  have hz : ∀ n : Int, n * (sp : Int) = n * (sp : Int) + 0 := fun n => (Int.add_zero _).symm
  unfold pointInterval
  simp only
  by_cases hk : k < 0
  · -- negative disparity: the four bounds are `⌈·⌉` of `-k`, `nxL·s`, `0`, `nxR·s + k`
    have hD : k / (sp : Int) < 0 := Int.ediv_neg_of_neg_of_pos hk hs'
    rw [if_pos hk, Int.zero_sub, Int.zero_add, max_eq_left (by omega : (0 : Int) ≤ -k), min_eq_right (by omega),
      max_eq_right (le_of_lt hk), min_eq_left (by omega), hz nxL, cdiv_mul_add _ _ sp hs, cdiv_mul_add _ _ sp hs,
      cdiv_eq k sp hs, max_eq_right (by omega : (0 : Int) ≤ -(k / (sp : Int))), min_eq_left (by omega),
      max_eq_left (le_of_lt hD), min_eq_right (by omega)]
    simp only [cdiv, Int.neg_neg, Int.neg_zero, Int.zero_ediv, Int.add_zero, Int.add_assoc]
  · -- non-negative disparity: `⌊·⌋` of `0`, `nxL·s − k`, `k`, `nxR·s`
    have hk' : 0 ≤ k := Int.not_lt.mp hk
    have hD : 0 ≤ k / (sp : Int) := Int.ediv_nonneg hk' (le_of_lt hs')
    rw [if_neg hk, Int.zero_sub, Int.zero_add, max_eq_right (by omega : -k ≤ (0 : Int)), min_eq_left (by omega),
      max_eq_left hk', min_eq_right (by omega), hz nxR, Int.sub_eq_add_neg]
    simp only [fdiv]
    rw [add_mul_ediv _ _ sp hs, add_mul_ediv _ _ sp hs, neg_ediv_fracBit k sp hs,
      max_eq_left (by omega : -(k / (sp : Int)) ≤ (0 : Int)), min_eq_right (by omega), max_eq_right hD,
      min_eq_left (by omega), Int.zero_ediv, Int.add_zero]
    congr 1
    omega

theorem mem_p_iff (nxL nxR k : Int) (sp : Nat) (hs : 0 < sp) (c : Int) :
    ((pointInterval nxL nxR k sp).p0 ≤ c ∧ c < (pointInterval nxL nxR k sp).p1) ↔
      (0 ≤ c ∧ c < nxL ∧ 0 ≤ c + k / (sp : Int) ∧ c + k / (sp : Int) + fracBit k sp < nxL) := by
  rw [pointInterval_closed nxL nxR k sp hs]
  have hf0 := fracBit_nonneg k sp
  simp only
  omega

theorem q0_eq (nxL nxR k : Int) (sp : Nat) (hs : 0 < sp) :
    (pointInterval nxL nxR k sp).q0 = (pointInterval nxL nxR k sp).p0 + k / (sp : Int) := by
  rw [pointInterval_closed nxL nxR k sp hs]
  simp only
  omega

/-- the right column facing left column `c` is `c + ⌊k/sp⌋` -/
theorem q_of_p (nxL nxR k : Int) (sp : Nat) (hs : 0 < sp) (c : Int) :
    (pointInterval nxL nxR k sp).q0 + (c - (pointInterval nxL nxR k sp).p0) = c + k / (sp : Int) := by
  rw [q0_eq nxL nxR k sp hs]
  omega

theorem iRight_eq (k : Int) (sp : Nat) (hs : 0 < sp) : ((iRight k sp : Nat) : Int) = k % (sp : Int) := by
  have hs' : (sp : Int) ≠ 0 := by exact_mod_cast (Nat.pos_iff_ne_zero.mp hs)
  have := Int.emod_nonneg k hs'
  unfold iRight
  omega

theorem iRight_eq_zero_iff (k : Int) (sp : Nat) (hs : 0 < sp) : iRight k sp = 0 ↔ k % (sp : Int) = 0 := by
  have := iRight_eq k sp hs
  omega

/-- column `c + ⌊k/sp⌋` of `img_right_shift[i_right]` is the right image interpolated at `c + k/sp` -/
theorem shiftRight_px (R : Img) (k : Int) (sp : Nat) (hs : 0 < sp) (r c : Int) :
    (shiftRight R sp (iRight k sp)).px r (c + k / (sp : Int)) = interpR R sp k r c := by
  have hs' : (0 : Int) < sp := by exact_mod_cast hs
  have hne : (sp : Int) ≠ 0 := ne_of_gt hs'
  have hi := iRight_eq k sp hs
  have hlt := Int.emod_lt_of_pos k hs'
  have hnn := Int.emod_nonneg k hne
  unfold shiftRight interpR
  by_cases h0 : k % (sp : Int) = 0
  · have : iRight k sp = 0 := (iRight_eq_zero_iff k sp hs).mpr h0
    simp [this, h0]
  · have hi0 : iRight k sp ≠ 0 := fun h => h0 ((iRight_eq_zero_iff k sp hs).mp h)
    simp only [hi0, if_false, h0]
    unfold zoomCol
    have e1 : ((iRight k sp : Nat) : Int) + (c + k / (sp : Int)) * (sp : Int) = (c + k / (sp : Int)) * sp + k % sp := by
      rw [hi]; ring
    have e2 : ((c + k / (sp : Int)) * (sp : Int) + k % sp) / sp = c + k / sp := by
      rw [add_mul_ediv _ _ sp hs, Int.ediv_eq_zero_of_lt hnn hlt]; ring
    have e3 : ((c + k / (sp : Int)) * (sp : Int) + k % sp) % sp = k % sp := by
      rw [Int.add_comm, Int.add_mul_emod_self_right, Int.emod_emod_of_dvd _ (dvd_refl _)]
    simp only [e1, e2, e3, h0, if_false]

theorem shiftRight_rows (R : Img) (sp i : Nat) : (shiftRight R sp i).rows = R.rows := by
  unfold shiftRight; split <;> rfl

theorem shiftRight_cols (R : Img) (k : Int) (sp : Nat) (hs : 0 < sp) (hc : 0 < R.cols) :
    (((shiftRight R sp (iRight k sp)).cols : Nat) : Int) = (R.cols : Int) - fracBit k sp := by
  unfold shiftRight fracBit
  by_cases h0 : k % (sp : Int) = 0
  · have : iRight k sp = 0 := (iRight_eq_zero_iff k sp hs).mpr h0
    simp [this, h0]
  · have hi0 : iRight k sp ≠ 0 := fun h => h0 ((iRight_eq_zero_iff k sp hs).mp h)
    simp only [hi0, if_false, h0]
    omega

theorem dispRange_eq (gmin gmax : Int) (sp : Nat) (hs : 0 < sp) (hg : gmin ≤ gmax) :
    dispRange gmin gmax sp =
      (List.range (((gmax - gmin) * (sp : Int)).toNat + 1)).map (fun (j : Nat) => gmin * (sp : Int) + (j : Int)) := by
  unfold dispRange
  by_cases h1 : sp = 1
  · subst h1
    simp only [if_true]
    have : (gmax + 1 - gmin).toNat = ((gmax - gmin) * ((1 : Nat) : Int)).toNat + 1 := by
      simp only [Nat.cast_one, Int.mul_one]; omega
    rw [this]
    apply List.map_congr_left
    intro j _
    simp
  · simp only [h1, if_false]
    rw [List.range_succ, List.map_append]
    congr 1
    simp only [List.map_cons, List.map_nil]
    have hs' : (0 : Int) ≤ sp := by exact_mod_cast (Nat.zero_le sp)
    have hnn : 0 ≤ (gmax - gmin) * (sp : Int) := Int.mul_nonneg (by omega) hs'
    have : (((gmax - gmin) * (sp : Int)).toNat : Int) = (gmax - gmin) * sp := Int.toNat_of_nonneg hnn
    rw [this]
    congr 1
    ring

theorem nDisp_eq (gmin gmax : Int) (sp : Nat) (hs : 0 < sp) (hg : gmin ≤ gmax) :
    nDisp gmin gmax sp = ((gmax - gmin) * (sp : Int)).toNat + 1 := by
  unfold nDisp; rw [dispRange_eq gmin gmax sp hs hg]; simp

theorem nDisp_cast (gmin gmax : Int) (sp : Nat) (hs : 0 < sp) (hg : gmin ≤ gmax) :
    (nDisp gmin gmax sp : Int) = gmax * sp - gmin * sp + 1 := by
  have hnn : 0 ≤ (gmax - gmin) * (sp : Int) := Int.mul_nonneg (by omega) (Int.natCast_nonneg _)
  rw [nDisp_eq gmin gmax sp hs hg, ← Int.sub_mul]
  omega

theorem dispRange_getD (gmin gmax : Int) (sp : Nat) (hs : 0 < sp) (hg : gmin ≤ gmax) (j : Nat)
    (hj : j < nDisp gmin gmax sp) : (dispRange gmin gmax sp).getD j 0 = gmin * (sp : Int) + j := by
  rw [nDisp_eq gmin gmax sp hs hg] at hj
  rw [dispRange_eq gmin gmax sp hs hg]
  simp [List.getD, hj]

end Pandora.MC
