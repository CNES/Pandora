/-
  What `Schema.accepts` does on each constructor (and `entryOk`, `acceptsZip` under it), and the lambda `x is None`:
  the equations through which the property files read the `json_checker` model of `Model/Schema.lean`.
-/
import PandoraModel.Model.Schema

namespace Pandora.Schema

theorem accepts_type (o : Oracle) (t : PyType) (v : JVal) : accepts o (.type t) v = t.isInstance v := by
  rw [accepts]

theorem accepts_func (o : Oracle) (e : Expr) (v : JVal) : accepts o (.func e) v = e.holds v := by
  rw [accepts]

theorem accepts_oracle (o : Oracle) (name : String) (v : JVal) : accepts o (.oracle name) v = o name v := by
  rw [accepts]

theorem accepts_all (o : Oracle) (l : List Schema) (v : JVal) :
    accepts o (.all l) v = l.all (fun s => accepts o s v) := by
  rw [accepts]
  induction l with
  | nil => rfl
  | cons s rest ih => rw [acceptsAll, ih, List.all_cons]

/-- `Or(…)`: some component among those `json_checker` keeps for the type of the value -/
theorem accepts_any (o : Oracle) (l : List Schema) (v : JVal) :
    accepts o (.any l) v = l.any (fun s => keptByOr v s && accepts o s v) := by
  rw [accepts]
  induction l with
  | nil => rfl
  | cons s rest ih => rw [acceptsAny, ih, List.any_cons]

/-- one expected key: present and valid, or absent and optional -/
def entryOk (o : Oracle) (kvs : Dict) (e : String × Bool × Schema) : Bool :=
  match Dict.lookup kvs e.1 with
  | some v => accepts o e.2.2 v
  | none => e.2.1

theorem entryOk_of_lookup_some {o : Oracle} {kvs : Dict} {e : String × Bool × Schema} {v : JVal}
    (h : Dict.lookup kvs e.1 = some v) : entryOk o kvs e = accepts o e.2.2 v := by
  rw [entryOk, h]

theorem entryOk_of_lookup_none {o : Oracle} {kvs : Dict} {e : String × Bool × Schema}
    (h : Dict.lookup kvs e.1 = none) : entryOk o kvs e = e.2.1 := by
  rw [entryOk, h]

theorem accepts_dict (o : Oracle) (es : List (String × Bool × Schema)) (kvs : Dict) :
    accepts o (.dict es) (.obj kvs) =
      (es.all (entryOk o kvs) && kvs.all (fun kv => es.any (fun e => e.1 == kv.1))) := by
  rw [accepts]
  congr 1
  induction es with
  | nil => rfl
  | cons e rest ih =>
    obtain ⟨k, opt, s⟩ := e
    rw [acceptsEntries, ih, List.all_cons]; rfl

theorem accepts_dict_of_isObj_eq_false (o : Oracle) (es : List (String × Bool × Schema)) (v : JVal)
    (h : v.isObj = false) : accepts o (.dict es) v = false := by
  cases v with
  | obj _ => cases h
  | _ => simp [accepts]

theorem accepts_listOf_of_isList_eq_false (o : Oracle) (l : List Schema) (v : JVal) (h : v.isList = false) :
    accepts o (.listOf l) v = false := by
  cases v with
  | list _ => cases h
  | _ => simp [accepts]

theorem accepts_listOf_nil (o : Oracle) (l : List Schema) : accepts o (.listOf l) (.list []) = false := by
  cases l <;> simp [accepts]

theorem accepts_nil_listOf (o : Oracle) (items : List JVal) : accepts o (.listOf []) (.list items) = false := by
  cases items <;> simp [accepts]

theorem accepts_listOf_cons (o : Oracle) (s : Schema) (rest : List Schema) (x : JVal) (xs : List JVal) :
    accepts o (.listOf (s :: rest)) (.list (x :: xs)) =
      if (s :: rest).length = (x :: xs).length then acceptsZip o (s :: rest) (x :: xs)
      else (x :: xs).all (fun y => accepts o s y) := by
  rw [accepts]
  exact fun h => nomatch h

theorem acceptsZip_cons (o : Oracle) (s : Schema) (ss : List Schema) (x : JVal) (xs : List JVal) :
    acceptsZip o (s :: ss) (x :: xs) = (accepts o s x && acceptsZip o ss xs) := by
  rw [acceptsZip]

theorem acceptsZip_nil (o : Oracle) (xs : List JVal) : acceptsZip o [] xs = true := by
  rw [acceptsZip]; simp

end Pandora.Schema

namespace Pandora.Expr

theorem isNone_holds (v : JVal) : (Expr.isNone .var).holds v = v.isNull := by
  cases v <;> rfl
end Pandora.Expr
