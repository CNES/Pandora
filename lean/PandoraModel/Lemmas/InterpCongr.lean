/- C14: maps that agree inside the image (`Agree`): the scans, the rays and the sources of the specification read no other
   cell; a source is the disparity of a valid pixel; the 3×3 occlusion test of sgm. -/
import PandoraModel.Model.Interp

namespace Pandora.Interp
open Pandora.Flags

structure Agree (m m' : DMap) : Prop where
  rows : m.rows = m'.rows
  cols : m.cols = m'.cols
  disp : ∀ r c, r < m.rows → c < m.cols → m.disp r c = m'.disp r c
  flag : ∀ r c, r < m.rows → c < m.cols → m.flag r c = m'.flag r c

theorem _root_.Pandora.Interp.Agree.refl (m : DMap) : Agree m m := ⟨rfl, rfl, fun _ _ _ _ => rfl, fun _ _ _ _ => rfl⟩

theorem _root_.Pandora.Interp.Agree.trans {a b c : DMap} (h1 : Agree a b) (h2 : Agree b c) : Agree a c :=
  ⟨h1.rows.trans h2.rows, h1.cols.trans h2.cols,
   fun r c hr hc => (h1.disp r c hr hc).trans (h2.disp r c (h1.rows ▸ hr) (h1.cols ▸ hc)),
   fun r c hr hc => (h1.flag r c hr hc).trans (h2.flag r c (h1.rows ▸ hr) (h1.cols ▸ hc))⟩

theorem inside_iff {m : DMap} {p : Int × Int} :
    m.inside p = true ↔ 0 ≤ p.1 ∧ p.1 < m.rows ∧ 0 ≤ p.2 ∧ p.2 < m.cols := by
  simp [DMap.inside, and_assoc]

theorem inside_toNat {m : DMap} {p : Int × Int} (h : m.inside p = true) :
    p.1.toNat < m.rows ∧ p.2.toNat < m.cols := by
  rw [inside_iff] at h; omega

theorem Agree.inside {m m' : DMap} (h : Agree m m') (p : Int × Int) : m.inside p = m'.inside p := by
  unfold DMap.inside; rw [h.rows, h.cols]

theorem Agree.validAt {m m' : DMap} (h : Agree m m') {p : Int × Int} (hp : m.inside p = true) :
    m.validAt p = m'.validAt p := by
  have := inside_toNat hp
  simp only [DMap.validAt, DMap.valid, h.flag _ _ this.1 this.2]

theorem Agree.dispAt {m m' : DMap} (h : Agree m m') {p : Int × Int} (hp : m.inside p = true) :
    m.dispAt p = m'.dispAt p := by
  have := inside_toNat hp
  simp only [DMap.dispAt, h.disp _ _ this.1 this.2]

theorem scanLoop_congr {m m' : DMap} (h : Agree m m') (init : Val) (pos : Nat → Int × Int) :
    ∀ fuel i, scanLoop init m pos fuel i = scanLoop init m' pos fuel i
  | 0, _ => rfl
  | fuel + 1, i => by
    simp only [scanLoop, ← h.inside]
    by_cases hi : m.inside (pos i) = true
    · simp only [hi, Bool.not_true, Bool.false_eq_true, if_false, h.validAt hi, h.dispAt hi,
        scanLoop_congr h init pos fuel (i + 1)]
    · simp [hi]

theorem lift_agree (pix : DMap → Nat → Nat → Val × Nat)
    (hc : ∀ m m', Agree m m' → ∀ r c, r < m.rows → c < m.cols → pix m r c = pix m' r c)
    {m m' : DMap} (h : Agree m m') : Agree (lift pix m) (lift pix m') :=
  ⟨h.rows, h.cols, fun r c hr hc' => by simp only [lift, hc m m' h r c hr hc'],
   fun r c hr hc' => by simp only [lift, hc m m' h r c hr hc']⟩

theorem firstValid_congr {m m' : DMap} (h : Agree m m') (L : List (Int × Int))
    (hL : ∀ p ∈ L, m.inside p = true) : firstValid m L = firstValid m' L := by
  induction L with
  | nil => rfl
  | cons p t ih =>
    have hp := hL p List.mem_cons_self
    have ih' := ih fun q hq => hL q (List.mem_cons_of_mem _ hq)
    unfold firstValid at ih' ⊢
    rw [List.find?_cons, List.find?_cons, ← h.validAt hp]
    cases hvp : m.validAt p
    · exact ih'
    · simp [h.dispAt hp]

theorem rayPts_inside (m : DMap) (pos : Nat → Int × Int) : ∀ p ∈ rayPts m pos, m.inside p = true :=
  List.all_eq_true.mp List.all_takeWhile

theorem rayPts_congr {m m' : DMap} (h : Agree m m') (pos : Nat → Int × Int) : rayPts m pos = rayPts m' pos := by
  unfold rayPts
  rw [h.rows, h.cols]
  congr 1
  funext p; exact h.inside p

theorem firstValid_rayPts_congr {m m' : DMap} (h : Agree m m') (pos : Nat → Int × Int) :
    firstValid m (rayPts m pos) = firstValid m' (rayPts m' pos) := by
  rw [← rayPts_congr h pos]; exact firstValid_congr h _ (rayPts_inside m pos)

theorem sourcesMc_congr {m m' : DMap} (h : Agree m m') (r c : Nat) : sourcesMc m r c = sourcesMc m' r c := by
  unfold sourcesMc; congr 1; funext d; exact firstValid_rayPts_congr h _

theorem sourcesSgm_congr {m m' : DMap} (h : Agree m m') (r c : Nat) : sourcesSgm m r c = sourcesSgm m' r c := by
  unfold sourcesSgm; congr 1; funext d; exact firstValid_rayPts_congr h _

theorem firstValid_some {m : DMap} {L : List (Int × Int)} {v : Val} (h : firstValid m L = some v) :
    ∃ p ∈ L, m.validAt p = true ∧ m.dispAt p = v := by
  unfold firstValid at h
  rw [Option.map_eq_some_iff] at h
  obtain ⟨p, hp, hv⟩ := h
  exact ⟨p, List.mem_of_find?_eq_some hp, List.find?_some hp, hv⟩

theorem ray_source_pixel {m : DMap} {pos : Nat → Int × Int} {v : Val}
    (h : firstValid m (rayPts m pos) = some v) :
    ∃ r c, r < m.rows ∧ c < m.cols ∧ m.valid r c = true ∧ m.disp r c = v := by
  obtain ⟨p, hp, hv, hd⟩ := firstValid_some h
  have := inside_toNat (rayPts_inside m pos p hp)
  exact ⟨p.1.toNat, p.2.toNat, this.1, this.2, hv, hd⟩

theorem sourceOcclMc_pixel {m : DMap} {r c : Nat} (hc : c < m.cols) {v : Val} (h : sourceOcclMc m r c = some v) :
    ∃ j, j < m.cols ∧ m.valid r j = true ∧ m.disp r j = v := by
  unfold sourceOcclMc at h
  have key : ∀ L : List (Int × Int), (∀ p ∈ L, p.1 = (r : Int) ∧ 0 ≤ p.2 ∧ p.2 < (m.cols : Int)) →
      firstValid m L = some v → ∃ j, j < m.cols ∧ m.valid r j = true ∧ m.disp r j = v := by
    intro L hL hf
    obtain ⟨p, hp, hv, hd⟩ := firstValid_some hf
    obtain ⟨h1, h2, h3⟩ := hL p hp
    refine ⟨p.2.toNat, by omega, ?_, ?_⟩
    · have : p.1.toNat = r := by omega
      rw [← this]; exact hv
    · have : p.1.toNat = r := by omega
      rw [← this]; exact hd
  split at h
  · rename_i v' hl
    cases h
    apply key _ _ hl
    intro p hp
    simp only [leftPts, List.mem_map, List.mem_reverse, List.mem_range] at hp
    obtain ⟨j, hj, rfl⟩ := hp
    simp; omega
  · apply key _ _ h
    intro p hp
    simp only [rightPts, List.mem_map, List.mem_range'_1] at hp
    obtain ⟨j, hj, rfl⟩ := hp
    simp; omega

theorem sum_map_ne_zero_iff {α} (l : List α) (f : α → Nat) : (l.map f).sum ≠ 0 ↔ ∃ x ∈ l, f x ≠ 0 := by
  simp [List.sum_eq_zero_iff_forall_eq_nat]

/-- the slice `max(0, i-1) : min(n-1, i+1) + 1` of an axis of length `n` -/
theorem mem_window {n i k : Nat} (hi : i < n) :
    k ∈ List.range' (i - 1) (min (n - 1) (i + 1) + 1 - (i - 1)) ↔ k < n ∧ k ≤ i + 1 ∧ i ≤ k + 1 := by
  rw [List.mem_range'_1]; omega

/-- `np.sum(valid[clipped 3×3 window] & OCCLUSION) != 0` iff a pixel of the clipped 3×3 neighbourhood
    carries bit 8 -/
theorem occlusionSum3x3_ne_zero (m : DMap) (r c : Nat) (hr : r < m.rows) (hc : c < m.cols) :
    (occlusionSum3x3 m r c != 0) = touchesOcclusion m r c := by
  rw [Bool.eq_iff_iff]
  unfold occlusionSum3x3 touchesOcclusion hasBit
  simp only [bne_iff_ne, sum_map_ne_zero_iff, mem_window hr, mem_window hc, List.any_eq_true, List.mem_range,
    Bool.and_eq_true, decide_eq_true_eq]
  constructor
  · rintro ⟨r', ⟨h1, h2, h3⟩, c', ⟨h4, h5, h6⟩, h⟩
    exact ⟨r', h1, c', h4, ⟨⟨⟨⟨h2, h3⟩, h5⟩, h6⟩, h⟩⟩
  · rintro ⟨r', h1, c', h4, ⟨⟨⟨⟨h2, h3⟩, h5⟩, h6⟩, h⟩⟩
    exact ⟨r', ⟨h1, h2, h3⟩, c', ⟨h4, h5, h6⟩, h⟩

end Pandora.Interp
