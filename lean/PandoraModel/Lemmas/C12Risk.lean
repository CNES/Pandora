/-
  C12 — risk: the kernel's per-eta disparity sets are the specification's index sets; a set of `k`
  distinct indices spans at least `k - 1`, hence `0 ≤ risk_min ≤ risk_max`.
-/
import PandoraModel.Lemmas.C12Layout

namespace Pandora.C12
open Pandora.Confidence

theorem flatMap_getD_range {β} (curve : Curve) (g : Val → List β) :
    curve.flatMap g = (List.range curve.length).flatMap (fun d => g (curve.getD d .nan)) := by
  conv => lhs; rw [← map_getD_range' curve .nan]
  rw [List.flatMap_map]

theorem chunks_flatMap_range {β} (n k : Nat) (g : Nat → List β) (hg : ∀ d, (g d).length = k) :
    chunks k n ((List.range n).flatMap g) = (List.range n).map g := by
  have := chunks_flatMap (List.range n) g k (fun d _ => hg d)
  rwa [List.length_range] at this

theorem idxWithin_eq (mn mx : Rat) (curve : Curve) (m e : Rat) (hb : Spec.best false curve = some m) :
    Spec.idxWithin false mn mx curve e
      = (List.range curve.length).filter (fun d => Spec.within false mn mx m e (curve.getD d .nan)) := by
  unfold Spec.idxWithin
  rw [hb]
  rfl

/-- `disp_cv` of `compute_risk` and `compute_risk_and_sampled_risk`, flat (index `d * n_eta + i`): the disparity `d`,
    or NaN (`none`) where its cost is not within `eta_i` of the pixel's best `m` -/
def dispCv (mn mx : Rat) (etas : List Rat) (curve : Curve) (m : Rat) : List (Option Nat) :=
  List.zipWith (fun d keep => if keep then some d else none) (npRepeat (List.range curve.length) etas.length)
    (pixelCmp mn mx etas curve m)

/-- `max_disp − min_disp`, one entry per sample (`none`: no disparity kept) -/
def spreads (mn mx : Rat) (etas : List Rat) (curve : Curve) (m : Rat) : List (Option Rat) :=
  ((List.range etas.length).map (fun i =>
    (column none (chunks etas.length curve.length (dispCv mn mx etas curve m)) i).filterMap id)).map spreadOpt

theorem pixelRisk_of_best (mn mx : Rat) (etas : List Rat) (curve : Curve) (sampled : List Nat) (m : Rat)
    (hb : pixelBest mn mx curve = some m) :
    pixelRisk mn mx etas curve sampled
      = (nanMean (spreads mn mx etas curve m),
         nanMean (List.zipWith (fun s a => s.map (fun s => (1 + s) - ((a : Nat) : Rat))) (spreads mn mx etas curve m) sampled)) := by
  simp only [pixelRisk, hb]
  rfl

theorem pixelSampledRisk_of_best (mn mx : Rat) (etas : List Rat) (curve : Curve) (sampled : List Nat) (m : Rat)
    (hb : pixelBest mn mx curve = some m) :
    pixelSampledRisk mn mx etas curve sampled
      = ((spreads mn mx etas curve m).map optVal,
         (List.zipWith (fun s a => s.map (fun s => (1 + s) - ((a : Nat) : Rat))) (spreads mn mx etas curve m) sampled).map optVal) := by
  simp only [pixelSampledRisk, hb]
  rfl

/-- the disparities kept for sample `i` (column `i` of `disp_cv` after dropping the NaNs) are the indices within
    `eta_i` of the best -/
theorem spreads_eq (mn mx : Rat) (etas : List Rat) (curve : Curve) (m : Rat) (hb : Spec.best false curve = some m) :
    spreads mn mx etas curve m = etas.map (fun e => spreadOpt (Spec.idxWithin false mn mx curve e)) := by
  unfold spreads dispCv
  rw [pixelCmp_eq mn mx etas curve m, flatMap_getD_range curve]
  unfold npRepeat
  rw [zipWith_flatMap_flatMap _ _ _ _ (by simp)]
  have hrow : ∀ d : Nat,
      List.zipWith (fun d keep => if keep = true then some d else none) (List.replicate etas.length d)
        (etas.map (fun e => Spec.within false mn mx m e (curve.getD d .nan)))
      = etas.map (fun e => if Spec.within false mn mx m e (curve.getD d .nan) = true then some d else none) := by
    intro d
    rw [zipWith_replicate_left _ _ _ _ (by simp), List.map_map]
    rfl
  simp only [hrow]
  rw [chunks_flatMap_range curve.length etas.length _ (by simp)]
  rw [map_columns none (List.range curve.length) etas
    (fun d e => if Spec.within false mn mx m e (curve.getD d .nan) = true then some d else none) (List.filterMap id),
    List.map_map]
  exact List.map_congr_left fun e _ =>
    congrArg spreadOpt ((filterMap_ite _ _).trans (idxWithin_eq mn mx curve m e hb).symm)

/-- **card_le_span**: `k` distinct increasing indices span at least `k − 1` -/
theorem card_le_span (l : List Nat) (h : l.Pairwise (· < ·)) (a b : Nat)
    (ha : l.head? = some a) (hb : l.getLast? = some b) : l.length + a ≤ b + 1 := by
  induction l generalizing a with
  | nil => simp at ha
  | cons x xs ih =>
    have hx := (List.pairwise_cons.1 h)
    simp at ha
    subst ha
    cases xs with
    | nil => simp at hb; subst hb; simp; omega
    | cons y ys =>
      have hxy : x < y := hx.1 y (by simp)
      have := ih hx.2 y (by simp) (by simpa using hb)
      simp at this ⊢
      omega

theorem spreadOpt_eq (l : List Nat) (hs : l.Pairwise (· < ·)) (hne : l ≠ []) :
    spreadOpt l = some (Spec.spread l) := by
  obtain ⟨x, xs, rfl⟩ := List.exists_cons_of_ne_nil hne
  unfold spreadOpt Spec.spread
  rw [lminNat_sorted _ hs, lmaxNat_sorted _ hs, List.getLast?_eq_some_getLast (List.cons_ne_nil _ _)]
  rfl

theorem countP_eq_length_filter_range (curve : Curve) (p : Val → Bool) :
    curve.countP p = ((List.range curve.length).filter (fun d => p (curve.getD d .nan))).length := by
  conv => lhs; rw [← map_getD_range' curve .nan]
  rw [List.countP_map, List.countP_eq_length_filter]
  rfl

/-- with non-negative samples the pixel's best disparity is always within eta: the index sets are non-empty -/
theorem idxWithin_ne_nil (mn mx : Rat) (curve : Curve) (m e : Rat) (hb : Spec.best false curve = some m) (he : 0 ≤ e) :
    Spec.idxWithin false mn mx curve e ≠ [] := by
  obtain ⟨i, hi, hget⟩ := List.getElem_of_mem (best_mem false curve m hb)
  apply List.ne_nil_of_mem (a := i)
  rw [idxWithin_eq mn mx curve m e hb, List.mem_filter, List.mem_range]
  refine ⟨hi, ?_⟩
  simp only [List.getD_eq_getElem?_getD, List.getElem?_eq_getElem hi, Option.getD_some, hget, Spec.within,
    Bool.false_eq_true, if_false, decide_eq_true_eq]
  linarith

theorem idxWithin_sorted (isMax : Bool) (mn mx : Rat) (curve : Curve) (e : Rat) :
    (Spec.idxWithin isMax mn mx curve e).Pairwise (· < ·) :=
  List.Pairwise.filter _ List.pairwise_lt_range

theorem nanMean_map_some {ι} (l : List ι) (f : ι → Rat) (h : l ≠ []) :
    nanMean (l.map (fun x => some (f x))) = Val.num (sumRat (l.map f) / (l.length : Rat)) := by
  unfold nanMean
  have : (l.map (fun x => some (f x))).filterMap id = l.map f := by
    rw [List.filterMap_map]
    exact congrFun (List.filterMap_eq_map (f := f)) l
  simp only [this, List.isEmpty_map, List.isEmpty_iff, h, if_false, List.length_map]

def riskVals : Option (Rat × Rat) → Val × Val
  | some (a, b) => (.num a, .num b)
  | none => (.nan, .nan)

/-- **risk_def** (pixel level, `min` measure): `compute_risk` returns the eta-means of the disparity
    spread and of `1 + spread − count`, NaN for a pixel without finite cost — for every curve, every
    non-empty grid of non-negative samples -/
theorem pixelRisk_spec (mn mx : Rat) (etas : List Rat) (curve : Curve) (hne : mx ≠ mn)
    (hpos : ∀ e ∈ etas, 0 ≤ e) (hetas : etas ≠ []) :
    pixelRisk mn mx etas curve (pixelSampled mn mx etas curve) = riskVals (Spec.risk false mn mx etas curve) := by
  rw [pixelSampled_spec mn mx etas curve hne]
  cases hb : Spec.best false curve with
  | none => simp [pixelRisk, pixelBest_eq mn mx curve hne, Spec.risk, hb, riskVals]
  | some m =>
    rw [pixelRisk_of_best mn mx etas curve _ m ((pixelBest_eq mn mx curve hne).trans hb), spreads_eq mn mx etas curve m hb,
      List.zipWith_map, List.zipWith_self]
    simp only [Spec.risk, hb]
    have hsp : ∀ e ∈ etas, spreadOpt (Spec.idxWithin false mn mx curve e)
        = some (Spec.spread (Spec.idxWithin false mn mx curve e)) := fun e he =>
      spreadOpt_eq _ (idxWithin_sorted _ _ _ _ e) (idxWithin_ne_nil mn mx curve m e hb (hpos e he))
    have hcount : ∀ e, (Spec.ambAt false mn mx curve e : Nat) = (Spec.idxWithin false mn mx curve e).length :=
      fun e => countP_eq_length_filter_range curve _
    simp only [riskVals, Prod.mk.injEq]
    constructor
    · rw [List.map_congr_left hsp, nanMean_map_some _ _ hetas]
      simp only [Spec.mean, List.map_map, List.length_map]
      rfl
    · rw [List.map_congr_left (g := fun e => some (1 + Spec.spread (Spec.idxWithin false mn mx curve e)
          - ((Spec.idxWithin false mn mx curve e).length : Rat)))
        (fun e he => by rw [hsp e he, Option.map_some, hcount]), nanMean_map_some _ _ hetas]
      simp only [Spec.mean, List.map_map, List.length_map]
      rfl

theorem spread_bounds (l : List Nat) (hs : l.Pairwise (· < ·)) (hne : l ≠ []) :
    0 ≤ 1 + Spec.spread l - (l.length : Rat) ∧ 1 + Spec.spread l - (l.length : Rat) ≤ Spec.spread l := by
  obtain ⟨x, xs, rfl⟩ := List.exists_cons_of_ne_nil hne
  have hlast := List.getLast?_eq_some_getLast (List.cons_ne_nil x xs)
  have hspan : (((x :: xs).length : Nat) : Rat) + x ≤ ((x :: xs).getLast (List.cons_ne_nil x xs) : Nat) + 1 := by
    exact_mod_cast card_le_span (x :: xs) hs x _ rfl hlast
  have hlen : (1 : Rat) ≤ ((x :: xs).length : Nat) := by
    exact_mod_cast Nat.succ_le_of_lt (List.length_pos_iff.2 hne)
  have hsp : Spec.spread (x :: xs) = (((x :: xs).getLast (List.cons_ne_nil x xs) : Nat) : Rat) - (x : Rat) := by
    unfold Spec.spread
    rw [hlast]
    rfl
  rw [hsp]
  constructor <;> linarith

/-- **risk_order** on the specification: `0 ≤ risk_min ≤ risk_max` -/
theorem risk_order_spec (mn mx : Rat) (etas : List Rat) (curve : Curve) (hpos : ∀ e ∈ etas, 0 ≤ e)
    (a b : Rat) (h : Spec.risk false mn mx etas curve = some (a, b)) : 0 ≤ b ∧ b ≤ a := by
  unfold Spec.risk at h
  cases hbest : Spec.best false curve with
  | none => rw [hbest] at h; cases h
  | some m =>
    rw [hbest] at h
    simp only [Option.some.injEq, Prod.mk.injEq] at h
    obtain ⟨ha, hb⟩ := h
    have hterm : ∀ e ∈ etas,
        0 ≤ 1 + Spec.spread (Spec.idxWithin false mn mx curve e) - ((Spec.idxWithin false mn mx curve e).length : Rat)
        ∧ 1 + Spec.spread (Spec.idxWithin false mn mx curve e) - ((Spec.idxWithin false mn mx curve e).length : Rat)
          ≤ Spec.spread (Spec.idxWithin false mn mx curve e) := by
      intro e he
      exact spread_bounds _ (idxWithin_sorted _ _ _ _ e) (idxWithin_ne_nil mn mx curve m e hbest (hpos e he))
    subst ha hb
    unfold Spec.mean
    simp only [List.map_map, List.length_map]
    have hn : (0 : Rat) ≤ (etas.length : Rat) := by exact_mod_cast Nat.zero_le _
    constructor
    · apply div_nonneg _ hn
      exact sumRat_map_nonneg etas _ (fun e he => (hterm e he).1)
    · apply div_le_div_of_nonneg_right _ hn
      exact sumRat_map_le etas _ _ (fun e he => (hterm e he).2)

/-- wherever `compute_risk` returns numbers, `0 ≤ risk_min ≤ risk_max` — for every grid of non-negative samples, the empty
    one included (both means are then NaN) -/
theorem pixelRisk_order_of_nonneg (mn mx : Rat) (etas : List Rat) (curve : Curve) (hne : mx ≠ mn)
    (hpos : ∀ e ∈ etas, 0 ≤ e) (a b : Rat)
    (h : pixelRisk mn mx etas curve (pixelSampled mn mx etas curve) = (.num a, .num b)) : 0 ≤ b ∧ b ≤ a := by
  by_cases hetas : etas = []
  · subst hetas
    cases hb : pixelBest mn mx curve with
    | none => simp [pixelRisk, hb] at h
    | some m => rw [pixelRisk_of_best mn mx [] curve _ m hb] at h; simp [spreads, nanMean] at h
  rw [pixelRisk_spec mn mx etas curve hne hpos hetas] at h
  cases hr : Spec.risk false mn mx etas curve with
  | none => rw [hr] at h; simp [riskVals] at h
  | some p =>
    obtain ⟨a', b'⟩ := p
    rw [hr] at h
    simp only [riskVals, Prod.mk.injEq, Val.num.injEq] at h
    obtain ⟨rfl, rfl⟩ := h
    exact risk_order_spec mn mx etas curve hpos a' b' hr

/-- **risk_order** on the model of `compute_risk`: wherever the kernel returns numbers,
    `0 ≤ risk_min ≤ risk_max` (`hetas` is not needed: `pixelRisk_order_of_nonneg`) -/
theorem pixelRisk_order (mn mx : Rat) (etas : List Rat) (curve : Curve) (hne : mx ≠ mn)
    (hpos : ∀ e ∈ etas, 0 ≤ e) (hetas : etas ≠ []) (a b : Rat)
    (h : pixelRisk mn mx etas curve (pixelSampled mn mx etas curve) = (.num a, .num b)) : 0 ≤ b ∧ b ≤ a :=
  pixelRisk_order_of_nonneg mn mx etas curve hne hpos a b h

theorem pixelRisk_nan_iff (mn mx : Rat) (etas : List Rat) (curve : Curve) (hne : mx ≠ mn)
    (hpos : ∀ e ∈ etas, 0 ≤ e) (hetas : etas ≠ []) :
    (pixelRisk mn mx etas curve (pixelSampled mn mx etas curve)).1 = Val.nan ↔ ∀ c ∈ curve, c = Val.nan := by
  rw [pixelRisk_spec mn mx etas curve hne hpos hetas, ← best_none_iff false curve]
  unfold Spec.risk
  cases Spec.best false curve <;> simp [riskVals]

end Pandora.C12
