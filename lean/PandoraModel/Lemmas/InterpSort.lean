/- Sorting / median / order-statistic lemmas for C14: the model's `nums` and `median` are C10's (`Lemmas/Nums.lean`,
   `Lemmas/Median.lean`); the stable sort by `|·|` of the sgm occlusion rule. -/
import PandoraModel.Model.Interp
import PandoraModel.Lemmas.Median

namespace Pandora.Interp

theorem ins_eq {α} (le : α → α → Bool) (x : α) (l : List α) :
    ins le x l = List.orderedInsert (fun a b => le a b = true) x l := by
  induction l with
  | nil => rfl
  | cons y t ih => simp only [ins, List.orderedInsert, ih]

theorem isort_eq {α} (le : α → α → Bool) (l : List α) :
    isort le l = List.insertionSort (fun a b => le a b = true) l := by
  induction l with
  | nil => rfl
  | cons x t ih => rw [isort, ih, ins_eq, List.insertionSort_cons]

theorem isort_perm {α} (le : α → α → Bool) (l : List α) : (isort le l).Perm l :=
  isort_eq le l ▸ List.perm_insertionSort _ l

theorem length_isort {α} (le : α → α → Bool) (l : List α) : (isort le l).length = l.length :=
  (isort_perm le l).length_eq

theorem mem_isort {α} (le : α → α → Bool) (l : List α) (x : α) : x ∈ isort le l ↔ x ∈ l :=
  (isort_perm le l).mem_iff

theorem isort_pairwise {α} (le : α → α → Bool) (tot : ∀ a b, le a b = true ∨ le b a = true)
    (tr : ∀ a b c, le a b = true → le b c = true → le a c = true) (l : List α) :
    (isort le l).Pairwise fun a b => le a b = true := by
  have : Std.Total (fun a b => le a b = true) := ⟨tot⟩
  have : IsTrans α (fun a b => le a b = true) := ⟨tr⟩
  exact isort_eq le l ▸ List.pairwise_insertionSort _ l

theorem nums_eq (l : List Val) : nums l = Filter.nums l :=
  Filter.eq_nums rfl (fun _ => rfl) (fun _ _ => rfl) l

theorem mem_nums {l : List Val} {q : Rat} : q ∈ nums l ↔ Val.num q ∈ l := by
  rw [nums_eq]; exact Filter.mem_nums

theorem nums_perm {l l' : List Val} (h : l.Perm l') : (nums l).Perm (nums l') := by
  rw [nums_eq, nums_eq]; exact Filter.nums_perm h

theorem nums_length_le (l : List Val) : (nums l).length ≤ l.length := by
  rw [nums_eq]; exact Filter.nums_length_le l

theorem nums_map_getD {α} (f : α → Option Val) (ds : List α) :
    nums (ds.map fun d => (f d).getD .nan) = nums (ds.filterMap f) := by
  rw [nums_eq, nums_eq]; exact Filter.nums_map_getD f ds

theorem isort_leRat (l : List Rat) : isort leRat l = Filter.sortRat l := by
  have hi : ∀ (x : Rat) (t : List Rat), ins leRat x t = Filter.insertSorted x t := by
    intro x t
    induction t with
    | nil => rfl
    | cons y ys ih => simp only [ins, Filter.insertSorted, leRat, decide_eq_true_eq, ih]
  induction l with
  | nil => rfl
  | cons x xs ih => simp only [isort, Filter.sortRat, ih, hi]

theorem median_eq (l : List Rat) : median l = Filter.medianSorted (Filter.sortRat l) := by
  unfold median; rw [isort_leRat]; rfl

theorem median_eq_nan_iff (l : List Rat) : median l = .nan ↔ l = [] := by
  rw [median_eq]
  constructor
  · intro h
    by_contra hne
    obtain ⟨m, hm, _⟩ := Filter.median_isMedian l hne
    rw [hm] at h; cases h
  · rintro rfl; rfl

theorem median_between {l : List Rat} {q : Rat} (h : median l = .num q) :
    ∃ a ∈ l, ∃ b ∈ l, a ≤ q ∧ q ≤ b := by
  have hne : l ≠ [] := fun e => by rw [(median_eq_nan_iff l).2 e] at h; cases h
  obtain ⟨m, hm, hmed⟩ := Filter.median_isMedian l hne
  rw [median_eq, hm] at h
  cases h
  exact Filter.isMedian_mem_between hmed

theorem absLe_total (a b : Val) : absLe a b = true ∨ absLe b a = true := by
  cases a <;> cases b <;> simp [absLe]
  exact le_total _ _

theorem absLe_trans (a b c : Val) (h1 : absLe a b = true) (h2 : absLe b c = true) : absLe a c = true := by
  cases a <;> cases b <;> cases c <;> simp_all [absLe]
  exact le_trans h1 h2

/-- With at least two finite entries, the entry picked by `argsort(|·|)[1]` is finite and is an entry of
    second-lowest absolute value among the finite ones.  After the stable sort by `absLe` the NaNs come last, so the first
    two entries are numbers `p`, `q` with `|p| ≤ |q| ≤ |t|` for every number `t` after them; the two counts of
    `isSecondLowestAbs` are then read off `p :: q :: rest`, a permutation of the input. -/
theorem secondLowestAbs_spec (vn : List Val) (h2 : 2 ≤ (nums vn).length) :
    ∃ q, secondLowestAbs vn = .num q ∧ isSecondLowestAbs (nums vn) q = true := by
  have hperm := isort_perm absLe vn
  have hsorted := isort_pairwise absLe absLe_total absLe_trans vn
  have hlen : 2 ≤ (nums (isort absLe vn)).length := by rw [(nums_perm hperm).length_eq]; exact h2
  unfold secondLowestAbs
  generalize isort absLe vn = s at hperm hsorted hlen
  match s, hsorted, hlen, hperm with
  | [], _, hlen, _ => simp [nums] at hlen
  | [x], _, hlen, _ => have := nums_length_le [x]; simp at this; omega
  | x :: y :: rest, hsorted, hlen, hperm =>
    rw [List.pairwise_cons, List.pairwise_cons] at hsorted
    obtain ⟨hx, hy, _⟩ := hsorted
    have hrest_nan : y = .nan → nums rest = [] := by
      intro hyn
      rw [nums_eq, Filter.nums_eq_nil_iff]
      intro z hz
      have := hy z hz
      rw [hyn] at this
      cases z with
      | nan => rfl
      | num q => exact absurd this Bool.false_ne_true
    cases y with
    | nan =>
      exfalso
      have hr := hrest_nan rfl
      cases x <;> simp [nums, hr] at hlen
    | num q =>
      have hxq := hx (.num q) (List.mem_cons_self)
      cases x with
      | nan => simp [absLe] at hxq
      | num p =>
        simp only [absLe, decide_eq_true_eq] at hxq
        refine ⟨q, by simp, ?_⟩
        have hrest : ∀ t ∈ nums rest, absQ q ≤ absQ t := by
          intro t ht
          have := hy (.num t) (mem_nums.mp ht)
          simpa [absLe] using this
        have hnums : nums (.num p :: .num q :: rest) = p :: q :: nums rest := by simp [nums]
        have hp := nums_perm hperm
        rw [hnums] at hp
        unfold isSecondLowestAbs
        rw [← hp.countP_eq, ← hp.countP_eq]
        have hc : (List.contains (nums vn) q) = true := by
          rw [List.contains_iff_mem]; exact hp.mem_iff.mp (by simp)
        have hzero : List.countP (fun y => decide (absQ y < absQ q)) (nums rest) = 0 := by
          rw [List.countP_eq_zero]; intro t ht
          have := hrest t ht
          simp only [decide_eq_true_eq]; exact not_lt.mpr this
        simp only [hc, Bool.true_and, Bool.and_eq_true, decide_eq_true_eq]
        constructor
        · rw [List.countP_cons, List.countP_cons, hzero]
          have : ¬ absQ q < absQ q := lt_irrefl _
          simp only [this, decide_false, Bool.false_eq_true, if_false]
          split <;> omega
        · rw [List.countP_cons, List.countP_cons]
          have h1 : absQ q ≤ absQ q := le_refl _
          simp only [hxq, h1, decide_true, if_true]
          omega

end Pandora.Interp
