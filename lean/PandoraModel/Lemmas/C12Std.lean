/-
  C12 — std_intensity: the integral-image computation of `compute_mean_raster` (cumulative sums down the
  rows, then along the columns, and window differences) is the direct sum over the window.  Proved for grids given by
  an index function (`Blocks.tabulate`), where transposing and mapping are immediate; a rectangular image is such a grid
  (`rect_eq_tabulate`).
-/
import PandoraModel.Lemmas.C12Lists


namespace Pandora.C12
open Pandora.Confidence
open Pandora.Blocks (tabulate getD_tabulate tabulate_congr map_tabulate zipWith_tabulate)

theorem cumsum0_getElem? (l : List Rat) : ∀ (acc : Rat) (i : Nat), i ≤ l.length →
    (cumsum0 acc l)[i]? = some (acc + sumRat (l.take i)) := by
  induction l with
  | nil => intro acc i hi; simp at hi; subst hi; simp [cumsum0, sumRat_nil]
  | cons x xs ih =>
    intro acc i hi
    cases i with
    | zero => simp [cumsum0, sumRat_nil]
    | succ i =>
      rw [cumsum0, List.getElem?_cons_succ, ih (acc + x) i (by simpa using hi)]
      simp only [List.take_succ_cons, sumRat_cons]
      congr 1; ring

theorem cumsum0_length (l : List Rat) (acc : Rat) : (cumsum0 acc l).length = l.length + 1 := by
  induction l generalizing acc with
  | nil => rfl
  | cons x xs ih => simp [cumsum0, ih]

/-- `c[w:] − c[:-w]` of the padded cumulative sum is the sliding window sum; the row given by its index function -/
theorem slidingSums_range (w n : Nat) (g : Nat → Rat) :
    slidingSums w ((List.range n).map g)
      = (List.range (n + 1 - w)).map fun i => sumRat ((List.range w).map fun k => g (i + k)) := by
  apply List.ext_getElem?
  intro i
  unfold slidingSums
  simp only [List.getElem?_zipWith, List.getElem?_drop, List.getElem?_take, cumsum0_length, List.length_map,
    List.length_range, List.getElem?_map]
  by_cases hi : i < n + 1 - w
  · -- both prefixes of the row are `g` over a `range`, and `range (i + w)` is `range i` followed by `i + ·` over `range w`
    have hpre : ∀ k, k ≤ n → ((List.range n).map g).take k = (List.range k).map g := fun k hk => by
      rw [← List.map_take, List.take_range, Nat.min_eq_left hk]
    rw [cumsum0_getElem? _ 0 (w + i) (by simp; omega), cumsum0_getElem? _ 0 i (by simp; omega), if_pos hi,
      List.getElem?_range hi, hpre _ (by omega), hpre _ (by omega), Nat.add_comm w i, List.range_add, List.map_append,
      sumRat_append, List.map_map]
    simp [Function.comp_def]
  · rw [if_neg hi]
    simp
    omega

theorem sumRat_exchange {α β} (l1 : List α) (l2 : List β) (F : α → β → Rat) :
    sumRat (l1.map (fun i => sumRat (l2.map (fun j => F i j))))
      = sumRat (l2.map (fun j => sumRat (l1.map (fun i => F i j)))) := by
  induction l1 with
  | nil =>
    simp only [List.map_nil, sumRat_nil]
    induction l2 with
    | nil => rfl
    | cons y ys ih => simp only [List.map_cons, sumRat_cons, ← ih]; ring
  | cons x xs ih =>
    simp only [List.map_cons, sumRat_cons, ih]
    clear ih
    induction l2 with
    | nil => simp [sumRat_nil]
    | cons y ys ih2 =>
      simp only [List.map_cons, sumRat_cons]
      rw [← ih2]; ring

def Rect (img : Grid Rat) (ncols : Nat) : Prop := ∀ row ∈ img, row.length = ncols

/-- a rectangular image is the table of its own lookup: from here on every grid is a `tabulate` -/
theorem rect_eq_tabulate (img : Grid Rat) (ncols : Nat) (hrect : Rect img ncols) :
    tabulate img.length ncols (fun r c => (img.getD r []).getD c 0) = img := by
  refine (map_getD_range img [] fun row => (List.range ncols).map fun c => row.getD c 0).trans ?_
  conv_rhs => rw [← List.map_id img]
  exact List.map_congr_left fun row h => by rw [← hrect row h]; exact map_getD_range' row 0

theorem headD_tabulate_length {n : Nat} (m : Nat) (F : Nat → Nat → Rat) (hn : 0 < n) :
    ((tabulate n m F).headD []).length = m := by
  rw [tabulate, headD_range_map _ _ _ hn, List.length_map, List.length_range]

theorem transposeRat_tabulate (n m : Nat) (F : Nat → Nat → Rat) :
    transposeRat m (tabulate n m F) = tabulate m n fun c r => F r c := by
  unfold transposeRat transposeN column tabulate
  refine List.map_congr_left fun c hc => ?_
  rw [List.map_map]
  refine List.map_congr_left fun r _ => ?_
  rw [Function.comp, getD_range_map, if_pos (List.mem_range.1 hc)]

/-- the sliding sums of every row of a table: the step the integral image takes along each axis in turn -/
theorem map_slidingSums_tabulate (w n m : Nat) (F : Nat → Nat → Rat) :
    (tabulate n m F).map (slidingSums w)
      = tabulate n (m + 1 - w) fun r c => sumRat ((List.range w).map fun k => F r (c + k)) := by
  unfold tabulate
  rw [List.map_map]
  refine List.map_congr_left fun r _ => ?_
  exact slidingSums_range w m (F r)

/-- **std_def, integral image**, on a table: sums down the columns, then along the rows; exchanging the two sums gives the
    direct sum over the `w × w` window, one per top-left corner at which the window fits -/
theorem windowSums_tabulate (w : Nat) {n m : Nat} (F : Nat → Nat → Rat) (hn : 0 < n) (hm : 0 < m) :
    windowSums w (tabulate n m F) = tabulate (n + 1 - w) (m + 1 - w) fun r c =>
      sumRat ((List.range w).map fun i => sumRat ((List.range w).map fun j => F (r + i) (c + j))) := by
  unfold windowSums
  simp only [headD_tabulate_length m F hn, transposeRat_tabulate, map_slidingSums_tabulate,
    headD_tabulate_length _ _ hm]
  exact tabulate_congr fun r _ c _ => sumRat_exchange _ _ _

/-- the window sums of `f` of the cells (`varRaster` takes them for the cells and for their squares) -/
theorem windowSums_map (w : Nat) (img : Grid Rat) (ncols : Nat) (hrect : Rect img ncols) (hne : img ≠ [])
    (hpos : 0 < ncols) (f : Rat → Rat) :
    windowSums w (img.map fun row => row.map f)
      = tabulate (img.length + 1 - w) (ncols + 1 - w) (Spec.windowSumAt w img f) := by
  conv_lhs => rw [← rect_eq_tabulate img ncols hrect, map_tabulate]
  exact windowSums_tabulate w _ (List.length_pos_iff.2 hne) hpos

/-- **std_def, integral image**: `windowSums w img` is the grid of the direct sums over the `w × w` windows, one per
    top-left corner at which the window fits — for every rectangular image -/
theorem windowSums_eq (w : Nat) (img : Grid Rat) (ncols : Nat) (hrect : Rect img ncols) (hne : img ≠ [])
    (hpos : 0 < ncols) :
    windowSums w img = tabulate (img.length + 1 - w) (ncols + 1 - w) (Spec.windowSumAt w img id) := by
  simpa only [List.map_id_fun, id_eq, List.map_id_fun'] using windowSums_map w img ncols hrect hne hpos id

/-- **std_def** (variance raster): `E[x²] − E[x]²` computed through the two integral images is the grid of the
    population variances of the windows — for every rectangular image -/
theorem varRaster_eq (w : Nat) (img : Grid Rat) (ncols : Nat) (hrect : Rect img ncols) (hne : img ≠ [])
    (hpos : 0 < ncols) :
    varRaster w img = tabulate (img.length + 1 - w) (ncols + 1 - w) (Spec.windowVar w img) := by
  unfold varRaster
  simp only
  rw [windowSums_eq w img ncols hrect hne hpos, windowSums_map w img ncols hrect hne hpos, zipWith_tabulate]
  rfl

/-- the band as a whole: NaN on the frame of `off` pixels, the population variance of the centred window inside -/
theorem stdBandSq_eq (off : Nat) (img : Grid Rat) (ncols : Nat) (hrect : Rect img ncols) (hne : img ≠ [])
    (hpos : 0 < ncols) :
    stdBandSq (2 * off + 1) img = tabulate img.length ncols (fun r c =>
      if off ≤ r ∧ r + off < img.length ∧ off ≤ c ∧ c + off < ncols
      then Val.num (Spec.windowVar (2 * off + 1) img (r - off) (c - off)) else Val.nan) := by
  have hoff : (2 * off + 1 - 1) / 2 = off := by omega
  unfold stdBandSq
  have hcols : (img.headD []).length = ncols := by
    rw [← rect_eq_tabulate img ncols hrect]
    exact headD_tabulate_length _ _ (List.length_pos_iff.2 hne)
  simp only [hoff, hcols, varRaster_eq _ img ncols hrect hne hpos]
  by_cases h0 : off = 0
  · subst h0
    rw [if_pos rfl, map_tabulate]
    exact tabulate_congr fun r hr c hc => (if_pos ⟨Nat.zero_le r, hr, Nat.zero_le c, hc⟩).symm
  · rw [if_neg h0]
    refine tabulate_congr fun r hr c hc => ?_
    by_cases hin : off ≤ r ∧ r + off < img.length ∧ off ≤ c ∧ c + off < ncols
    · rw [if_pos (by omega), if_pos hin, getD_tabulate, if_pos (by omega)]
    · rw [if_neg (by omega), if_neg hin]

/-- **std_def** (the band, squared): NaN on the frame of `(w−1)/2` pixels and outside the image, the
    population variance of the centred `w × w` window inside — for every odd window and every rectangular
    image (all NaN when the window does not fit) -/
theorem stdBandSq_spec (off : Nat) (img : Grid Rat) (ncols : Nat) (hrect : Rect img ncols)
    (hne : img ≠ []) (hpos : 0 < ncols) (r c : Nat) :
    cell (stdBandSq (2 * off + 1) img) r c
      = if off ≤ r ∧ r + off < img.length ∧ off ≤ c ∧ c + off < ncols
        then Val.num (Spec.windowVar (2 * off + 1) img (r - off) (c - off)) else Val.nan := by
  rw [cell, stdBandSq_eq off img ncols hrect hne hpos, getD_tabulate]
  by_cases hin : off ≤ r ∧ r + off < img.length ∧ off ≤ c ∧ c + off < ncols
  · rw [if_pos hin, if_pos (by omega)]
  · rw [if_neg hin]; split <;> rfl

end Pandora.C12
