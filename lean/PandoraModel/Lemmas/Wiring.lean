/-
  The footprint of an effect of the data-flow model (`Model/Wiring.lean`): executing `targets := fn(args)` leaves every
  attribute outside `targets` alone, and what it writes depends on the store through `args` only.  Core Lean only.
-/
import PandoraModel.Model.Wiring

namespace Pandora.Wiring

theorem assignFrom_of_not_mem {V : Type} (f : Nat → V) : ∀ (ts : List String) (i : Nat) (s : Store V) (n : String),
    n ∉ ts → assignFrom s f i ts n = s n := by
  intro ts
  induction ts with
  | nil => intro i s n _; rfl
  | cons t ts ih =>
    intro i s n h
    simp only [List.mem_cons, not_or] at h
    simp only [assignFrom]
    rw [ih _ _ _ h.2]
    simp [h.1]

theorem assignFrom_congr_of_mem {V : Type} (f : Nat → V) : ∀ (ts : List String) (i : Nat) (s s' : Store V) (n : String),
    n ∈ ts → assignFrom s f i ts n = assignFrom s' f i ts n := by
  intro ts
  induction ts with
  | nil => intro i s s' n h; simp at h
  | cons t ts ih =>
    intro i s s' n h
    simp only [assignFrom]
    by_cases hm : n ∈ ts
    · exact ih _ _ _ _ hm
    · rw [assignFrom_of_not_mem _ _ _ _ _ hm, assignFrom_of_not_mem _ _ _ _ _ hm]
      have : n = t := by simpa [hm] using h
      simp [this]

theorem exec_frame {V : Type} (sem : Sem V) (e : Effect) (s : Store V) {n : String} (h : n ∉ e.targets) :
    exec sem e s n = s n :=
  assignFrom_of_not_mem _ _ _ _ _ h

theorem exec_congr {V : Type} (sem : Sem V) (e : Effect) (s1 s2 : Store V) (hargs : ∀ a ∈ e.args, s1 a = s2 a)
    {n : String} (h : n ∈ e.targets ∨ s1 n = s2 n) : exec sem e s1 n = exec sem e s2 n := by
  show assignFrom s1 (fun i => sem e.fn i (e.args.map s1)) 0 e.targets n
    = assignFrom s2 (fun i => sem e.fn i (e.args.map s2)) 0 e.targets n
  rw [List.map_congr_left hargs]
  by_cases hm : n ∈ e.targets
  · exact assignFrom_congr_of_mem _ _ _ _ _ _ hm
  · rw [assignFrom_of_not_mem _ _ _ _ _ hm, assignFrom_of_not_mem _ _ _ _ _ hm]
    exact h.resolve_left hm

end Pandora.Wiring
