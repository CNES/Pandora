/-
  Proof rules for `Model/PyLoops.lean` and `Model/PyArrays.lean`: the
  invariant rule for `forRange` loops that never leave by `break` (one loop, its flagged form, a loop nest), reads and stores
  at natural indices, guarded stores on one cell, Python slice bounds.
-/
import PandoraModel.Model.PyArrays
import Mathlib.Tactic.Ring

namespace Pandora.PyLoops

theorem forLoop_inv {σ : Type} (P : Nat → σ → Prop) (s a : Int) (body : Int → σ → Bool × σ) :
    ∀ (n k : Nat) (st : σ), P k st →
      (∀ t st, k ≤ t → t < k + n → P t st →
        (body (a + s * t) st).1 = false ∧ P (t + 1) (body (a + s * t) st).2) →
      P (k + n) (forLoop body s n (a + s * k) st) := by
  intro n
  induction n with
  | zero => intro k st h _; exact h
  | succ n ih =>
    intro k st h hs
    have hk := hs k st (Nat.le_refl k) (by omega) h
    simp only [forLoop, hk.1, Bool.false_eq_true, if_false]
    have := ih (k + 1) (body (a + s * k) st).2 hk.2 (fun t st h1 h2 => hs t st (by omega) (by omega))
    rw [show a + s * ((k + 1 : Nat) : Int) = a + s * k + s by push_cast; ring] at this
    rw [show k + (n + 1) = k + 1 + n by omega]
    exact this

theorem forRange_inv {σ : Type} (P : Nat → σ → Prop) (a b s : Int) (n : Nat) (body : Int → σ → Bool × σ) (st : σ)
    (hn : rangeLen a b s = n) (h0 : P 0 st)
    (hs : ∀ t st, t < n → P t st → (body (a + s * t) st).1 = false ∧ P (t + 1) (body (a + s * t) st).2) :
    P n (forRange a b s body st) := by
  have := forLoop_inv P s a body n 0 st h0 (fun t st _ h2 => hs t st (by omega))
  simpa [forRange, hn] using this

/-- The rule in the form the translated kernels need: the state is the flag "every read and store so far was inside its
    array" paired with the loop-carried locals; the flag stays `true` and `Q` holds of the locals.  The result of one run
    of the body is named (`res`): the facts about iteration `t` can be collected while the goal is still small, before the
    text of the body is looked at. -/
theorem forRange_ok_inv {τ : Type} (Q : Nat → τ → Prop) (a b s : Int) (n : Nat)
    (body : Int → Bool × τ → Bool × (Bool × τ)) (st : τ) (hn : rangeLen a b s = n) (h0 : Q 0 st)
    (hs : ∀ t st res, t < n → Q t st → body (a + s * t) (true, st) = res →
      res.1 = false ∧ res.2.1 = true ∧ Q (t + 1) res.2.2) :
    (forRange a b s body (true, st)).1 = true ∧ Q n (forRange a b s body (true, st)).2 :=
  forRange_inv (fun t (x : Bool × τ) => x.1 = true ∧ Q t x.2) a b s n body (true, st) hn ⟨rfl, h0⟩
    (fun t x ht hx => by
      obtain ⟨ok, y⟩ := x
      obtain ⟨rfl, hQ⟩ := hx
      exact hs t y _ ht hQ rfl)

theorem rangeLen_pos_one (a b : Int) : rangeLen a b 1 = (b - a).toNat := by
  unfold rangeLen; rw [if_pos (by decide), Int.ediv_one, Int.add_sub_cancel]

theorem rangeLen_neg_one (a b : Int) : rangeLen a b (-1) = (a - b).toNat := by
  unfold rangeLen; rw [if_neg (by decide), if_pos (by decide), Int.neg_neg, Int.ediv_one, Int.add_sub_cancel]

/-- The shape of the array kernels: `R` rows from `a`, in each a loop over `n` columns, neither left by `break`; `Q t r`
    is the state at row `t`, column `r`.  `hrow` says that a row IS its column loop (`ibody` is read off the row body by
    unification: `fun _ _ => rfl`). -/
theorem forRange_nest_ok_inv {τ : Type} (Q : Nat → Nat → τ → Prop) (a b : Int) (R n : Nat)
    (obody : Int → Bool × τ → Bool × (Bool × τ)) (ibody : Int → Int → Bool × τ → Bool × (Bool × τ)) (init : τ)
    (hR : b - a = R)
    (hrow : ∀ i st, obody i (true, st) = (false, forRange 0 (n : Int) 1 (ibody i) (true, st)))
    (h0 : Q 0 0 init)
    (hcell : ∀ t r st res, t < R → r < n → Q t r st → ibody (a + t) r (true, st) = res →
      res.1 = false ∧ res.2.1 = true ∧ Q t (r + 1) res.2.2)
    (hnext : ∀ t st, t < R → Q t n st → Q (t + 1) 0 st) :
    (forRange a b 1 obody (true, init)).1 = true ∧ Q R 0 (forRange a b 1 obody (true, init)).2 := by
  refine forRange_ok_inv (Q · 0) a b 1 R obody init (by rw [rangeLen_pos_one, hR, Int.toNat_natCast]) h0 ?_
  intro t st res ht hQ hres
  rw [Int.one_mul, hrow] at hres
  subst hres
  obtain ⟨h1, h2⟩ := forRange_ok_inv (Q t) 0 (n : Int) 1 n (ibody (a + t)) st
    (by rw [rangeLen_pos_one, Int.sub_zero, Int.toNat_natCast]) hQ
    (fun r st res hr hQ hres => by rw [Int.zero_add, Int.one_mul] at hres; exact hcell t r st res ht hr hQ hres)
  exact ⟨rfl, h1, hnext t _ ht h2⟩

theorem wrap_of_nonneg (n : Int) {i : Int} (h : 0 ≤ i) : wrap n i = i :=
  if_neg (Int.not_lt.mpr h)

theorem wrap_of_neg (n : Int) {i : Int} (h : i < 0) : wrap n i = i + n :=
  if_pos h

theorem wrap_nat (n : Int) (i : Nat) : wrap n (i : Int) = i :=
  wrap_of_nonneg n (Int.natCast_nonneg i)

theorem wrap_py {n i : Int} (h0 : -n ≤ i) (h1 : i < n) : 0 ≤ wrap n i ∧ wrap n i < n := by
  unfold wrap; split <;> omega

theorem inb_of {n i : Int} (h0 : 0 ≤ i) (h1 : i < n) : inb n i = true := by
  simp [inb, wrap_of_nonneg n h0, h0, h1]

theorem inb2_of {n0 n1 i j : Int} (hi0 : 0 ≤ i) (hi1 : i < n0) (hj0 : 0 ≤ j) (hj1 : j < n1) :
    inb2 n0 n1 i j = true := by
  simp [inb2, inb_of hi0 hi1, inb_of hj0 hj1]

theorem inb_nat {n : Int} {i : Nat} (h : (i : Int) < n) : inb n (i : Int) = true :=
  inb_of (Int.natCast_nonneg i) h

theorem inb2_nat {n0 n1 : Int} {i j : Nat} (hi : (i : Int) < n0) (hj : (j : Int) < n1) :
    inb2 n0 n1 (i : Int) (j : Int) = true :=
  inb2_of (Int.natCast_nonneg i) hi (Int.natCast_nonneg j) hj

theorem inb_py {n i : Int} (h0 : -n ≤ i) (h1 : i < n) : inb n i = true := by
  simp [inb, wrap_py h0 h1]

theorem inb2_py {n0 n1 : Int} {i : Nat} {j : Int} (hi : (i : Int) < n0) (h0 : -n1 ≤ j) (h1 : j < n1) :
    inb2 n0 n1 (i : Int) j = true := by
  rw [inb2, inb_nat hi, inb_py h0 h1]; rfl

theorem get1_nat {α : Type} (a : Int → α) (n : Int) (t : Nat) : get1 a n (t : Int) = a t := by
  simp [get1, wrap_nat]

theorem get2_of_nonneg {α : Type} (a : Int → Int → α) (n0 n1 : Int) {i j : Int} (hi : 0 ≤ i) (hj : 0 ≤ j) :
    get2 a n0 n1 i j = a i j := by
  rw [get2, wrap_of_nonneg n0 hi, wrap_of_nonneg n1 hj]

theorem get2_nat {α : Type} (a : Int → Int → α) (n0 n1 : Int) (i j : Nat) : get2 a n0 n1 (i : Int) (j : Int) = a i j :=
  get2_of_nonneg a n0 n1 (Int.natCast_nonneg i) (Int.natCast_nonneg j)

open Pandora.PyArrays

theorem set2_nat {α : Type} (a : Int → Int → α) (n0 n1 : Int) (i j i' j' : Nat) (v : α) :
    set2 a n0 n1 (i : Int) (j : Int) v (i' : Int) (j' : Int) = if i' = i ∧ j' = j then v else a i' j' := by
  simp only [set2, wrap_nat, Int.natCast_inj]

theorem set2_set2 {α : Type} (a : Int → Int → α) (n0 n1 i j : Int) (v w : α) :
    set2 (set2 a n0 n1 i j v) n0 n1 i j w = set2 a n0 n1 i j w := by
  funext i' j'; simp only [set2]; split <;> rfl

/-- with `set2_set2` this turns `x[i, j] = v; if g: x[i, j] += s` into a single store -/
theorem set2_ite {α : Type} (c : Prop) [Decidable c] (a : Int → Int → α) (n0 n1 i j : Int) (v w : α) :
    (if c then set2 a n0 n1 i j w else set2 a n0 n1 i j v) = set2 a n0 n1 i j (if c then w else v) :=
  (apply_ite (set2 a n0 n1 i j) c w v).symm

theorem sliceBound_natCast (n off : Nat) : sliceBound (n : Int) (off : Int) = ((min off n : Nat) : Int) := by
  simp only [sliceBound]
  rw [if_neg (by omega : ¬ (off : Int) < 0), if_neg (by omega : ¬ (off : Int) < 0)]
  split <;> omega

theorem sliceBound_of_le (n : Int) (k : Nat) (h : (k : Int) ≤ n) : sliceBound n (k : Int) = k := by
  have h0 : ¬ ((k : Int) < 0) := by omega
  have h1 : ¬ (n < (k : Int)) := by omega
  simp [sliceBound, h0, h1]

theorem sliceBound_neg_natCast (n off : Nat) (h : 0 < off) : sliceBound (n : Int) (-(off : Int)) = ((n - off : Nat) : Int) := by
  simp only [sliceBound]
  rw [if_pos (by omega : -(off : Int) < 0), if_neg (by omega : ¬ ((n : Int) < -(off : Int) + n))]
  split <;> omega

end Pandora.PyLoops
