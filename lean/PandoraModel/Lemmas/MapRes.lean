/-
  `Refinement.mapRes` (the `mapM` of the refinement loop) has one normal form: it returns `r` exactly when `f` returns,
  element by element, the elements of `r`; and an error it returns is the error of some element.  Everything the
  properties need of it (the result index by index, when it returns, a relation that holds pairwise) is read off that.
-/
import PandoraModel.Model.Refinement

namespace Pandora.Refinement

theorem mapRes_eq_ok_iff {α β : Type} (f : α → Res β) :
    ∀ (l : List α) (r : List β), mapRes f l = .ok r ↔ l.map f = r.map .ok
  | [], r => by cases r <;> simp [mapRes]
  | a :: l, r => by
    have ih := mapRes_eq_ok_iff f l
    rw [mapRes]
    cases hfa : f a with
    | err e => cases r <;> simp [hfa]
    | ok b =>
      cases hl : mapRes f l with
      | err e =>
        cases r with
        | nil => simp
        | cons b' r =>
          simp only [List.map_cons, List.cons.injEq, hfa, reduceCtorEq, false_iff, not_and]
          exact fun _ h => by rw [(ih r).mpr h] at hl; cases hl
      | ok bs =>
        have hm := (ih bs).mp hl
        cases r with
        | nil => simp
        | cons b' r =>
          simp only [Res.ok.injEq, List.cons.injEq, List.map_cons, hfa]
          exact and_congr_right fun _ => ⟨fun h => h ▸ hm, fun h => Res.ok.inj (hl.symm.trans ((ih r).mpr h))⟩

theorem exists_err_of_mapRes_eq_err {α β : Type} (f : α → Res β) :
    ∀ (l : List α) (e : Err), mapRes f l = .err e → ∃ a ∈ l, f a = .err e
  | [], _, h => nomatch h
  | a :: l, e, h => by
    rw [mapRes] at h
    split at h
    · exact ⟨a, List.mem_cons_self .., by cases h; assumption⟩
    · split at h
      · next e' hl =>
        cases h
        obtain ⟨a', ha', h'⟩ := exists_err_of_mapRes_eq_err f l _ hl
        exact ⟨a', List.mem_cons_of_mem _ ha', h'⟩
      · cases h

theorem mapRes_getElem? {α β : Type} {f : α → Res β} {l : List α} {r : List β} (h : mapRes f l = .ok r) (i : Nat) :
    (l[i]?).map f = (r[i]?).map .ok := by
  rw [← List.getElem?_map, ← List.getElem?_map, (mapRes_eq_ok_iff f l r).mp h]

theorem mapRes_getElem?_some {α β : Type} {f : α → Res β} {l : List α} {r : List β} (h : mapRes f l = .ok r) {i : Nat}
    {a : α} (ha : l[i]? = some a) : ∃ b, r[i]? = some b ∧ f a = .ok b := by
  have := mapRes_getElem? h i
  rw [ha] at this
  cases hb : r[i]? with
  | none => rw [hb] at this; cases this
  | some b => rw [hb] at this; exact ⟨b, rfl, Option.some.inj this⟩

theorem mapRes_getElem?_none {α β : Type} {f : α → Res β} {l : List α} {r : List β} (h : mapRes f l = .ok r) {i : Nat}
    (ha : l[i]? = none) : r[i]? = none := by
  have := mapRes_getElem? h i
  rw [ha] at this
  cases hb : r[i]? with
  | none => rfl
  | some b => rw [hb] at this; cases this

theorem mapRes_isOk_iff {α β : Type} (f : α → Res β) (l : List α) :
    (∃ r, mapRes f l = .ok r) ↔ ∀ a ∈ l, ∃ b, f a = .ok b := by
  constructor
  · rintro ⟨r, h⟩ a ha
    have : f a ∈ r.map .ok := (mapRes_eq_ok_iff f l r).mp h ▸ List.mem_map_of_mem ha
    obtain ⟨b, -, hb⟩ := List.mem_map.mp this
    exact ⟨b, hb.symm⟩
  · intro h
    cases hl : mapRes f l with
    | ok r => exact ⟨r, rfl⟩
    | err e =>
      obtain ⟨a, ha, hfa⟩ := exists_err_of_mapRes_eq_err f l e hl
      obtain ⟨b, hb⟩ := h a ha
      rw [hb] at hfa; cases hfa

theorem all2_of_map_eq {α β : Type} (f : α → Res β) (p : α → β → Bool) :
    ∀ (l : List α) (r : List β), (∀ a ∈ l, ∀ b, f a = .ok b → p a b = true) → l.map f = r.map .ok → all2 p l r = true
  | [], [], _, _ => rfl
  | [], _ :: _, _, h => nomatch h
  | _ :: _, [], _, h => nomatch h
  | a :: l, b :: r, hp, h => by
    rw [List.map_cons, List.map_cons, List.cons.injEq] at h
    rw [all2, hp a (List.mem_cons_self ..) b h.1, Bool.true_and]
    exact all2_of_map_eq f p l r (fun a' ha' => hp a' (List.mem_cons_of_mem _ ha')) h.2

theorem all2_getElem? {α β : Type} (p : α → β → Bool) : ∀ (l : List α) (r : List β), all2 p l r = true →
    l.length = r.length ∧ ∀ (i : Nat) (a : α), l[i]? = some a → ∃ b, r[i]? = some b ∧ p a b = true
  | [], [], _ => ⟨rfl, fun _ _ ha => nomatch ha⟩
  | [], _ :: _, h => nomatch h
  | _ :: _, [], h => nomatch h
  | a :: l, b :: r, h => by
    rw [all2, Bool.and_eq_true] at h
    obtain ⟨hlen, hget⟩ := all2_getElem? p l r h.2
    refine ⟨congrArg (· + 1) hlen, fun i a' ha' => ?_⟩
    cases i with
    | zero => exact ⟨b, rfl, Option.some.inj ha' ▸ h.1⟩
    | succ i => exact hget i a' ha'

end Pandora.Refinement
