/-
  census: the number computed by the code — `popcount32b` of the xor of the two bit-packed census strings — is the
  Hamming distance of the two strings of comparisons "neighbour > centre", for every odd window whose `w²` bits fit
  the 32-bit word (the census class accepts 3 and 5).
-/
import PandoraModel.Lemmas.MCBits
import PandoraModel.Lemmas.MCCensus

namespace Pandora.MC
open Pandora.MC.Popcount

theorem ite_toNat (p : Prop) [Decidable p] : (if p then (1 : Nat) else 0) = (decide p).toNat := by
  by_cases h : p <;> simp [h]

theorem packLE_append (l₁ l₂ : List Bool) : packLE (l₁ ++ l₂) = packLE l₁ + packLE l₂ <<< l₁.length := by
  induction l₁ with
  | nil => simp [packLE]
  | cons b l ih =>
    rw [List.cons_append, packLE, packLE, ih, List.length_cons, Nat.shiftLeft_succ]
    omega

theorem foldl_shift_bits (g : Nat → Bool) (K acc : Nat) : ∀ n, n ≤ K + 1 →
    (List.range n).foldl (fun acc b => acc + (g b).toNat <<< (K - b)) acc
      = acc + packLE ((List.range n).map g).reverse <<< (K + 1 - n)
  | 0, _ => by simp [packLE]
  | n + 1, h => by
    have e1 : K + 1 - n = K - n + 1 := by omega
    have e2 : K + 1 - (n + 1) = K - n := by omega
    rw [List.range_succ, List.foldl_append, foldl_shift_bits g K acc n (by omega), List.map_append, List.reverse_append,
      e1, e2]
    simp only [List.foldl_cons, List.foldl_nil, List.map_cons, List.map_nil, List.reverse_cons, List.reverse_nil,
      List.nil_append, List.cons_append, packLE, Nat.shiftLeft_eq, Nat.pow_succ]
    ring

def windowIdx (w : Nat) : List (Nat × Nat) :=
  (List.range w).flatMap (fun a => (List.range w).map (Prod.mk a))

theorem map_windowIdx {α : Type} (w : Nat) (f : Nat → Nat → α) :
    (windowIdx w).map (fun p => f p.1 p.2) = (List.range w).flatMap (fun a => (List.range w).map (f a)) := by
  unfold windowIdx
  rw [List.map_flatMap]
  simp only [List.map_map, Function.comp_def]

theorem length_windowIdx (w : Nat) : (windowIdx w).length = w * w := by
  unfold windowIdx
  simp [List.length_flatMap, List.map_const', List.sum_replicate_nat]

/-- the double loop of `census_transform` (bit of window position `(a, b)` added at position `w² − 1 − (a·w + b)`)
    packs the window, first position most significant -/
theorem foldl_shift_window (w : Nat) (u : Nat → Nat → Bool) :
    (List.range w).foldl (fun acc a => (List.range w).foldl (fun acc b =>
      acc + (u a b).toNat <<< (w * w - 1 - a * w - b)) acc) 0
      = packLE ((windowIdx w).map (fun p => u p.1 p.2)).reverse := by
  rw [map_windowIdx]
  -- after `m` rows the accumulator holds their bits at position `w·w - m·w`
  suffices h : ∀ m, m ≤ w →
      (List.range m).foldl (fun acc a => (List.range w).foldl (fun acc b =>
        acc + (u a b).toNat <<< (w * w - 1 - a * w - b)) acc) 0
        = packLE ((List.range m).flatMap (fun a => (List.range w).map (u a))).reverse <<< (w * w - m * w) by
    rw [h w (Nat.le_refl w), Nat.sub_self, Nat.shiftLeft_zero]
  intro m
  induction m with
  | zero => intro _; simp [packLE]
  | succ m ih =>
    intro hm
    have hrows : m * w + w ≤ w * w := Nat.succ_mul m w ▸ Nat.mul_le_mul_right w hm
    have e1 : w * w - 1 - m * w + 1 - w = w * w - (m * w + w) := by omega
    have e2 : w * w - m * w = w + (w * w - (m * w + w)) := by omega
    rw [List.range_succ, List.foldl_append, List.foldl_cons, List.foldl_nil, ih (by omega),
      foldl_shift_bits (u m) _ _ w (by omega), Nat.succ_mul, e1, e2, List.flatMap_append, List.reverse_append,
      List.flatMap_cons, List.flatMap_nil, List.append_nil, packLE_append, List.length_reverse, List.length_map,
      List.length_range]
    simp only [Nat.shiftLeft_eq, Nat.pow_add]
    ring

theorem sum_range_map (F : Int → Nat) (lo : Int) (n : Nat) :
    ((List.range n).map (fun (k : Nat) => F (lo + k))).sum = sumZ 0 F lo n := by
  induction n with
  | zero => rfl
  | succ n ih => rw [List.range_succ, List.map_append, List.sum_append, ih]; simp [sumZ]

theorem sum_flatMap {α : Type} (l : List α) (G : α → List Nat) :
    (l.flatMap G).sum = (l.map (fun a => (G a).sum)).sum := by
  induction l with
  | nil => rfl
  | cons a l ih => rw [List.flatMap_cons, List.sum_append, ih, List.map_cons, List.sum_cons]

theorem sum_windowIdx (w : Nat) (F : Int → Int → Nat) (i j : Int) :
    ((windowIdx w).map (fun p => F (i + p.1) (j + p.2))).sum = sumZ 0 (fun a => sumZ 0 (fun b => F a b) j w) i w := by
  rw [map_windowIdx w (fun a b => F (i + a) (j + b)), sum_flatMap]
  simp only [sum_range_map]
  exact sum_range_map (fun a => sumZ 0 (fun b => F a b) j w) i w

/-- **census cost = Hamming distance**, every window of `w = 2o + 1` with `w² ≤ 32`: xor and `popcount32b` of the
    census strings of the two windows centred on `(r, c)` count the positions where the comparisons
    "pixel > centre" differ -/
theorem census_hamming (o : Nat) (h32 : (2 * o + 1) * (2 * o + 1) ≤ 32) (A B : Img) (r c : Int) :
    popcount32b (censusBits (2 * o + 1) A (r - o) (c - o) ^^^ censusBits (2 * o + 1) B (r - o) (c - o)) =
      winCount o (fun a b => decide (A.px a b > A.px r c) != decide (B.px a b > B.px r c)) r c := by
  have ho : ((half (2 * o + 1) : Nat) : Int) = o := by unfold half; congr 1; omega
  unfold censusBits
  simp only [ite_toNat, Nat.sub_add_eq, ho, Int.sub_add_cancel, foldl_shift_window, ← List.map_reverse]
  rw [packLE_xor _ _ (by rw [List.length_map, List.length_map]), List.zipWith_map, List.zipWith_self,
    popcount32b_packLE _ (by rw [List.length_map, List.length_reverse, length_windowIdx]; exact h32),
    List.map_map, List.map_reverse, List.sum_reverse]
  unfold winCount
  simp only [ite_toNat, Bool.decide_eq_true]
  exact sum_windowIdx (2 * o + 1)
    (fun a b => (decide (A.px a b > A.px r c) != decide (B.px a b > B.px r c)).toNat) _ _

theorem valueCensusBits_eq (x : Input) (hm : x.meas = .census) (hodd : x.w = 2 * half x.w + 1) (h32 : x.w * x.w ≤ 32)
    (r c k : Int) : valueCensusBits x r c k = valueSpec x r c k := by
  have h := census_hamming (half x.w) (hodd ▸ h32) x.L (interpImg x k) r c
  rw [← hodd] at h
  unfold valueCensusBits valueSpec
  simp only [hm, h]
  rfl

end Pandora.MC
