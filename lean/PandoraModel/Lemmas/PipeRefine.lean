/-
  C09 pipeline composition — refinement: a map that enters the step on the sample grid, every valid pixel inside
  its own interval (`refineReadyB`, i.e. `C06.pixHyp` at every pixel), leaves it with every valid pixel inside its
  own interval, hence inside the global one; validity and bits 8 / 9 are as they were.

  Derived from `C06.refinePixel_outcome` (what the step may leave at a pixel, class by class: `C06.Outcome`) at every
  pixel of the map (`mapRes_getElem?_some`); `C06.WfFacts.refined_inside` keeps a refined disparity in the pixel's interval.
-/
import PandoraModel.Lemmas.PipeBasic
import PandoraModel.Properties.C06

namespace Pandora.C09P
open Pandora.Pipeline Pandora.Refinement

theorem refineReadyPix_eq (P : Params) (x : PixIn) : refineReadyPix P x = C06.pixHyp P x := rfl

theorem refineReadyFailures_nil (P : Params) (x : PixIn) : refineReadyFailures P x = [] ↔ refineReadyPix P x = true := by
  unfold refineReadyFailures refineReadyPix
  rw [List.append_eq_nil_iff, List.append_eq_nil_iff, ite_nil_iff (List.cons_ne_nil _ _), ite_nil_iff (List.cons_ne_nil _ _),
    ite_nil_iff (ite_ne_nil (List.cons_ne_nil _ _) (List.cons_ne_nil _ _)), Bool.and_eq_true, Bool.and_eq_true]

theorem sameExceptBit3_testBit {f g : Nat} (h : sameExceptBit3 f g = true) (k : Nat) (hk : k ≠ 3) :
    f.testBit k = g.testBit k := (C06.sameExceptBit3_iff f g).1 h k hk

theorem sameExceptBit3_isInvalid {f g : Nat} (h : sameExceptBit3 f g = true) : Flags.isInvalid f = Flags.isInvalid g :=
  FlagWord.isInvalid_congr fun k hk => sameExceptBit3_testBit h k (by rintro rfl; exact absurd hk (by decide))

/-- what the pipeline needs to know of a refined pixel -/
structure PixKept (x : PixIn) (o : PixOut) : Prop where
  invalid : Flags.isInvalid o.flag = Flags.isInvalid x.flag
  bit8 : o.flag.testBit 8 = x.flag.testBit 8
  bit9 : o.flag.testBit 9 = x.flag.testBit 9
  inside : Flags.isInvalid o.flag = false → ∃ q, o.d = .num q ∧ x.pmin ≤ q ∧ q ≤ x.pmax

/-- **One pixel**: what the step may leave (`C06.Outcome`) gives what the pipeline needs: the flag word differs at most
    by bit 3, the disparity is the one received or (refined) a number of the pixel's own interval. -/
theorem pixKept_of_outcome {P : Params} {x : PixIn} {tol : Rat} {o : PixOut} (W : C06.WfFacts P x)
    (hg : C06.onGridPix P x = true) (h : C06.Outcome P x tol o) : PixKept x o := by
  have of_bit3 : ∀ {f : Nat} {c : Val}, sameExceptBit3 f x.flag = true → PixKept x ⟨c, x.d, f⟩ := fun hs =>
    ⟨sameExceptBit3_isInvalid hs, sameExceptBit3_testBit hs 8 (by decide), sameExceptBit3_testBit hs 9 (by decide),
      fun hv => W.disp (sameExceptBit3_isInvalid hs ▸ hv)⟩
  cases h with
  | untouched c _ => exact of_bit3 (C06.sameExceptBit3_refl _)
  | stopped c f _ _ hs => exact of_bit3 hs
  | @refined d a0 c1 a2 hv hd _ hc0 hc2 r h1 h2 _ _ =>
    exact ⟨rfl, rfl, rfl, fun _ => ⟨_, rfl, W.refined_inside hg hv hd hc0 hc2 h1 h2⟩⟩

theorem refineStep_ok {D : RefineData} {m m' : DMap} (h : refineStep D m = some m') :
    ∃ o, loopRefinement D.P (pixGrid D m) = .ok o ∧
      m' = { m with disp := fun r c => (cellD o noPix r c).d, flag := fun r c => (cellD o noPix r c).flag } := by
  unfold refineStep at h
  split at h
  · next o hl => exact ⟨o, hl, (Option.some.inj h).symm⟩
  · cases h

variable {D : RefineData} {m m' : DMap}

theorem refineStep_dims (h : refineStep D m = some m') :
    m'.rows = m.rows ∧ m'.cols = m.cols := by
  obtain ⟨o, -, rfl⟩ := refineStep_ok h
  exact ⟨rfl, rfl⟩

theorem refineStep_pixel (h : refineStep D m = some m') (r c : Nat)
    (hr : r < m.rows) (hc : c < m.cols) :
    ∃ o : PixOut, refinePixel D.P (pixIn D m r c) = .ok o ∧ m'.disp r c = o.d ∧ m'.flag r c = o.flag := by
  obtain ⟨g, hl, rfl⟩ := refineStep_ok h
  obtain ⟨orow, horow, hrow⟩ := mapRes_getElem?_some hl ((Blocks.getElem?_tabulate m.rows m.cols (pixIn D m) r).trans (if_pos hr))
  obtain ⟨o, ho, hpix⟩ := mapRes_getElem?_some hrow (a := pixIn D m r c)
    (by rw [List.getElem?_map, List.getElem?_range hc]; rfl)
  have hcell : cellD g noPix r c = o := cellD_of_getElem? horow ho
  exact ⟨o, hpix, congrArg PixOut.d hcell, congrArg PixOut.flag hcell⟩

theorem refineReady_pix {D : RefineData} {m : DMap} (h : refineReadyB D m = true) (r c : Nat) (hr : r < m.rows)
    (hc : c < m.cols) : C06.pixHyp D.P (pixIn D m r c) = true :=
  (C14.allPx_iff m _).1 h r c hr hc

/-- `C06.refinePixel_outcome` is taken at the tolerance `1e-15` of vfit.py (`tiny`), where its proviso on the costs
    (`notTinyCosts`) is not needed -/
theorem refineStep_kept (hready : refineReadyB D m = true)
    (h : refineStep D m = some m') (r c : Nat) (hr : r < m.rows) (hc : c < m.cols) :
    ∃ o : PixOut, m'.disp r c = o.d ∧ m'.flag r c = o.flag ∧ PixKept (pixIn D m r c) o := by
  obtain ⟨o, ho, hd, hf⟩ := refineStep_pixel h r c hr hc
  have hp := refineReady_pix hready r c hr hc
  obtain ⟨hwf, hg, hbit⟩ := C06.pixHyp_iff.mp hp
  rcases C06.refinePixel_outcome D.P _ tiny hwf (Or.inr (C06.ends_agree_of_onGrid _ _ hwf hg)) hbit (le_of_lt C06.tiny_pos)
    (fun _ => Or.inl (le_refl _)) with ⟨o', ho', hO⟩ | ⟨-, -, herr, -⟩
  · rw [ho] at ho'
    cases ho'
    exact ⟨o, hd, hf, pixKept_of_outcome ((C06.wfPix_iff _ _).mp hwf) hg hO⟩
  · rw [ho] at herr
    cases herr

/-- **Refinement**: a map entering the step on the sample grid with every valid pixel inside its own interval
    (`refineReadyB`) leaves it — when the step returns — with every valid pixel inside its own interval. -/
theorem refineStep_bounded (hready : refineReadyB D m = true)
    (h : refineStep D m = some m') : BoundedBy D.pmin D.pmax m' := by
  intro r c hr hc hv
  obtain ⟨hrows, hcols⟩ := refineStep_dims h
  obtain ⟨o, hd, hf, K⟩ := refineStep_kept hready h r c (hrows ▸ hr) (hcols ▸ hc)
  rw [hd]
  exact K.inside (hf ▸ hv)

theorem refineStep_oneFlag (hready : refineReadyB D m = true)
    (h : refineStep D m = some m') (ho : OneFlag m) : OneFlag m' := by
  intro r c hr hc h8
  obtain ⟨hrows, hcols⟩ := refineStep_dims h
  obtain ⟨o, -, hf, K⟩ := refineStep_kept hready h r c (hrows ▸ hr) (hcols ▸ hc)
  rw [hf, K.bit8] at h8
  rw [hf, K.bit9]
  exact ho r c (hrows ▸ hr) (hcols ▸ hc) h8

theorem refineReady_intervals {D : RefineData} {m : DMap} (hready : refineReadyB D m = true) (r c : Nat)
    (hr : r < m.rows) (hc : c < m.cols) : D.P.dmin ≤ D.pmin r c ∧ D.pmax r c ≤ D.P.dmax := by
  have W := (C06.wfPix_iff D.P _).mp (C06.pixHyp_iff.mp (refineReady_pix hready r c hr hc)).1
  exact ⟨W.pmin_ge, W.pmax_le⟩

theorem refineStep_bounded_global (hready : refineReadyB D m = true)
    (h : refineStep D m = some m') : BoundedValid D.P.dmin D.P.dmax m' := by
  obtain ⟨hrows, hcols⟩ := refineStep_dims h
  exact BoundedBy.mono (refineStep_bounded hready h)
    (fun r c hr hc => (refineReady_intervals hready r c (hrows ▸ hr) (hcols ▸ hc)).1)
    (fun r c hr hc => (refineReady_intervals hready r c (hrows ▸ hr) (hcols ▸ hc)).2)

end Pandora.C09P
