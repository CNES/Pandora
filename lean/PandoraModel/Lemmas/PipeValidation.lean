/-
  C09 pipeline composition — the validation step: cross-checking, then the optional occlusion / mismatch filling.

  Cross-checking preserves `BoundedBy` and `OneFlag` and leaves the border as the filling expects it: derived from
  `C07.check_disp_unchanged` (no disparity is modified), `C07.check_pix` (every output flag is the per-pixel function,
  then `mask_border`), `C07.ccPixel_invalid` (invalid pixels are not re-examined) and `C07.ccPixel_never_both` (at
  most one of bits 8 / 9, no other bit).

  Filling preserves `BoundedValid` and `OneFlag`: derived from `C14.outcome` (every pixel is untouched, or stays
  flagged — hence invalid —, or is filled with a finite value lying between two valid disparities of the input map),
  for the well-formed maps of C14 (`Interp.wf`), whose conditions the cross-checking establishes
  (`crossCheckStep_oneFlag`, `crossCheckStep_borderClean`) or follow from `BoundedValid` (`validFinite`).
-/
import PandoraModel.Lemmas.PipeBasic
import PandoraModel.Properties.C07
import PandoraModel.Properties.C14

namespace Pandora.C09P
open Pandora.Pipeline

theorem crossCheck_rows (V : CrossCheck.Variant) (P : CrossCheck.Params) (other : Grid Val) (m : DMap) :
    (crossCheckStep V P other m).rows = m.rows := rfl
theorem crossCheck_cols (V : CrossCheck.Variant) (P : CrossCheck.Params) (other : Grid Val) (m : DMap) :
    (crossCheckStep V P other m).cols = m.cols := rfl

variable (V : CrossCheck.Variant) (P : CrossCheck.Params) (other : Grid Val)

theorem crossCheck_disp (m : DMap) (r c : Nat)
    (hr : r < m.rows) (hc : c < m.cols) : (crossCheckStep V P other m).disp r c = m.disp r c := by
  change cellD (CrossCheck.check V P (toDataset m) { disp := other, mask := [] }).disp .nan r c = m.disp r c
  rw [C07.check_disp_unchanged]
  exact cellD_tabulate _ _ _ _ r c hr hc

theorem crossCheck_flag (m : DMap) (r c : Nat)
    (hshape : otherShapeOK other m = true) (hr : r < m.rows) (hc : c < m.cols) :
    (crossCheckStep V P other m).flag r c =
      if P.offset > 0 ∧ CrossCheck.isBorder P.offset m.rows m.cols r c = true then Flags.leftNodataOrBorder
      else (CrossCheck.ccPixel V P m.cols ((List.range m.cols).map (fun c => m.disp r c)) (other.getD r []) c
              (m.flag r c)).flag := by
  have hlt : r < other.length := Nat.lt_of_lt_of_le hr (of_decide_eq_true hshape)
  have hB : (CrossCheck.Dataset.mk other []).disp[r]? = some (other.getD r []) := by
    rw [List.getD_eq_getElem?_getD, List.getElem?_eq_getElem hlt, Option.getD_some]
  have hlen : ((List.range m.cols).map (fun c => m.disp r c)).length = m.cols := by
    rw [List.length_map, List.length_range]
  have hpix := C07.check_pix V P (toDataset m) { disp := other, mask := [] } r c _ _ _
    ((Blocks.getElem?_tabulate _ _ m.disp r).trans (if_pos hr)) hB
    ((Blocks.getElem?_tabulate _ _ m.flag r).trans (if_pos hr)) (by rw [hlen]; exact hc)
  rw [hlen, getD_range_map, if_pos hc, show (toDataset m).disp.length = m.rows from Blocks.length_tabulate _ _ _] at hpix
  exact congrArg CrossCheck.PixOut.flag hpix

/-- the two models write the border test differently (`nrow - off ≤ r` / `rows ≤ r + off`): same pixels -/
theorem isBorder_eq (off : Nat) (m : DMap) (r c : Nat) :
    CrossCheck.isBorder off m.rows m.cols r c = Interp.isBorder m off r c := by
  unfold CrossCheck.isBorder Interp.isBorder
  rw [decide_eq_decide.2 (Nat.sub_le_iff_le_add (a := m.rows)), decide_eq_decide.2 (Nat.sub_le_iff_le_add (a := m.cols))]

theorem crossCheck_flag_cases (m : DMap) (r c : Nat)
    (hshape : otherShapeOK other m = true) (hr : r < m.rows) (hc : c < m.cols) :
    (crossCheckStep V P other m).flag r c = Flags.leftNodataOrBorder
    ∨ (Flags.isInvalid (m.flag r c) = true ∧ (crossCheckStep V P other m).flag r c = m.flag r c)
    ∨ (Flags.isInvalid (m.flag r c) = false ∧
        ¬ (((crossCheckStep V P other m).flag r c).testBit 8 = true ∧ ((crossCheckStep V P other m).flag r c).testBit 9 = true)) := by
  rw [crossCheck_flag V P other m r c hshape hr hc]
  split
  · exact Or.inl rfl
  · cases hin : Flags.isInvalid (m.flag r c) with
    | true => exact Or.inr (Or.inl ⟨rfl, by rw [C07.ccPixel_invalid V P _ _ _ c _ hin]⟩)
    | false =>
      have hnb := (C07.ccPixel_never_both V P m.cols ((List.range m.cols).map (fun c => m.disp r c)) (other.getD r []) c
        (m.flag r c) hin).1
      rw [← FlagWord.div_mod_two_eq_one, ← FlagWord.div_mod_two_eq_one]
      exact Or.inr (Or.inr ⟨rfl, hnb⟩)

/-- **Cross-checking preserves `BoundedBy`** (whatever the bounds: it only writes flags, and never makes a pixel
    valid). -/
theorem crossCheckStep_bounded (lo hi : Nat → Nat → Rat) (m : DMap) (hshape : otherShapeOK other m = true) (h : BoundedBy lo hi m) :
    BoundedBy lo hi (crossCheckStep V P other m) := by
  intro r c hr hc hv
  rw [crossCheck_disp V P other m r c hr hc]
  refine h r c hr hc ?_
  rcases crossCheck_flag_cases V P other m r c hshape hr hc with hb | ⟨-, hk⟩ | ⟨hin, -⟩
  · rw [hb] at hv; cases hv
  · rw [hk] at hv; exact hv
  · exact hin

/-- **Cross-checking preserves `OneFlag`** (`C07.ccPixel_never_both`). -/
theorem crossCheckStep_oneFlag (m : DMap)
    (hshape : otherShapeOK other m = true) (h : OneFlag m) : OneFlag (crossCheckStep V P other m) := by
  intro r c hr hc h8
  rcases crossCheck_flag_cases V P other m r c hshape hr hc with hb | ⟨-, hk⟩ | ⟨-, hnb⟩
  · rw [hb] at h8; cases h8
  · rw [hk] at h8 ⊢; exact h r c hr hc h8
  · exact Bool.eq_false_iff.2 fun h9 => hnb ⟨h8, h9⟩

/-- the border pixels leave the step with bit 0 only (`mask_border`) -/
theorem crossCheckStep_borderClean (m : DMap)
    (hshape : otherShapeOK other m = true) : Interp.borderClean P.offset (crossCheckStep V P other m) = true := by
  unfold Interp.borderClean
  rw [C14.allPx_iff]
  intro r c hr hc
  rw [crossCheck_flag V P other m r c hshape hr hc,
    show Interp.isBorder (crossCheckStep V P other m) P.offset r c = CrossCheck.isBorder P.offset m.rows m.cols r c from
      (isBorder_eq P.offset m r c).symm]
  split
  · rw [beq_self_eq_true, Bool.or_true]
  · next hcond =>
    rw [Bool.or_eq_true, Bool.not_eq_true', ← Bool.not_eq_true, Bool.and_eq_true, decide_eq_true_eq]
    exact Or.inl hcond

section Filling
open Pandora.Interp hiding DMap

theorem interpolate_dims (v : Variant) (meth : Method) (off : Nat) (a : DMap) :
    (interpolate v meth off a).rows = a.rows ∧ (interpolate v meth off a).cols = a.cols := by
  cases meth <;> exact ⟨rfl, rfl⟩

/-- **Filling preserves `BoundedValid`** on the well-formed maps of C14 (`C14.outcome`). -/
theorem interpolate_bounded (v : Variant) (hg : v.guard = true) (meth : Method) (off : Nat) (a : DMap) (lo hi : Rat)
    (hwf : wf v.op meth off a = true) (h : BoundedValid lo hi a) : BoundedValid lo hi (interpolate v meth off a) := by
  refine h.of_bdd fun r c hr hc hv => ?_
  rw [(interpolate_dims v meth off a).1] at hr; rw [(interpolate_dims v meth off a).2] at hc
  cases C14.outcome v hg meth off a hwf hr hc with
  | untouched _ hd hg' _ =>
    rw [hg'] at hv; rw [hd]
    obtain ⟨q, hq, -⟩ := h r c hr hc hv
    exact ⟨q, hq, bdd_self hr hc hv hq⟩
  | unfilled _ _ _ _ hfg => rw [Interp.isInvalid_of_flagged hfg] at hv; cases hv
  | filled _ _ _ _ q hd _ hbd _ => exact ⟨q, hd, (C14.betweenValid_iff a q).1 hbd⟩

/-- **Filling preserves `OneFlag`**: an untouched pixel keeps its word, a filled one carries neither bit, an unfilled
    one keeps its word or has bit 9 replaced by bit 8. -/
theorem interpolate_oneFlag (v : Variant) (hg : v.guard = true) (meth : Method) (off : Nat) (a : DMap)
    (hwf : wf v.op meth off a = true) (h : OneFlag a) : OneFlag (interpolate v meth off a) := by
  intro r c hr hc h8
  rw [(interpolate_dims v meth off a).1] at hr; rw [(interpolate_dims v meth off a).2] at hc
  cases C14.outcome v hg meth off a hwf hr hc with
  | untouched _ _ hg' _ =>
    rw [hg'] at h8 ⊢
    exact h r c hr hc h8
  | unfilled _ _ _ hg' _ =>
    rw [hg'] at h8 ⊢
    generalize kindOf meth a r c = k at h8 ⊢
    cases k with
    | mismAsOccl => rw [unfilledFlag, mismatch_pow, occlusion_pow, testBit_replaceBit]; simp
    | _ => exact h r c hr hc h8
  | filled _ _ _ hng _ _ _ _ _ =>
    rw [flagged_eq, h8] at hng
    cases hng

theorem validFinite_of_bounded {lo hi : Rat} {a : DMap} (h : BoundedValid lo hi a) : validFinite a = true := by
  unfold validFinite
  rw [C14.allPx_iff]
  intro r c hr hc
  cases hv : a.valid r c with
  | false => rfl
  | true =>
    obtain ⟨q, hq, -, -⟩ := h r c hr hc (valid_iff.1 hv)
    rw [hq]; rfl

/-- a bounded map as a cross-checking with offset `off` leaves it is a well-formed input of the `|=` kernels -/
theorem wf_or_of_bounded_oneFlag {lo hi : Rat} {meth : Method} {off : Nat} {a : DMap} (hb : BoundedValid lo hi a)
    (ho : OneFlag a) (hbc : borderClean off a = true) : wf .or meth off a = true := by
  unfold wf
  rw [validFinite_of_bounded hb, (oneFlag_iff a).2 ho, hbc]
  rfl

end Filling

theorem validationStep_inv (fill : Option Fill)
    (lo hi : Rat) (m : DMap) (hp : (Step.validation V P other fill).paramsOK m)
    (hb : BoundedValid lo hi m) (ho : OneFlag m) :
    BoundedValid lo hi (validationStep V P other fill m) ∧ OneFlag (validationStep V P other fill m) := by
  obtain ⟨hshape, hfill⟩ := hp
  have hb1 := crossCheckStep_bounded V P other _ _ m hshape hb
  have ho1 := crossCheckStep_oneFlag V P other m hshape ho
  cases fill with
  | none => exact ⟨hb1, ho1⟩
  | some f =>
    obtain ⟨hguard, hop⟩ := hfill f rfl
    have hwf : Interp.wf f.variant.op f.method P.offset (crossCheckStep V P other m) = true := by
      rw [hop]
      exact wf_or_of_bounded_oneFlag hb1 ho1 (crossCheckStep_borderClean V P other m hshape)
    exact ⟨interpolate_bounded f.variant hguard f.method P.offset _ lo hi hwf hb1,
      interpolate_oneFlag f.variant hguard f.method P.offset _ hwf ho1⟩

theorem validationStep_dims (fill : Option Fill) (m : DMap) :
    (validationStep V P other fill m).rows = m.rows ∧ (validationStep V P other fill m).cols = m.cols := by
  cases fill with
  | none => exact ⟨rfl, rfl⟩
  | some f => exact interpolate_dims f.variant f.method P.offset (crossCheckStep V P other m)

end Pandora.C09P
