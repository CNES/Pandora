/-
  `Census.popcount32b` (the SWAR bit trick) returns the number of set bits of every 32-bit argument: the word is read
  as a row of fields of width `w`, each holding the number of set bits of the same field of the argument; each of the
  first three lines adds neighbouring fields two by two, the last three add the four bytes.
-/
import PandoraModel.Model.MatchingCost
import Mathlib.Tactic.Ring

-- `bitCountRec` is the specification `Properties/C02Census.lean` states its results in: it keeps that namespace
namespace Pandora.C02Census

/-- the number of set bits among the `n` low bits of `x`, least significant bit first -/
def bitCountRec : Nat → Nat → Nat
  | 0, _ => 0
  | n + 1, x => x % 2 + bitCountRec n (x / 2)

theorem bitCountRec_zero (n : Nat) : bitCountRec n 0 = 0 := by
  induction n with
  | zero => rfl
  | succ n ih => simp only [bitCountRec, ih]

theorem bitCountRec_le (n x : Nat) : bitCountRec n x ≤ n := by
  induction n generalizing x with
  | zero => exact Nat.le_refl 0
  | succ n ih =>
    have := ih (x / 2)
    have := Nat.mod_lt x Nat.two_pos
    simp only [bitCountRec]
    omega

theorem bitCountRec_add (m n x : Nat) : bitCountRec (m + n) x = bitCountRec m x + bitCountRec n (x / 2 ^ m) := by
  induction m generalizing x with
  | zero => simp only [bitCountRec, Nat.zero_add, Nat.pow_zero, Nat.div_one]
  | succ m ih =>
    rw [Nat.add_right_comm]
    simp only [bitCountRec, ih, Nat.pow_succ', Nat.div_div_eq_div_mul, Nat.add_assoc]

end Pandora.C02Census

namespace Pandora.MC.Popcount
open Pandora.C02Census

theorem concat_of_mod_div (op : Nat → Nat → Nat) (k : Nat) (hmod : ∀ x y, op x y % 2 ^ k = op (x % 2 ^ k) (y % 2 ^ k))
    (hdiv : ∀ x y, op x y / 2 ^ k = op (x / 2 ^ k) (y / 2 ^ k)) (a b c d : Nat) (ha : a < 2 ^ k) (hc : c < 2 ^ k) :
    op (a + 2 ^ k * b) (c + 2 ^ k * d) = op a c + 2 ^ k * op b d := by
  have h := Nat.mod_add_div (op (a + 2 ^ k * b) (c + 2 ^ k * d)) (2 ^ k)
  rw [hmod, hdiv, Nat.add_mul_mod_self_left, Nat.add_mul_mod_self_left, Nat.mod_eq_of_lt ha, Nat.mod_eq_of_lt hc,
    Nat.add_mul_div_left _ _ (Nat.two_pow_pos k), Nat.add_mul_div_left _ _ (Nat.two_pow_pos k), Nat.div_eq_of_lt ha,
    Nat.div_eq_of_lt hc, Nat.zero_add, Nat.zero_add] at h
  exact h.symm

theorem and_concat (k a b c d : Nat) (ha : a < 2 ^ k) (hc : c < 2 ^ k) :
    (a + 2 ^ k * b) &&& (c + 2 ^ k * d) = (a &&& c) + 2 ^ k * (b &&& d) :=
  concat_of_mod_div (· &&& ·) k (fun _ _ => Nat.and_mod_two_pow) (fun _ _ => Nat.and_div_two_pow) a b c d ha hc

/-- the shift leaves `j = k - s` bits of the low part `a`; the low part `m` of the other operand has no more -/
theorem shiftRight_and_concat (s j k a b m d : Nat) (hk : s + j = k) (ha : a < 2 ^ k) (hm : m < 2 ^ j) :
    ((a + 2 ^ k * b) >>> s) &&& (m + 2 ^ k * d) = ((a >>> s) &&& m) + 2 ^ k * ((b >>> s) &&& d) := by
  subst hk
  have hs : (a + 2 ^ (s + j) * b) >>> s = a >>> s + 2 ^ j * b := by
    rw [Nat.shiftRight_eq_div_pow, Nat.shiftRight_eq_div_pow, Nat.pow_add, Nat.mul_assoc,
      Nat.add_mul_div_left _ _ (Nat.two_pow_pos s)]
  have ha' : a >>> s < 2 ^ j := by
    rw [Nat.shiftRight_eq_div_pow, Nat.div_lt_iff_lt_mul (Nat.two_pow_pos s), Nat.mul_comm, ← Nat.pow_add]
    exact ha
  have hb : b &&& 2 ^ s * d = 2 ^ s * ((b >>> s) &&& d) := by
    have h := and_concat s (b % 2 ^ s) (b / 2 ^ s) 0 d (Nat.mod_lt _ (Nat.two_pow_pos s)) (Nat.two_pow_pos s)
    rwa [Nat.mod_add_div, Nat.zero_add, Nat.and_zero, Nat.zero_add, ← Nat.shiftRight_eq_div_pow] at h
  rw [hs, Nat.pow_add, Nat.mul_comm (2 ^ s), Nat.mul_assoc, and_concat j _ _ _ _ ha' hm, hb, Nat.mul_assoc]

theorem concat_lt (k a b : Nat) (ha : a < 2 ^ k) (hb : b < 2 ^ k) : a + 2 ^ k * b < 2 ^ (k + k) := by
  rw [Nat.pow_add]
  calc a + 2 ^ k * b < 2 ^ k + 2 ^ k * b := Nat.add_lt_add_right ha _
    _ = 2 ^ k * (b + 1) := by rw [Nat.mul_succ, Nat.add_comm]
    _ ≤ 2 ^ k * 2 ^ k := Nat.mul_le_mul_left _ hb

theorem and_low (k a b : Nat) (ha : a < 2 ^ k) : (a + 2 ^ k * b) &&& (2 ^ k - 1) = a := by
  rw [Nat.and_two_pow_sub_one_eq_mod, Nat.add_mul_mod_self_left, Nat.mod_eq_of_lt ha]

theorem shiftRight_and_low (k a b : Nat) (ha : a < 2 ^ k) (hb : b < 2 ^ k) : ((a + 2 ^ k * b) >>> k) &&& (2 ^ k - 1) = b := by
  rw [Nat.shiftRight_eq_div_pow, Nat.add_mul_div_left _ _ (Nat.two_pow_pos k), Nat.div_eq_of_lt ha, Nat.zero_add,
    Nat.and_two_pow_sub_one_eq_mod, Nat.mod_eq_of_lt hb]

/-- the word whose `i`-th field of width `w` (`i < n`) holds the number of set bits of the `i`-th such field of `x` -/
def fieldCount (w : Nat) : Nat → Nat → Nat
  | 0, _ => 0
  | n + 1, x => bitCountRec w x + 2 ^ w * fieldCount w n (x / 2 ^ w)

theorem fieldCount_one (n x : Nat) (hx : x < 2 ^ n) : fieldCount 1 n x = x := by
  induction n generalizing x with
  | zero => simp only [Nat.pow_zero, Nat.lt_one_iff] at hx; rw [hx]; rfl
  | succ n ih =>
    simp only [fieldCount, bitCountRec, Nat.pow_one]
    rw [ih _ (by rw [Nat.pow_succ] at hx; omega)]
    omega

theorem fieldCount_mod_le (w n x : Nat) : fieldCount w n x % 2 ^ w ≤ w := by
  cases n with
  | zero => exact Nat.zero_le w
  | succ n =>
    rw [fieldCount, Nat.add_mul_mod_self_left]
    exact le_trans (Nat.mod_le _ _) (bitCountRec_le w x)

/-- `S n` is a line of the function cut down to `n` fields of width `2 w`.  `step` may look at the lowest width-`w` field of
    the rest `y`: the third line lets it spill into the sum, harmless while it is small. -/
theorem fieldCount_pairs (w : Nat) (S : Nat → Nat → Nat) (zero : S 0 0 = 0)
    (step : ∀ n a b y, a ≤ w → b ≤ w → y % 2 ^ w ≤ w →
      S (n + 1) (a + 2 ^ w * b + 2 ^ (w + w) * y) = a + b + 2 ^ (w + w) * S n y) (n x : Nat) :
    S n (fieldCount w (2 * n) x) = fieldCount (w + w) n x := by
  induction n generalizing x with
  | zero => exact zero
  | succ n ih =>
    have e : fieldCount w (2 * (n + 1)) x
        = bitCountRec w x + 2 ^ w * bitCountRec w (x / 2 ^ w) + 2 ^ (w + w) * fieldCount w (2 * n) (x / 2 ^ (w + w)) := by
      simp only [Nat.mul_succ, fieldCount, Nat.div_div_eq_div_mul, ← Nat.pow_add]
      ring
    rw [e, step _ _ _ _ (bitCountRec_le ..) (bitCountRec_le ..) (fieldCount_mod_le ..), ih, fieldCount, bitCountRec_add]

/-- the constant `m + B·m + B²·m + …` of `n` fields: `0x55555555`, `0x33333333`, `0x0F0F0F0F` cut down to `n` fields -/
def fieldMask (m B : Nat) : Nat → Nat
  | 0 => 0
  | n + 1 => m + B * fieldMask m B n

/-- line 1 of `popcount32b` on `n` fields of two bits: `row - ((row >> 1) & 0x55555555)` -/
def pairs1 (n x : Nat) : Nat := x - ((x >>> 1) &&& fieldMask (2 ^ 1 - 1) (2 ^ 2) n)

/-- line 2 on `n` fields of four bits: `(row & 0x33333333) + ((row >> 2) & 0x33333333)` -/
def pairs2 (n y : Nat) : Nat := (y &&& fieldMask (2 ^ 2 - 1) (2 ^ 4) n) + ((y >>> 2) &&& fieldMask (2 ^ 2 - 1) (2 ^ 4) n)

/-- line 3 on `n` bytes: `(row + (row >> 4)) & 0x0F0F0F0F` -/
def pairs4 (n z : Nat) : Nat := (z + (z >>> 4)) &&& fieldMask (2 ^ 4 - 1) (2 ^ 8) n

/-- `d - d / 2` on a pair of bits `d = a + 2 b` is `a + b`; the subtraction does not borrow across fields -/
theorem pairs1_step (n a b y : Nat) (ha : a ≤ 1) (hb : b ≤ 1) :
    pairs1 (n + 1) (a + 2 ^ 1 * b + 2 ^ 2 * y) = a + b + 2 ^ 2 * pairs1 n y := by
  have ha : a < 2 ^ 1 := Nat.lt_succ_of_le ha
  have hb : b < 2 ^ 1 := Nat.lt_succ_of_le hb
  have hle : (y >>> 1) &&& fieldMask (2 ^ 1 - 1) (2 ^ 2) n ≤ y := le_trans Nat.and_le_left (Nat.shiftRight_le y 1)
  rw [pairs1, pairs1, fieldMask, shiftRight_and_concat 1 1 2 _ _ _ _ rfl (concat_lt 1 a b ha hb) (by decide),
    shiftRight_and_low 1 a b ha hb]
  omega

theorem pairs2_step (n a b y : Nat) (ha : a ≤ 2) (hb : b ≤ 2) :
    pairs2 (n + 1) (a + 2 ^ 2 * b + 2 ^ 4 * y) = a + b + 2 ^ 4 * pairs2 n y := by
  have ha : a < 2 ^ 2 := Nat.lt_of_le_of_lt ha (by decide)
  have hb : b < 2 ^ 2 := Nat.lt_of_le_of_lt hb (by decide)
  rw [pairs2, pairs2, fieldMask, and_concat 4 _ _ _ _ (concat_lt 2 a b ha hb) (by decide),
    shiftRight_and_concat 2 2 4 _ _ _ _ rfl (concat_lt 2 a b ha hb) (by decide), and_low 2 a b ha,
    shiftRight_and_low 2 a b ha hb, Nat.mul_add, Nat.add_add_add_comm]

/-- no carry leaves a byte: each of its two nibbles, and the nibble above that is shifted into it, is at most 4 -/
theorem pairs4_step (n a b y : Nat) (ha : a ≤ 4) (hb : b ≤ 4) (hy : y % 2 ^ 4 ≤ 4) :
    pairs4 (n + 1) (a + 2 ^ 4 * b + 2 ^ 8 * y) = a + b + 2 ^ 8 * pairs4 n y := by
  have hz : a + 2 ^ 4 * b + 2 ^ 8 * y + (a + 2 ^ 4 * b + 2 ^ 8 * y) >>> 4
      = (a + b + 2 ^ 4 * (b + y % 2 ^ 4)) + 2 ^ 8 * (y + y >>> 4) := by
    rw [Nat.shiftRight_eq_div_pow, Nat.shiftRight_eq_div_pow]; omega
  rw [pairs4, pairs4, fieldMask, hz, and_concat 8 _ _ _ _ (by omega) (by decide), and_low 4 (a + b) _ (by omega)]

/-- lines 4 to 6: the four byte counts added into the low byte, `& 0x7F` -/
def addBytes (u : Nat) : Nat :=
  let v := u + (u >>> 8)
  let w := v + (v >>> 16)
  w &&& 0x7F

theorem addBytes_eq (p0 p1 p2 p3 : Nat) (h0 : p0 ≤ 8) (h1 : p1 ≤ 8) (h2 : p2 ≤ 8) (h3 : p3 ≤ 8) :
    addBytes (p0 + 256 * (p1 + 256 * (p2 + 256 * p3))) = p0 + p1 + p2 + p3 := by
  -- the three steps from the last to the first, so that each `omega` has only its own facts before it
  have d3 : (p0 + 256 * (p1 + 256 * (p2 + 256 * p3)) + (p1 + 256 * (p2 + 256 * p3)) + (p2 + p3 + 256 * p3)) % 2 ^ 7
      = p0 + p1 + p2 + p3 := by omega
  have d2 : (p0 + 256 * (p1 + 256 * (p2 + 256 * p3)) + (p1 + 256 * (p2 + 256 * p3))) >>> 16 = p2 + p3 + 256 * p3 := by
    clear d3; rw [Nat.shiftRight_eq_div_pow]; omega
  have d1 : (p0 + 256 * (p1 + 256 * (p2 + 256 * p3))) >>> 8 = p1 + 256 * (p2 + 256 * p3) := by
    rw [Nat.shiftRight_eq_div_pow, Nat.add_mul_div_left _ _ (by decide), Nat.div_eq_of_lt (Nat.lt_of_le_of_lt h0 (by decide)),
      Nat.zero_add]
  rw [addBytes, d1, d2]
  exact (Nat.and_two_pow_sub_one_eq_mod _ 7).trans d3

/-- the three constants evaluate to `0x55555555`, `0x33333333`, `0x0F0F0F0F` -/
theorem popcount32b_eq (x : Nat) : popcount32b x = addBytes (pairs4 4 (pairs2 8 (pairs1 16 x))) := rfl

theorem popcount32b_eq_bitCountRec (x : Nat) (hx : x < 2 ^ 32) : popcount32b x = bitCountRec 32 x := by
  have s1 : pairs1 16 (fieldCount 1 32 x) = fieldCount 2 16 x := fieldCount_pairs 1 pairs1 rfl (fun n a b y ha hb _ => pairs1_step n a b y ha hb) 16 x
  have s2 : pairs2 8 (fieldCount 2 16 x) = fieldCount 4 8 x := fieldCount_pairs 2 pairs2 rfl (fun n a b y ha hb _ => pairs2_step n a b y ha hb) 8 x
  have s3 : pairs4 4 (fieldCount 4 8 x) = fieldCount 8 4 x := fieldCount_pairs 4 pairs4 rfl pairs4_step 4 x
  rw [fieldCount_one 32 x hx] at s1
  rw [popcount32b_eq, s1, s2, s3]
  simp only [fieldCount, Nat.mul_zero, Nat.add_zero]
  rw [show (2 : Nat) ^ 8 = 256 from rfl, addBytes_eq _ _ _ _ (bitCountRec_le ..) (bitCountRec_le ..) (bitCountRec_le ..) (bitCountRec_le ..)]
  rw [show 32 = 8 + (8 + (8 + 8)) from rfl, bitCountRec_add, bitCountRec_add, bitCountRec_add]
  simp only [show (2 : Nat) ^ 8 = 256 from rfl, Nat.add_assoc]

def digits (B : Nat) : List Nat → Nat
  | [] => 0
  | d :: ds => d + B * digits B ds

/-- number of set bits of a base-4 digit -/
def pop2 (d : Nat) : Nat := d - d / 2

theorem pop2_pair (a b : Nat) (ha : a < 2) : pop2 (a + 2 * b) = a + b := by
  rw [pop2, Nat.add_mul_div_left _ _ Nat.two_pos, Nat.div_eq_of_lt ha, Nat.zero_add, Nat.two_mul, ← Nat.add_assoc,
    Nat.add_sub_cancel]

theorem bitCountRec_two (n x : Nat) : bitCountRec (n + 2) x = pop2 (x % 4) + bitCountRec n (x / 4) := by
  rw [bitCountRec, bitCountRec, Nat.div_div_eq_div_mul, (Nat.mod_mul : x % (2 * 2) = _),
    pop2_pair _ _ (Nat.mod_lt _ Nat.two_pos), Nat.add_assoc]

theorem digits_lt (ds : List Nat) (h : ∀ d ∈ ds, d < 4) : digits 4 ds < 2 ^ (2 * ds.length) := by
  induction ds with
  | nil => exact Nat.one_pos
  | cons d ds ih =>
    have := ih (fun e he => h e (List.mem_cons_of_mem _ he))
    have := h d (List.mem_cons_self ..)
    rw [digits, List.length_cons, Nat.mul_succ, Nat.pow_add]
    omega

theorem bitCountRec_digits (ds : List Nat) (h : ∀ d ∈ ds, d < 4) :
    bitCountRec (2 * ds.length) (digits 4 ds) = (ds.map pop2).sum := by
  induction ds with
  | nil => rfl
  | cons d ds ih =>
    have hd := h d (List.mem_cons_self ..)
    rw [List.length_cons, Nat.mul_succ, bitCountRec_two, digits, List.map_cons, List.sum_cons,
      Nat.add_mul_mod_self_left, Nat.mod_eq_of_lt hd, Nat.add_mul_div_left _ _ (by decide), Nat.div_eq_of_lt hd,
      Nat.zero_add, ih (fun e he => h e (List.mem_cons_of_mem _ he))]

end Pandora.MC.Popcount
