/-
  The documented automaton of `Model/Machine.lean` (`Kind.ofName?`, `documented`, `isPath`, `pathEnd`, `hasKind`):
  the facts through which the files that walk a pipeline along it read these definitions.
-/
import PandoraModel.Model.Machine

namespace Pandora.Machine

theorem St.mem_all (st : St) : st ∈ St.all := by cases st <;> decide
theorem Kind.mem_all (k : Kind) : k ∈ Kind.all := by cases k <;> decide

theorem ofName_some {s : String} {k : Kind} (h : Kind.ofName? s = some k) : s = k.name := by
  unfold Kind.ofName? at h
  have := List.find?_some h
  exact (by simpa using this : k.name = s).symm

/-- one kernel evaluation over the ten kinds: the elaborator's own evaluation of the `String` comparisons is several times
    dearer -/
theorem Kind.ofName?_name (k : Kind) : Kind.ofName? k.name = some k := by
  have hall : Kind.all.all (fun k => Kind.ofName? k.name == some k) = true := by decide +kernel
  exact eq_of_beq (List.all_eq_true.1 hall k (Kind.mem_all k))

theorem Kind.name_inj {k k' : Kind} (h : k.name = k'.name) : k = k' := by
  apply Option.some.inj
  rw [← Kind.ofName?_name k, h, Kind.ofName?_name k']

theorem ofName_none {s : String} (h : Kind.ofName? s = none) : ∀ k : Kind, s ≠ k.name := by
  intro k hk
  unfold Kind.ofName? at h
  rw [List.find?_eq_none] at h
  have := h k (Kind.mem_all k)
  simp [hk] at this

theorem isPath_nil (st : St) : isPath st [] = true := by rw [isPath]

theorem isPath_cons (st : St) (n : String) (ns : List String) :
    isPath st (n :: ns) =
      match Kind.ofName? (kindOf n) with
      | none => false
      | some k =>
        match documented st k with
        | none => false
        | some st' => isPath st' ns := by
  cases hk : Kind.ofName? (kindOf n) with
  | none => simp only [isPath, hk]
  | some k => cases hd : documented st k <;> simp only [isPath, hk, hd]

theorem isPath_cons_iff {st : St} {n : String} {ns : List String} :
    isPath st (n :: ns) = true ↔
      ∃ k st', Kind.ofName? (kindOf n) = some k ∧ documented st k = some st' ∧ isPath st' ns = true := by
  rw [isPath_cons]
  cases Kind.ofName? (kindOf n) with
  | none => simp
  | some k => cases hd : documented st k <;> simp [hd]

theorem pathEnd_nil (st : St) : pathEnd st [] = st := by rw [pathEnd]

theorem pathEnd_cons {st st' : St} {k : Kind} {n : String} (ns : List String)
    (hk : Kind.ofName? (kindOf n) = some k) (hd : documented st k = some st') :
    pathEnd st (n :: ns) = pathEnd st' ns := by
  simp only [pathEnd, hk, hd]

theorem Kind.name_beq (k k' : Kind) : (k.name == k'.name) = decide (k = k') := by
  by_cases h : k = k'
  · simp [h]
  · simpa [h] using fun e => h (Kind.name_inj e)

theorem hasKind_eq_any (k : Kind) (names : List String) :
    hasKind k names = names.any (fun n => kindOf n == k.name) := rfl

theorem hasKind_iff {k : Kind} {names : List String} :
    hasKind k names = true ↔ ∃ n ∈ names, kindOf n = k.name := by
  simp [hasKind]

theorem hasKind_nil (k : Kind) : hasKind k [] = false := rfl

theorem hasKind_cons (k : Kind) (n : String) (ns : List String) :
    hasKind k (n :: ns) = (kindOf n == k.name || hasKind k ns) := by
  simp [hasKind]

theorem documented_ne_begin {st st' : St} {k : Kind} (h : documented st k = some st') :
    (st'.name == "begin") = false := by
  cases st <;> cases k <;> simp [documented] at h <;> subst h <;> decide

end Pandora.Machine
