/-
  C12 — frame: a confidence step only appends bands (named from the method and the step name), never
  touches the cost volume nor anything the later disparity step reads; percentile normalisation lands
  in [0, 1] exactly when the clipped map is not constant.  The counterexamples of the findings F10 (max measure),
  F11 (constant clipped map) and F11b (two dots in a step name) are at the end.
-/
import PandoraModel.Lemmas.C12Lists

namespace Pandora.C12
open Pandora.Confidence

/-- the band `allocate_confidence_map` builds from a stem and a map: the name gets the `confidence_from_` prefix -/
def mkBand (nb : Name × Grid Val) : Band := ⟨confPrefix ++ nb.1, nb.2⟩

/-- one `allocate_confidence_map` on the state: the step function of the fold in `runStep` -/
def allocStep (st : CState) (nb : Name × Grid Val) : CState :=
  let (d, c) := allocate nb.1 nb.2 st.dispDS st.cvBands
  { st with dispDS := d, cvBands := c }

/-- what a disparity dataset holds after the bands `new` were allocated on it and on the cost volume -/
def dispAfter (old : DispDS) (cvOld : Option (List Band)) (new : List Band) : DispDS :=
  match old with
  | .none => .none
  | .ds (some bs) => .ds (some (bs ++ new))
  | .ds none => if new = [] then .ds none else .ds (some (cvOld.getD [] ++ new))

/-- what a confidence step and the later disparity step read of the state besides the band lists -/
def inputs (st : CState) : Volume × Bool × List Rat × Grid Rat × Nat :=
  (st.cost, st.isMax, st.disp, st.img, st.window)

/-- **a confidence computation only appends bands**: from `st` to `st'` nothing a step or the later disparity step reads has
    changed, the cost volume's band list is the old one followed by `new`, and the disparity dataset follows it -/
structure Appends (st st' : CState) (new : List Band) : Prop where
  inputs_eq : inputs st' = inputs st
  bands : st'.cvBands.getD [] = st.cvBands.getD [] ++ new
  disp : st'.dispDS = dispAfter st.dispDS st.cvBands new

theorem Appends.refl (st : CState) : Appends st st [] := by
  refine ⟨rfl, (List.append_nil _).symm, ?_⟩
  unfold dispAfter
  cases st.dispDS with
  | none => rfl
  | ds bs => cases bs <;> simp

theorem Appends.trans {a b c : CState} {n₁ n₂ : List Band} (h₁ : Appends a b n₁) (h₂ : Appends b c n₂) :
    Appends a c (n₁ ++ n₂) := by
  refine ⟨h₂.inputs_eq.trans h₁.inputs_eq, by rw [h₂.bands, h₁.bands, List.append_assoc], ?_⟩
  rw [h₂.disp, h₁.disp]
  unfold dispAfter
  -- only a dataset without `confidence_measure` looks at the cost volume's bands, and only through `getD []`
  cases a.dispDS with
  | none => rfl
  | ds bs =>
    cases bs with
    | some l => simp
    | none => by_cases e₁ : n₁ = [] <;> by_cases e₂ : n₂ = [] <;> simp [e₁, e₂, h₁.bands]

theorem allocStep_appends (st : CState) (nb : Name × Grid Val) : Appends st (allocStep st nb) [mkBand nb] := by
  have h : (allocStep st nb).cvBands.getD [] = st.cvBands.getD [] ++ [mkBand nb]
      ∧ (allocStep st nb).dispDS = dispAfter st.dispDS st.cvBands [mkBand nb] := by
    unfold allocStep allocate dispAfter mkBand
    cases hcv : st.cvBands <;> cases hd : st.dispDS with
    | none => simp
    | ds bs => cases bs <;> simp
  exact ⟨rfl, h.1, h.2⟩

theorem foldl_allocStep (bands : List (Name × Grid Val)) (st : CState) :
    Appends st (bands.foldl allocStep st) (bands.map mkBand) := by
  induction bands generalizing st with
  | nil => exact Appends.refl st
  | cons nb rest ih => exact (allocStep_appends st nb).trans (ih _)

theorem methodBands_names (st : CState) (ind : Name) (m : Method) (bands : List (Name × Grid Val))
    (h : methodBands st ind m = some bands) : bands.map (·.1) = (Spec.stems m).map (· ++ ind) := by
  cases m with
  | ambiguity etas n =>
    obtain ⟨g, _, rfl⟩ := Option.map_eq_some_iff.1 h
    rfl
  | risk etas =>
    obtain ⟨g, _, rfl⟩ := Option.map_eq_some_iff.1 h
    rfl
  | intervalBounds thr reg =>
    simp only [methodBands] at h
    -- `none` when the kernel has no finite cost or the ambiguity band is missing; two bands otherwise
    split at h
    · cases h
    · split at h
      · cases h; rfl
      · split at h
        · cases h
        · cases h; rfl
  | stdIntensity => cases h; rfl

def modelNames (s : Step) : List Name :=
  (Spec.stems s.method).map (fun stem => confPrefix ++ (stem ++ indicatorOf s.name))

theorem runStep_frame (st st' : CState) (s : Step) (h : runStep st s = some st') :
    ∃ new : List Band, new.map (·.name) = modelNames s ∧ Appends st st' new := by
  unfold runStep at h
  cases hm : methodBands st (indicatorOf s.name) s.method with
  | none => rw [hm] at h; cases h
  | some bands =>
    rw [hm] at h
    simp only [Option.some.injEq] at h
    change bands.foldl allocStep st = st' at h
    subst h
    refine ⟨bands.map mkBand, ?_, foldl_allocStep bands st⟩
    have := congrArg (List.map (fun x => confPrefix ++ x)) (methodBands_names st _ _ _ hm)
    rw [List.map_map, List.map_map] at this
    rw [List.map_map]
    exact this

/-- **bands_only_append / cv_same** for any number and order of confidence steps: the cost volume and
    everything the later disparity step reads are untouched; the band list is the old one followed by
    the new bands, named step by step -/
theorem runSteps_frame (steps : List Step) :
    ∀ (st st' : CState), runSteps st steps = some st' →
      ∃ new : List Band, new.map (·.name) = steps.flatMap modelNames ∧ Appends st st' new := by
  induction steps with
  | nil =>
    intro st st' h
    cases h
    exact ⟨[], rfl, Appends.refl st⟩
  | cons s rest ih =>
    intro st st' h
    rw [runSteps] at h
    cases hs : runStep st s with
    | none => rw [hs] at h; cases h
    | some st1 =>
      rw [hs] at h
      obtain ⟨new1, n1, a1⟩ := runStep_frame st st1 s hs
      obtain ⟨new2, n2, a2⟩ := ih st1 st' h
      exact ⟨new1 ++ new2, by rw [List.map_append, n1, n2, List.flatMap_cons], a1.trans a2⟩

/-- **later_disp_flags_same**: the disparity map of the later winner-takes-all step is the one it would
    be without the confidence steps -/
theorem later_disparity_same (steps : List Step) (st st' : CState) (h : runSteps st steps = some st') :
    (laterDisparity st').1 = (laterDisparity st).1 := by
  obtain ⟨_, _, ⟨hin, _, _⟩⟩ := runSteps_frame steps st st' h
  simp only [inputs, Prod.mk.injEq] at hin
  obtain ⟨h1, h2, h3, _⟩ := hin
  unfold laterDisparity
  simp only [h1, h2, h3]

theorem splitDots_no_dot (l : List Char) (h : ∀ c ∈ l, c ≠ '.') : splitDots l = [l] := by
  induction l with
  | nil => rfl
  | cons c cs ih =>
    have hc : c ≠ '.' := h c (by simp)
    rw [splitDots, ih (fun d hd => h d (by simp [hd]))]
    simp [hc]

theorem splitDots_ne_nil (l : List Char) : splitDots l ≠ [] := by
  induction l with
  | nil => simp [splitDots]
  | cons c cs ih =>
    rw [splitDots]
    cases h : splitDots cs with
    | nil => exact absurd h ih
    | cons p ps => simp only; split <;> simp

/-- on a step name `kind.suffix` with one dot the model's rule is the specification's "everything from the first dot" -/
theorem indicatorOf_eq_suffix (kind sfx : List Char) (hk : ∀ c ∈ kind, c ≠ '.') (hs : ∀ c ∈ sfx, c ≠ '.') :
    indicatorOf (kind ++ '.' :: sfx) = Spec.suffixOf (kind ++ '.' :: sfx) := by
  have hsplit : splitDots (kind ++ '.' :: sfx) = [kind, sfx] := by
    induction kind with
    | nil => simp [splitDots, splitDots_no_dot sfx hs]
    | cons c cs ih =>
      have hc : c ≠ '.' := hk c (by simp)
      rw [List.cons_append, splitDots, ih (fun d hd => hk d (by simp [hd]))]
      simp [hc]
  unfold indicatorOf Spec.suffixOf
  rw [hsplit]
  simp only
  rw [List.dropWhile_append_of_pos]
  · simp
  · intro c hc; simpa using hk c hc

theorem indicatorOf_no_dot (kind : List Char) (hk : ∀ c ∈ kind, c ≠ '.') : indicatorOf kind = Spec.suffixOf kind := by
  unfold indicatorOf Spec.suffixOf
  rw [splitDots_no_dot kind hk]
  simp only
  symm
  induction kind with
  | nil => rfl
  | cons c cs ih =>
    have hc : c ≠ '.' := hk c (by simp)
    rw [List.dropWhile_cons]
    simp only [bne_iff_ne, ne_eq, hc, not_false_eq_true, if_true]
    exact ih (fun d hd => hk d (by simp [hd]))

/-- the finding F11b: a step name with two dots gets no suffix at all -/
theorem indicator_two_dots_counterexample :
    indicatorOf "cost_volume_confidence.a.b".toList = [] ∧
    Spec.suffixOf "cost_volume_confidence.a.b".toList = ".a.b".toList ∧
    modelNames ⟨"cost_volume_confidence.a.b".toList, .stdIntensity⟩ = modelNames ⟨"cost_volume_confidence".toList, .stdIntensity⟩ := by
  decide +kernel

def clipped (perc : Rat) (l : List Rat) : List Rat :=
  l.map (clipRat (percentile l perc) (percentile l (100 - perc)))

theorem normalizeWithPercentile_eq (perc : Rat) (l : List Rat) :
    normalizeWithPercentile perc l = match lmin (clipped perc l), lmax (clipped perc l) with
      | some lo, some hi => if hi = lo then (clipped perc l).map (fun _ => Val.nan)
          else (clipped perc l).map (fun x => Val.num ((x - lo) / (hi - lo)))
      | _, _ => [] := rfl

/-- **ambiguity_normalised_range**: when the clipped ambiguity map takes two distinct values, every
    normalised ambiguity — and every confidence `1 − ambiguity` — is a finite number of `[0, 1]` -/
theorem normalize_unit (perc : Rat) (l : List Rat)
    (hd : ∃ x ∈ clipped perc l, ∃ y ∈ clipped perc l, x ≠ y) :
    ∀ v ∈ normalizeWithPercentile perc l,
      Spec.inUnit v = true ∧ Spec.inUnit (Val.map (fun x => 1 - x) v) = true := by
  obtain ⟨x, hx, y, hy, hxy⟩ := hd
  rw [normalizeWithPercentile_eq]
  cases hlo : lmin (clipped perc l) with
  | none => rw [(lmin_eq_none _).1 hlo] at hx; simp at hx
  | some lo =>
    cases hhi : lmax (clipped perc l) with
    | none => rw [(lmax_eq_none _).1 hhi] at hx; simp at hx
    | some hi =>
      have hlo' := (lmin_spec _ _ hlo).2
      have hhi' := (lmax_spec _ _ hhi).2
      have hne : hi ≠ lo := by
        intro h
        apply hxy
        have h1 := hlo' x hx; have h2 := hhi' x hx; have h3 := hlo' y hy; have h4 := hhi' y hy
        rw [h] at h2 h4
        exact le_antisymm (le_trans h2 h3) (le_trans h4 h1)
      have hlt : lo < hi := lt_of_le_of_ne (le_trans (hlo' x hx) (hhi' x hx)) (Ne.symm hne)
      have hpos : 0 < hi - lo := by linarith
      simp only [hne, if_false]
      intro v hv
      obtain ⟨z, hz, rfl⟩ := List.mem_map.1 hv
      have h1 := hlo' z hz
      have h2 := hhi' z hz
      have h0 : 0 ≤ (z - lo) / (hi - lo) := div_nonneg (by linarith) (le_of_lt hpos)
      have h1' : (z - lo) / (hi - lo) ≤ 1 := by rw [div_le_one hpos]; linarith
      simp only [Spec.inUnit, Val.map, Bool.and_eq_true, decide_eq_true_eq]
      exact ⟨⟨h0, h1'⟩, by linarith, by linarith⟩

/-- the finding F11 in general: when the clipped map is constant the band is NaN everywhere -/
theorem normalize_constant_nan (perc : Rat) (l : List Rat)
    (hc : ∀ x ∈ clipped perc l, ∀ y ∈ clipped perc l, x = y) :
    ∀ v ∈ normalizeWithPercentile perc l, v = Val.nan := by
  rw [normalizeWithPercentile_eq]
  cases hlo : lmin (clipped perc l) with
  | none => simp
  | some lo =>
    cases hhi : lmax (clipped perc l) with
    | none => simp
    | some hi =>
      have : hi = lo := hc hi ((lmax_spec _ _ hhi).1) lo ((lmin_spec _ _ hlo).1)
      simp [this]

/-- the finding F11 within the quantifier of the property: a cost volume with two distinct finite costs whose normalised
    ambiguity band is NaN everywhere -/
theorem ambiguity_normalised_counterexample :
    let v : Volume := [[[.num 0, .num 1]], [[.num 0, .num 1]]]
    globalMin v = some 0 ∧ globalMax v = some 1 ∧
    ambiguityBand [0, 1/2] true 1 v = some [[.nan], [.nan]] := by
  decide +kernel

/-- the finding F10: on a max measure the kernel (best = min) does not count the disparities close to
    the pixel's best (the maximum): unique maximum at index 2, specification 1 per eta, kernel 2 -/
theorem ambiguity_max_counterexample :
    let curve : Curve := [.num 0, .num 0, .num 4]
    pixelAmbiguity 0 4 [0, 1/4] curve = 4 ∧ Spec.ambCount true 0 4 [0, 1/4] curve = 2
    ∧ Spec.ambCount false 0 4 [0, 1/4] curve = 4 := by
  decide +kernel

end Pandora.C12
