/-
  C09 pipeline composition — the common predicate `BoundedValid` (and `OneFlag`) over the common map
  representation `Interp.DMap`, with their decidable forms; the one way a step keeps constant bounds
  (`BoundedValid.of_bdd`); the adapters between index functions and nested lists.
-/
import PandoraModel.Model.PipelineBound
import PandoraModel.Lemmas.Grid
import PandoraModel.Lemmas.InterpBdd
import PandoraModel.Lemmas.InterpFlags
import Mathlib.Algebra.Order.Field.Rat

namespace Pandora.C09P
open Pandora.Pipeline

def BoundedBy (lo hi : Nat → Nat → Rat) (m : DMap) : Prop :=
  ∀ r c, r < m.rows → c < m.cols → Flags.isInvalid (m.flag r c) = false →
    ∃ q, m.disp r c = .num q ∧ lo r c ≤ q ∧ q ≤ hi r c

def BoundedValid (lo hi : Rat) (m : DMap) : Prop := BoundedBy (fun _ _ => lo) (fun _ _ => hi) m

/-- no flag word carries both bit 8 (occlusion) and bit 9 (mismatch) -/
def OneFlag (m : DMap) : Prop :=
  ∀ r c, r < m.rows → c < m.cols → (m.flag r c).testBit 8 = true → (m.flag r c).testBit 9 = false

/-- C14's `valid` (`… == 0`) and the `isInvalid` of the flag word (`… != 0`) are each other's negation -/
theorem valid_iff {m : DMap} {r c : Nat} : m.valid r c = true ↔ Flags.isInvalid (m.flag r c) = false := by
  rw [show m.valid r c = !Flags.isInvalid (m.flag r c) from (Bool.not_not _).symm, Bool.not_eq_true']

theorem BoundedBy.mono {lo hi lo' hi' : Nat → Nat → Rat} {m : DMap} (h : BoundedBy lo hi m)
    (hlo : ∀ r c, r < m.rows → c < m.cols → lo' r c ≤ lo r c) (hhi : ∀ r c, r < m.rows → c < m.cols → hi r c ≤ hi' r c) :
    BoundedBy lo' hi' m := by
  intro r c hr hc hv
  obtain ⟨q, hq, h1, h2⟩ := h r c hr hc hv
  exact ⟨q, hq, le_trans (hlo r c hr hc) h1, le_trans h2 (hhi r c hr hc)⟩

/-- **The one way a step keeps constant bounds**: every valid pixel of the map it leaves carries a number lying
    between the disparities of two valid pixels of the map it received (its own, when the step only writes flags;
    those of its window or of its sources, when the step computes a median or a mean). -/
theorem BoundedValid.of_bdd {lo hi : Rat} {m m' : DMap} (h : BoundedValid lo hi m)
    (hstep : ∀ r c, r < m'.rows → c < m'.cols → Flags.isInvalid (m'.flag r c) = false →
      ∃ q, m'.disp r c = .num q ∧ C14.Bdd m q) : BoundedValid lo hi m' := by
  intro r c hr hc hv
  obtain ⟨q, hq, ⟨r₁, c₁, v₁, hr₁, hc₁, hv₁, hd₁, hle₁⟩, ⟨r₂, c₂, v₂, hr₂, hc₂, hv₂, hd₂, hle₂⟩⟩ := hstep r c hr hc hv
  obtain ⟨x₁, hx₁, hlo, -⟩ := h r₁ c₁ hr₁ hc₁ (valid_iff.1 hv₁)
  obtain ⟨x₂, hx₂, -, hhi⟩ := h r₂ c₂ hr₂ hc₂ (valid_iff.1 hv₂)
  rw [hd₁] at hx₁
  rw [hd₂] at hx₂
  cases hx₁
  cases hx₂
  exact ⟨q, hq, le_trans hlo hle₁, le_trans hle₂ hhi⟩

theorem bdd_self {m : DMap} {r c : Nat} {q : Rat} (hr : r < m.rows) (hc : c < m.cols)
    (hv : Flags.isInvalid (m.flag r c) = false) (hd : m.disp r c = .num q) : C14.Bdd m q :=
  C14.Bdd.self hr hc (valid_iff.2 hv) hd

theorem numIn_iff (d : Val) (lo hi : Rat) :
    (match d with | .num q => decide (lo ≤ q) && decide (q ≤ hi) | .nan => false) = true
      ↔ ∃ q, d = .num q ∧ lo ≤ q ∧ q ≤ hi := by
  cases d with
  | nan => exact ⟨fun h => (nomatch h), fun ⟨_, h, _⟩ => (nomatch h)⟩
  | num q =>
    rw [Bool.and_eq_true, decide_eq_true_eq, decide_eq_true_eq]
    exact ⟨fun h => ⟨q, rfl, h⟩, fun ⟨_, hq, h⟩ => Val.num.inj hq ▸ h⟩

theorem boundedByB_iff (lo hi : Nat → Nat → Rat) (m : DMap) : boundedByB lo hi m = true ↔ BoundedBy lo hi m := by
  unfold boundedByB BoundedBy
  rw [C14.allPx_iff]
  refine forall_congr' fun r => forall_congr' fun c => forall_congr' fun _ => forall_congr' fun _ => ?_
  rw [Bool.or_eq_true, Bool.not_eq_true', ← Bool.not_eq_true, valid_iff, imp_iff_not_or]
  exact or_congr_right (numIn_iff _ _ _)

theorem boundedValidB_iff (lo hi : Rat) (m : DMap) : boundedValidB lo hi m = true ↔ BoundedValid lo hi m :=
  boundedByB_iff _ _ m

theorem oneFlag_iff (m : DMap) : Interp.oneFlag m = true ↔ OneFlag m := by
  unfold Interp.oneFlag OneFlag
  rw [C14.allPx_iff]
  refine forall_congr' fun r => forall_congr' fun c => forall_congr' fun _ => forall_congr' fun _ => ?_
  rw [FlagWord.hasBit_occlusion, FlagWord.hasBit_mismatch]
  cases (m.flag r c).testBit 8 <;> cases (m.flag r c).testBit 9 <;> decide

/-- the executable specifications return lists of failure names built from such pieces -/
theorem ite_nil_iff {α : Type} {b : Bool} {l : List α} (hl : l ≠ []) : (if b then [] else l) = [] ↔ b = true := by
  cases b
  · exact ⟨fun h => absurd h hl, fun h => nomatch h⟩
  · exact ⟨fun _ => rfl, fun _ => rfl⟩

theorem ite_ne_nil {α : Type} {c : Prop} [Decidable c] {l₁ l₂ : List α} (h₁ : l₁ ≠ []) (h₂ : l₂ ≠ []) :
    (if c then l₁ else l₂) ≠ [] := by
  split <;> assumption

theorem cellD_of_getElem? {β : Type} {g : List (List β)} {d : β} {r c : Nat} {row : List β} {y : β}
    (hrow : g[r]? = some row) (hy : row[c]? = some y) : cellD g d r c = y := by
  rw [cellD, List.getD_eq_getElem?_getD, List.getD_eq_getElem?_getD, hrow, Option.getD_some, hy, Option.getD_some]

theorem cellD_tabulate {β : Type} (rows cols : Nat) (g : Nat → Nat → β) (d : β) (r c : Nat) (hr : r < rows) (hc : c < cols) :
    cellD (Blocks.tabulate rows cols g) d r c = g r c :=
  (Blocks.getD_tabulate rows cols g d r c).trans (if_pos ⟨hr, hc⟩)

end Pandora.C09P
