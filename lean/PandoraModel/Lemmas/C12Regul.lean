/-
  C12 — regularisation with quantile 1 can only widen the intervals.
  Every segment is connected to itself in the graph built by `create_connected_graph`, so the values
  gathered for a segment contain the segment's own pixels; with quantile 1 the regularised lower bound is
  the `nanmin` (quantile 0) and the upper bound the `nanmax` (quantile 1) of the gathered values.
-/
import PandoraModel.Lemmas.C12Lists

namespace Pandora.C12
open Pandora.Confidence

/-- the cell `(r, c)` of a grid, `none` outside it (the model's `cell` reads NaN there) -/
def cell? (g : Grid Val) (r c : Nat) : Option Val := (g[r]?).bind (fun row => row[c]?)

theorem cell?_eq_some_iff {g : Grid Val} {r c : Nat} {v : Val} :
    cell? g r c = some v ↔ ∃ row, g[r]? = some row ∧ row[c]? = some v := by
  rw [cell?, Option.bind_eq_some_iff]

theorem cell?_tabulate (n m : Nat) (f : Nat → Nat → Val) (r c : Nat) :
    cell? (Blocks.tabulate n m f) r c = if r < n ∧ c < m then some (f r c) else none := by
  rw [cell?, Blocks.getElem?_tabulate]
  by_cases hr : r < n <;> by_cases hc : c < m <;> simp [hr, hc]

theorem cell?_setRange (g : Grid Val) (r0 c0 c1 : Nat) (x : Val) (r c : Nat) :
    cell? (setRange g r0 c0 c1 x) r c
      = (cell? g r c).map (fun v => if r = r0 ∧ c0 ≤ c ∧ c ≤ c1 then x else v) := by
  unfold cell? setRange
  rw [List.getElem?_mapIdx]
  cases hg : g[r]? with
  | none => rfl
  | some row =>
    simp only [Option.map_some, Option.bind_some]
    by_cases hr : r = r0
    · subst hr
      simp only [if_true, List.getElem?_mapIdx, true_and]
    · simp only [hr, if_false, false_and]
      cases row[c]? <;> rfl

theorem mem_rowSlice {g : Grid Val} {r c c0 c1 : Nat} {v : Val} (h : cell? g r c = some v)
    (h0 : c0 ≤ c) (h1 : c ≤ c1) : v ∈ rowSlice g r c0 c1 := by
  unfold cell? at h
  cases hg : g[r]? with
  | none => rw [hg] at h; cases h
  | some row =>
    rw [hg] at h
    simp only [Option.bind_some] at h
    unfold rowSlice
    have hrow : g.getD r [] = row := by simp [List.getD_eq_getElem?_getD, hg]
    rw [hrow, List.mem_iff_getElem?]
    refine ⟨c - c0, ?_⟩
    rw [List.getElem?_drop, List.getElem?_take]
    have : c0 + (c - c0) = c := by omega
    rw [this]
    simp [Nat.lt_succ_of_le h1, h]

theorem nanQuantile_zero (l : List Val) :
    nanQuantile l 0 = valOfOpt (lmin (numsOf l)) := by
  unfold nanQuantile
  cases hx : numsOf l with
  | nil => rfl
  | cons x xs =>
    cases xs with
    | nil => rfl
    | cons y ys => simp

theorem nanQuantile_one (l : List Val) :
    nanQuantile l 1 = valOfOpt (lmax (numsOf l)) := by
  unfold nanQuantile
  cases hx : numsOf l with
  | nil => rfl
  | cons x xs =>
    cases xs with
    | nil => rfl
    | cons y ys => simp

theorem nanQuantile_zero_le (l : List Val) (a : Rat) (h : Val.num a ∈ l) :
    ∃ m, nanQuantile l 0 = Val.num m ∧ m ≤ a := by
  rw [nanQuantile_zero]
  have hmem : a ∈ numsOf l := (mem_numsOf l a).2 h
  cases hm : lmin (numsOf l) with
  | none => rw [(lmin_eq_none _).1 hm] at hmem; cases hmem
  | some m => exact ⟨m, rfl, (lmin_spec _ _ hm).2 a hmem⟩

theorem le_nanQuantile_one (l : List Val) (a : Rat) (h : Val.num a ∈ l) :
    ∃ m, nanQuantile l 1 = Val.num m ∧ a ≤ m := by
  rw [nanQuantile_one]
  have hmem : a ∈ numsOf l := (mem_numsOf l a).2 h
  cases hm : lmax (numsOf l) with
  | none => rw [(lmax_eq_none _).1 hm] at hmem; cases hmem
  | some m => exact ⟨m, rfl, (lmax_spec _ _ hm).2 a hmem⟩

/-- the pixel `(r, c)` lies in the segment `s` (`border_left[i, 0] = r`, `border_left[i, 1] ≤ c ≤ border_right[i, 1]`) -/
abbrev Covers (s : Pos × Pos) (r c : Nat) : Prop := r = s.1.1 ∧ s.1.2 ≤ c ∧ c ≤ s.2.2

/-- **what a pixel holds after the sequential writes** `inf[segment of sg] = vi sg`, `sup[segment of sg] = vs sg`, `sg ∈ todo`:
    its old pair of cells if no segment covers it, otherwise the pair written for one covering segment (the last).
    The result of the fold is a variable `out` with its defining equation, so that the fold is written once; apply with `_ rfl` -/
theorem foldl_setRange_cell (vi vs : (Pos × Pos) × List Bool → Val) (todo : List ((Pos × Pos) × List Bool))
    (acc : Grid Val × Grid Val) (r c : Nat) :
    ∀ out, out = todo.foldl (fun (acc : Grid Val × Grid Val) sg =>
      (setRange acc.1 sg.1.1.1 sg.1.1.2 sg.1.2.2 (vi sg), setRange acc.2 sg.1.1.1 sg.1.1.2 sg.1.2.2 (vs sg))) acc →
    ((∀ sg ∈ todo, ¬ Covers sg.1 r c) ∧ cell? out.1 r c = cell? acc.1 r c ∧ cell? out.2 r c = cell? acc.2 r c)
    ∨ ∃ sg ∈ todo, Covers sg.1 r c ∧ cell? out.1 r c = (cell? acc.1 r c).map (fun _ => vi sg)
        ∧ cell? out.2 r c = (cell? acc.2 r c).map (fun _ => vs sg) := by
  induction todo generalizing acc with
  | nil => rintro _ rfl; exact Or.inl ⟨fun _ h => (nomatch h), rfl, rfl⟩
  | cons sg rest ih =>
    intro out hout
    -- a later covering segment overwrites; otherwise the head decides
    rcases ih _ out hout with
      ⟨hno, h1, h2⟩ | ⟨sg', hmem, hcov, h1, h2⟩
    · rw [cell?_setRange] at h1 h2
      by_cases hin : Covers sg.1 r c
      · simp only [if_pos hin] at h1 h2
        exact Or.inr ⟨sg, List.mem_cons_self, hin, h1, h2⟩
      · simp only [if_neg hin, Option.map_id'] at h1 h2
        exact Or.inl ⟨fun s hs => (List.mem_cons.1 hs).elim (fun e => e ▸ hin) (hno s), h1, h2⟩
    · rw [cell?_setRange, Option.map_map] at h1 h2
      exact Or.inr ⟨sg', List.mem_cons_of_mem _ hmem, hcov, h1, h2⟩

/-- `graph_regularization`, pixel by pixel, for every quantile: a pixel outside every segment keeps both bounds; a pixel
    inside gets, for one segment `sg` covering it, the quantiles `1 − q` and `q` of the values gathered for `sg` -/
theorem graphRegularization_cell (inf sup : Grid Val) (segs : List (Pos × Pos)) (graph : List (List Bool)) (q : Rat)
    (r c : Nat) :
    ((∀ sg ∈ segs.zip graph, ¬ Covers sg.1 r c) ∧ cell? (graphRegularization inf sup segs graph q).1 r c = cell? inf r c
      ∧ cell? (graphRegularization inf sup segs graph q).2 r c = cell? sup r c)
    ∨ ∃ sg ∈ segs.zip graph, Covers sg.1 r c
        ∧ cell? (graphRegularization inf sup segs graph q).1 r c
            = (cell? inf r c).map (fun _ => nanQuantile (aggValues inf segs sg.2) (1 - q))
        ∧ cell? (graphRegularization inf sup segs graph q).2 r c
            = (cell? sup r c).map (fun _ => nanQuantile (aggValues sup segs sg.2) q) :=
  foldl_setRange_cell (fun sg => nanQuantile (aggValues inf segs sg.2) (1 - q))
    (fun sg => nanQuantile (aggValues sup segs sg.2) q) (segs.zip graph) (inf, sup) r c _ rfl

/-- the values gathered for the segment `sg.1` through its graph row `sg.2` contain the segment's own pixels -/
def SelfConnected (g : Grid Val) (segs : List (Pos × Pos)) (sg : (Pos × Pos) × List Bool) : Prop :=
  ∀ v, v ∈ rowSlice g sg.1.1.1 sg.1.1.2 sg.1.2.2 → v ∈ aggValues g segs sg.2

theorem connectedGraph_shape (segs : List (Pos × Pos)) (depth : Nat) :
    ∃ F : Nat → Nat → Bool, (∀ i, F i i = true) ∧
      connectedGraph segs depth = (List.range segs.length).map (fun i => (List.range segs.length).map (F i)) := by
  unfold connectedGraph
  by_cases hd : depth = 0
  · exact ⟨fun i k => decide (i = k), by simp, by simp [hd]⟩
  · refine ⟨fun i k => if k = i then true
        else (iterate (closureStep (connectionGraph segs)) (depth - 1) ((connectionGraph segs).getD i [])).getD k false,
      by simp, by simp [hd]⟩

theorem selfConnected_of_shape (g : Grid Val) (segs : List (Pos × Pos)) (F : Nat → Nat → Bool) (hF : ∀ i, F i i = true) :
    ∀ sg ∈ segs.zip ((List.range segs.length).map (fun i => (List.range segs.length).map (F i))),
      SelfConnected g segs sg := by
  intro sg hsg
  obtain ⟨i, hi, hget⟩ := List.getElem_of_mem hsg
  have hi' : i < segs.length := by
    simp only [List.length_zip, List.length_map, List.length_range, Nat.min_self] at hi; exact hi
  rw [List.getElem_zip] at hget
  subst hget
  intro v hv
  unfold aggValues
  rw [List.mem_flatMap]
  refine ⟨(segs[i], true), ?_, by simpa using hv⟩
  rw [List.mem_iff_getElem]
  refine ⟨i, by simp [hi'], ?_⟩
  rw [List.getElem_zip]
  simp [hF i]

/-- **quantile1_widens** on the model of `graph_regularization`, for any graph in which every segment is connected to
    itself: every finite lower bound stays finite and does not increase, every finite upper bound stays finite and
    does not decrease -/
theorem graphRegularization_widens (inf sup : Grid Val) (segs : List (Pos × Pos)) (graph : List (List Bool))
    (hinf : ∀ sg ∈ segs.zip graph, SelfConnected inf segs sg) (hsup : ∀ sg ∈ segs.zip graph, SelfConnected sup segs sg) :
    (∀ r c a, cell? inf r c = some (Val.num a) →
      ∃ a', cell? (graphRegularization inf sup segs graph 1).1 r c = some (Val.num a') ∧ a' ≤ a)
    ∧ (∀ r c a, cell? sup r c = some (Val.num a) →
      ∃ a', cell? (graphRegularization inf sup segs graph 1).2 r c = some (Val.num a') ∧ a ≤ a') := by
  constructor <;> intro r c a ha <;>
    rcases graphRegularization_cell inf sup segs graph 1 r c with ⟨_, h1, h2⟩ | ⟨sg, hsg, ⟨hr, h0, hc1⟩, h1, h2⟩
  · exact ⟨a, h1.trans ha, le_refl _⟩
  · obtain ⟨m, hq, hm⟩ := nanQuantile_zero_le _ a (hinf sg hsg _ (mem_rowSlice (hr ▸ ha) h0 hc1))
    exact ⟨m, by rw [h1, ha, sub_self, hq]; rfl, hm⟩
  · exact ⟨a, h2.trans ha, le_refl _⟩
  · obtain ⟨m, hq, hm⟩ := le_nanQuantile_one _ a (hsup sg hsg _ (mem_rowSlice (hr ▸ ha) h0 hc1))
    exact ⟨m, by rw [h2, ha, hq]; rfl, hm⟩

/-- … in particular for `interval_regularization` as a whole (any ambiguity map, threshold, kernel, depth):
    `create_connected_graph` sets the diagonal -/
theorem intervalRegularization_widens (inf sup amb : Grid Val) (thr : Rat) (k depth : Nat) :
    (∀ r c a, cell? inf r c = some (Val.num a) →
      ∃ a', cell? (intervalRegularization inf sup amb thr k depth 1).1 r c = some (Val.num a') ∧ a' ≤ a)
    ∧ (∀ r c a, cell? sup r c = some (Val.num a) →
      ∃ a', cell? (intervalRegularization inf sup amb thr k depth 1).2 r c = some (Val.num a') ∧ a ≤ a') := by
  obtain ⟨F, hF, hshape⟩ := connectedGraph_shape ((borders thr k amb).1.zip (borders thr k amb).2) depth
  have h := graphRegularization_widens inf sup ((borders thr k amb).1.zip (borders thr k amb).2) _
    (selfConnected_of_shape inf _ F hF) (selfConnected_of_shape sup _ F hF)
  rw [← hshape] at h
  exact h

end Pandora.C12
