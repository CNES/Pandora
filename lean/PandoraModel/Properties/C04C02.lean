/-
  C04 ∘ C02 — the NaN pattern the criteria model of C04 *assumes* of the cost volume (`Criteria.computable`,
  an own declarative definition that Properties/C04.lean only compares with the real cost volume by sampling)
  is a *theorem* about the matching-cost model of C02 (`MC.costVolume`, which follows the code of
  `compute_cost_volume` and `cv_masked`), for every measure, window and sub-pixel factor.

  Hypotheses (all explicit): `MC.Shape x` — odd window, `subpix > 0`, the two images of the same size, at least one
  column — and `gridMin ≤ gridMax` (implied by the decidable `MC.wfShape`: `*_of_wf` corollaries).  Not needed:
  `noTinyVariance` (zncc), census window ∈ {3, 5}, any bound on the interval (`inDomain`), `valid_pixels ≠ no_data_mask`.
-/
import PandoraModel.Model.PipelineRun
import PandoraModel.Properties.C04
import PandoraModel.Properties.C02

namespace Pandora.C04C02

theorem clsOf_nodata_iff (m : MC.Mask) (r c : Nat) : clsOf m r c = .nodata ↔ m.code (r : Int) (c : Int) = m.nodata := by
  unfold clsOf
  by_cases h1 : m.code (r : Int) (c : Int) = m.nodata
  · simp [h1]
  · by_cases h2 : m.code (r : Int) (c : Int) = m.valid <;> simp [h1, h2]

theorem isInvalid_eq_clsOf (m : MC.Mask) (hp : m.present = true) (r c : Nat) :
    MC.isInvalid m (r : Int) (c : Int) = (clsOf m r c == .invalid) := by
  unfold MC.isInvalid clsOf
  split_ifs <;> simp [*]

/-- the dilated nodata mask of `criteria.py` (loop over the window, cells outside the image skipped) is the
    "some nodata in the window" of the matching-cost specification, for a window inside the image -/
theorem winAll_eq_not_dilated (m : MC.Mask) (hp : m.present = true) (rows cols o r c : Nat)
    (hin : o ≤ r ∧ r + o < rows ∧ o ≤ c ∧ c + o < cols) :
    MC.winAll o (fun a b => ! MC.isNodata m a b) (r : Int) (c : Int) = ! Criteria.dilated rows cols o (clsOf m) r c := by
  obtain ⟨h1, h2, h3, h4⟩ := hin
  rw [Bool.eq_iff_iff, MC.winAll_iff]
  simp only [Bool.not_eq_true', ← Bool.not_eq_true, C04.dilated_iff, C04.NodataNear]
  constructor
  · rintro H ⟨r', c', a1, a2, a3, a4, a5, a6, hm⟩
    have := H (r' : Int) (c' : Int) (by omega) (by push_cast; omega) (by omega) (by push_cast; omega)
    simp [MC.isNodata, hp, (clsOf_nodata_iff m r' c').mp hm] at this
  · intro H a b b1 b2 b3 b4
    push_cast at b2 b4
    by_contra hne
    apply H
    have hcode : m.code a b = m.nodata := by simpa [MC.isNodata, hp] using hne
    refine ⟨a.toNat, b.toNat, by omega, by omega, by omega, by omega, by omega, by omega, ?_⟩
    rw [clsOf_nodata_iff]
    have ea : ((a.toNat : Nat) : Int) = a := by omega
    have eb : ((b.toNat : Nat) : Int) = b := by omega
    rw [ea, eb]; exact hcode

/-- "no nodata in the window and the centre not masked" — the two models agree on a window inside the image -/
theorem maskOk_eq (m : MC.Mask) (rows cols o r c : Nat) (hin : o ≤ r ∧ r + o < rows ∧ o ≤ c ∧ c + o < cols) :
    MC.maskOk o m (r : Int) (c : Int)
      = !(m.present && (Criteria.dilated rows cols o (clsOf m) r c || clsOf m r c == .invalid)) := by
  unfold MC.maskOk
  by_cases hp : m.present = true
  · rw [winAll_eq_not_dilated m hp rows cols o r c hin, isInvalid_eq_clsOf m hp r c, hp]
    cases Criteria.dilated rows cols o (clsOf m) r c <;> cases (clsOf m r c == Criteria.Cls.invalid) <;> rfl
  · have hp' : m.present = false := by simpa using hp
    simp [hp', MC.winAll_noNodata_of_absent o m hp' r c, MC.isInvalid]

/-- a usable right position: the criteria model's `rightOk` is "window inside the image and mask fine" -/
theorem rightOk_eq (x : MC.Input) (r : Nat) (hr : MC.half x.w ≤ r ∧ r + MC.half x.w < x.L.rows) (p : Int) :
    Criteria.rightOk (toCv x) r p
      = (decide ((MC.half x.w : Int) ≤ p ∧ p + (MC.half x.w : Nat) < x.L.cols) && MC.maskOk (MC.half x.w) x.mR (r : Int) p) := by
  unfold Criteria.rightOk Criteria.rDilAt Criteria.rInvAt
  simp only [toCv]
  by_cases hin : ((MC.half x.w : Nat) : Int) ≤ p ∧ p + (MC.half x.w : Nat) < x.L.cols
  · have e : ((p.toNat : Nat) : Int) = p := by omega
    have hm := maskOk_eq x.mR x.L.rows x.L.cols (MC.half x.w) r p.toNat ⟨hr.1, hr.2, by omega, by omega⟩
    rw [e] at hm
    rw [hm]
    have h1 : ((MC.half x.w : Nat) : Int) ≤ p ∧ p + (MC.half x.w : Nat) ≤ (x.L.cols : Int) - 1 := by omega
    simp [hin, h1]
  · have h1 : ¬ (((MC.half x.w : Nat) : Int) ≤ p ∧ p + (MC.half x.w : Nat) ≤ (x.L.cols : Int) - 1) := by omega
    simp [hin, h1]

/-- the right-hand tests of the two predicates agree: the position `p` (and `p + 1` for a fractional disparity) usable
    in the criteria model ⇔ `RightInside`-style bounds and the mask tests of the matching-cost model -/
theorem rightPair_iff (x : MC.Input) (r : Nat) (hr : MC.half x.w ≤ r ∧ r + MC.half x.w < x.L.rows) (p : Int) (z : Prop)
    [Decidable z] :
    (if z then Criteria.rightOk (toCv x) r p else Criteria.rightOk (toCv x) r p && Criteria.rightOk (toCv x) r (p + 1)) = true ↔
      ((MC.half x.w : Int) ≤ p ∧ p + (MC.half x.w : Nat) + (if z then 0 else 1) < x.L.cols)
        ∧ MC.maskOk (MC.half x.w) x.mR r p = true
        ∧ (decide ((if z then (0 : Int) else 1) = 0) || MC.maskOk (MC.half x.w) x.mR r (p + 1)) = true := by
  simp only [rightOk_eq x r hr]
  generalize MC.maskOk (MC.half x.w) x.mR r p = b
  generalize MC.maskOk (MC.half x.w) x.mR r (p + 1) = b1
  by_cases hz : z <;> cases b <;> cases b1 <;> simp [hz] <;> omega
theorem sample_div (g : Int) (sp j : Nat) (hs : 0 < sp) :
    (g * (sp : Int) + (j : Int)) / (sp : Int) = g + ((j / sp : Nat) : Int) := by
  rw [MC.add_mul_ediv _ _ sp hs]
  norm_cast

theorem sample_mod (g : Int) (sp j : Nat) : (g * (sp : Int) + (j : Int)) % (sp : Int) = ((j % sp : Nat) : Int) := by
  rw [Int.add_comm, Int.add_mul_emod_self_right]
  norm_cast

theorem sample_fracBit (g : Int) (sp j : Nat) :
    MC.fracBit (g * (sp : Int) + (j : Int)) sp = if j % sp = 0 then 0 else 1 := by
  unfold MC.fracBit
  rw [sample_mod]
  by_cases h : j % sp = 0
  · rw [if_pos h, if_pos (by omega)]
  · rw [if_neg h, if_neg (by omega)]

/-- the two models sample the same disparities: `dmin, dmin + 1/subpix, …, dmax` -/
theorem nDisp_eq (x : MC.Input) (hs : 0 < x.sp)
    (hg : MC.gridMin x.dminG x.L.rows x.L.cols ≤ MC.gridMax x.dmaxG x.L.rows x.L.cols) :
    Criteria.nDisp (toCv x) = MC.nDisp (MC.gridMin x.dminG x.L.rows x.L.cols) (MC.gridMax x.dmaxG x.L.rows x.L.cols) x.sp := by
  rw [MC.nDisp_eq _ _ _ hs hg]
  unfold Criteria.nDisp
  simp only [toCv]
  obtain ⟨d, hd⟩ : ∃ d : Nat, MC.gridMax x.dmaxG x.L.rows x.L.cols - MC.gridMin x.dminG x.L.rows x.L.cols = (d : Int) :=
    ⟨_, (Int.toNat_of_nonneg (by omega)).symm⟩
  rw [hd, ← Int.natCast_mul, Int.toNat_natCast, Int.toNat_natCast]

/-- **`computable` of C04 is `cause = computable` of C02**, sample by sample: same windows, same mask tests,
    both interpolation neighbours for a fractional disparity, same per-pixel interval test -/
theorem computable_iff_cause (x : MC.Input) (h : MC.Shape x) (r c j : Nat) :
    Criteria.computable (toCv x) r c j = true ↔
      MC.cause x (r : Int) (c : Int) (MC.gridMin x.dminG x.L.rows x.L.cols * (x.sp : Int) + (j : Int)) = .computable := by
  rw [MC.cause_computable_iff]
  unfold Criteria.computable Criteria.winInside MC.LeftInside MC.RightInside MC.maskOkR
  rw [sample_div _ x.sp j h.sp_pos, sample_fracBit, h.cols_eq, Int.add_assoc (c : Int) (toCv x).dmin]
  simp only [Bool.and_eq_true, decide_eq_true_eq]
  by_cases hL : MC.half x.w ≤ r ∧ r + MC.half x.w < x.L.rows ∧ MC.half x.w ≤ c ∧ c + MC.half x.w < x.L.cols
  · simp only [show (toCv x).subpix = x.sp from rfl, rightPair_iff x r ⟨hL.1, hL.2.1⟩]
    simp only [toCv, ← maskOk_eq x.mL x.L.rows x.L.cols (MC.half x.w) r c hL]
    constructor
    · rintro ⟨⟨⟨_, hb⟩, hr⟩, hi⟩
      exact ⟨by omega, by omega, hr.1, hb, hr.2⟩
    · rintro ⟨ho, _, hri, hb, hm⟩
      exact ⟨⟨⟨hL, hb⟩, hri, hm⟩, by omega⟩
  · have hLz : ¬ ((MC.half x.w : Int) ≤ r ∧ (r : Int) + MC.half x.w < x.L.rows ∧ (MC.half x.w : Int) ≤ c
        ∧ (c : Int) + MC.half x.w < x.L.cols) := by omega
    simp only [toCv, hL, hLz, false_and, and_false]

/-- **every measure, every window, every subpix**: the cell of pixel `(r, c)` at sample `j` (disparity
    `gridMin + j/subpix`) of the model's cost volume is NaN exactly when C04's `computable` is false -/
theorem nan_iff_not_computable (x : MC.Input) (h : MC.Shape x)
    (hg : MC.gridMin x.dminG x.L.rows x.L.cols ≤ MC.gridMax x.dmaxG x.L.rows x.L.cols) (r c j : Nat)
    (hj : j < MC.nDisp (MC.gridMin x.dminG x.L.rows x.L.cols) (MC.gridMax x.dmaxG x.L.rows x.L.cols) x.sp) :
    (MC.costVolume x (r : Int) (c : Int) j).isNan = ! Criteria.computable (toCv x) r c j := by
  have h1 := C02.nan_iff_not_computable x h (C02.codeValue x) (C02.rawOK_code x h) (C02.codeValue_isNan x) hg (r : Int) (c : Int) j hj
  have h2 := computable_iff_cause x h r c j
  rw [Bool.eq_iff_iff, h1, Bool.not_eq_true', ← Bool.not_eq_true, h2]

theorem nan_iff_not_computable_of_wf (x : MC.Input) (hwf : MC.wfShape x = true) (r c j : Nat)
    (hj : j < MC.nDisp (MC.gridMin x.dminG x.L.rows x.L.cols) (MC.gridMax x.dmaxG x.L.rows x.L.cols) x.sp) :
    (MC.costVolume x (r : Int) (c : Int) j).isNan = ! Criteria.computable (toCv x) r c j :=
  nan_iff_not_computable x (C02.shape_of_wf x hwf) (C02.gridOK_of_wf x hwf) r c j hj

theorem mcAllNan_iff (x : MC.Input) (r c : Nat) :
    mcAllNan x r c = true ↔
      ∀ j, j < MC.nDisp (MC.gridMin x.dminG x.L.rows x.L.cols) (MC.gridMax x.dmaxG x.L.rows x.L.cols) x.sp →
        (MC.costVolume x (r : Int) (c : Int) j).isNan = true := by
  unfold mcAllNan
  simp only [List.all_eq_true, List.mem_range]

theorem mcAllNan_eq (x : MC.Input) (h : MC.Shape x)
    (hg : MC.gridMin x.dminG x.L.rows x.L.cols ≤ MC.gridMax x.dmaxG x.L.rows x.L.cols) (r c : Nat) :
    mcAllNan x r c = Criteria.allNanOf (toCv x) r c := by
  rw [Bool.eq_iff_iff, mcAllNan_iff]
  unfold Criteria.allNanOf
  simp only [List.all_eq_true, List.mem_range, nDisp_eq x h.sp_pos hg]
  constructor
  · intro H j hj
    rw [← nan_iff_not_computable x h hg r c j hj]; exact H j hj
  · intro H j hj
    rw [nan_iff_not_computable x h hg r c j hj]; exact H j hj

/-- the composition is the criteria model of C04 (whose theorems therefore hold of it) -/
theorem composedMask_eq (x : MC.Input) (h : MC.Shape x)
    (hg : MC.gridMin x.dminG x.L.rows x.L.cols ≤ MC.gridMax x.dmaxG x.L.rows x.L.cols) (r c : Nat) :
    composedMask x r c = Criteria.modelMask (toCv x) r c := by
  unfold composedMask Criteria.modelMask Criteria.finalMask
  rw [mcAllNan_eq x h hg r c]

/-- **flag word invalid ⇔ all costs of the pixel NaN**, for the matching-cost model composed with the criteria
    model: the mask `criteria.py` builds from the NaN pattern of the cost volume `compute_cost_volume` +
    `cv_masked` produce carries one of the bits 0, 1, 6, 7 exactly when every cost of the pixel is NaN -/
theorem invalid_iff_all_costs_nan (x : MC.Input) (h : MC.Shape x)
    (hg : MC.gridMin x.dminG x.L.rows x.L.cols ≤ MC.gridMax x.dmaxG x.L.rows x.L.cols) (r c : Nat)
    (hr : r < x.L.rows) (hc : c < x.L.cols) :
    Criteria.isInvalidPre (composedMask x r c) = true ↔
      ∀ j, j < MC.nDisp (MC.gridMin x.dminG x.L.rows x.L.cols) (MC.gridMax x.dmaxG x.L.rows x.L.cols) x.sp →
        (MC.costVolume x (r : Int) (c : Int) j).isNan = true := by
  rw [composedMask_eq x h hg r c, C04.invalidPre_eq_allNan (toCv x) r c hg hr hc, ← mcAllNan_eq x h hg r c, mcAllNan_iff]

theorem invalid_iff_all_costs_nan_of_wf (x : MC.Input) (hwf : MC.wfShape x = true) (r c : Nat)
    (hr : r < x.L.rows) (hc : c < x.L.cols) :
    Criteria.isInvalidPre (composedMask x r c) = true ↔
      ∀ j, j < MC.nDisp (MC.gridMin x.dminG x.L.rows x.L.cols) (MC.gridMax x.dmaxG x.L.rows x.L.cols) x.sp →
        (MC.costVolume x (r : Int) (c : Int) j).isNan = true :=
  invalid_iff_all_costs_nan x (C02.shape_of_wf x hwf) (C02.gridOK_of_wf x hwf) r c hr hc

/-- every "before validation" clause of C04 holds of the composition (mask and NaN pattern both computed by
    the models of the code) -/
theorem composed_spec (x : MC.Input) (h : MC.Shape x)
    (hg : MC.gridMin x.dminG x.L.rows x.L.cols ≤ MC.gridMax x.dmaxG x.L.rows x.L.cols) (invalid : Val) (r c : Nat)
    (hr : r < x.L.rows) (hc : c < x.L.cols) :
    Criteria.failingClauses (toCv x) invalid r c (composedMask x r c) (mcAllNan x r c) none = [] := by
  rw [composedMask_eq x h hg r c, mcAllNan_eq x h hg r c]
  exact C04.criteria_spec (toCv x) invalid r c hg hr hc

/-- … and with the disparity step: for any cost values whose NaN pattern is that of the model's cost volume
    (the symbolic zncc cells `cov/√vv` are numbers, whatever their value), the pixel carries an invalidating
    flag iff its disparity is `invalid_disparity` -/
theorem composed_spec_disp (x : MC.Input) (h : MC.Shape x)
    (hg : MC.gridMin x.dminG x.L.rows x.L.cols ≤ MC.gridMax x.dmaxG x.L.rows x.L.cols) (invalid : Val) (isMax : Bool)
    (r c : Nat) (hr : r < x.L.rows) (hc : c < x.L.cols) (costs : List Val)
    (hlen : costs.length = MC.nDisp (MC.gridMin x.dminG x.L.rows x.L.cols) (MC.gridMax x.dmaxG x.L.rows x.L.cols) x.sp)
    (hnan : ∀ j (hj : j < costs.length), (costs[j]).isNan = (MC.costVolume x (r : Int) (c : Int) j).isNan)
    (hinv : C04.InvalidNotSample (MC.gridMin x.dminG x.L.rows x.L.cols) x.sp costs.length invalid) :
    Criteria.failingClauses (toCv x) invalid r c (composedMask x r c) (mcAllNan x r c)
      (some (Criteria.toDisp isMax (MC.gridMin x.dminG x.L.rows x.L.cols) x.sp invalid costs)) = [] := by
  have hall : costs.all Val.isNan = mcAllNan x r c := by
    rw [Bool.eq_iff_iff, mcAllNan_iff, List.all_eq_true]
    constructor
    · intro H j hj
      rw [← hnan j (by omega)]
      exact H _ (List.getElem_mem _)
    · intro H v hv
      obtain ⟨j, hj, rfl⟩ := List.mem_iff_getElem.mp hv
      rw [hnan j hj]
      exact H j (by omega)
  rw [composedMask_eq x h hg r c, mcAllNan_eq x h hg r c]
  exact C04.criteria_spec_disp (toCv x) invalid isMax r c costs hg hr hc (by rw [hall, mcAllNan_eq x h hg r c]) hinv

section Examples
open C02.Example

example : MC.Shape (exIn .census) := C02.shape_of_wf _ (by decide)
example : MC.gridMin (exIn .sad).dminG 3 4 ≤ MC.gridMax (exIn .sad).dmaxG 3 4 := by decide
/-- pixel (1, 1): sample 2 (disparity 0) is computable; sample 4 (disparity 1: right centre masked), samples 1, 3
    (disparities ∓1/2: an interpolation neighbour is unusable) and sample 0 are not — in both models -/
example : (List.range 5).map (Criteria.computable (toCv (exIn .sad)) 1 1) = [false, false, true, false, false] := by decide
example : (List.range 5).map (fun j => (MC.costVolume (exIn .sad) 1 1 j).isNan) = [true, true, false, true, true] := by
  decide
/-- pixel (1, 2) is masked on the left: no sample is computable, every cost is NaN (zncc included) -/
example : (List.range 5).map (Criteria.computable (toCv (exIn .zncc)) 1 2) = [false, false, false, false, false] := by decide
example : (List.range 5).map (fun j => (MC.costVolume (exIn .zncc) 1 2 j).isNan) = [true, true, true, true, true] := by
  decide
/-- the composed mask of row 1: border, valid pixel with an incomplete range (4), masked pixel (64 + 4 + 2), border -/
theorem row1_mask : composedMask (exIn .sad) 1 0 = 1 ∧ composedMask (exIn .sad) 1 1 = 4 ∧
    composedMask (exIn .sad) 1 2 = 70 ∧ composedMask (exIn .sad) 1 3 = 1 := by decide

example : (List.range 4).map (composedMask (exIn .sad) 1) = [1, 4, 70, 1] := by
  rw [show List.range 4 = [0, 1, 2, 3] from rfl]
  simp only [List.map, row1_mask]
example : Criteria.isInvalidPre (composedMask (exIn .sad) 1 1) = false := by
  rw [row1_mask.2.1]
  decide
example : Criteria.isInvalidPre (composedMask (exIn .sad) 1 2) = true := by
  rw [row1_mask.2.2.1]
  decide

end Examples

end Pandora.C04C02
