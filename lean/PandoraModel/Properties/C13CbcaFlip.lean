/-
  C13 — vertical flip of cross-based cost aggregation.

  Array level: `flipInput inp` lists the rows of the images, of the masks and of the cost volume bottom-up.  The 3×3
  pre-filter commutes with the row flip (the window listed bottom-up is a permutation, the interior test is symmetric),
  the cross support of the flipped image at the flipped pixel has `top` and `bot` exchanged (`swapTB`), the facing column
  does not look at rows, the region is the region flipped row-wise: same cells, rows met in the other order
  (`sumRange_reverse`).  None of this is an instance of the crop transport of `C13Cbca.lean`, where a translation keeps
  directions and orders and every layer is a congruence; the two chains share what is direction-free:
  `armCoded_transport`, the sums over an additive monoid of `C11.lean`, `region_none`, `aggSpec_congr`.
  Step level, on EVERY partial image (no `RectDom` needed): the view of the flipped image is the view with negated row
  offsets, `vUp`/`vDn` are exchanged, the window of the negated view is the flipped window.
-/
import PandoraModel.Properties.C13CbcaStep
import PandoraModel.Properties.C13FlipFlags

namespace Pandora.C13
open Pandora.Locality

theorem cbca_nanmedian_eq (l : List Val) : Cbca.nanmedian l = Filter.nanmedian l := C11.nanmedian_eq l

theorem cbca_nanmedian_perm {l₁ l₂ : List Val} (h : List.Perm l₁ l₂) : Cbca.nanmedian l₁ = Cbca.nanmedian l₂ := by
  rw [cbca_nanmedian_eq, cbca_nanmedian_eq, nanmedian_perm h]

theorem perm_rows3 {α : Type} (a1 a2 a3 b1 b2 b3 c1 c2 c3 : α) :
    List.Perm [c1, c2, c3, b1, b2, b3, a1, a2, a3] [a1, a2, a3, b1, b2, b3, c1, c2, c3] := by
  have h : List.Perm ([c1, c2, c3] ++ ([b1, b2, b3] ++ [a1, a2, a3])) ([a1, a2, a3] ++ ([b1, b2, b3] ++ [c1, c2, c3])) := by
    refine (List.perm_append_comm).trans ?_
    rw [← List.append_assoc [a1, a2, a3]]
    exact List.Perm.append_right _ List.perm_append_comm
  simpa using h

/-- **`median3` commutes with the row flip**: `g'` is `g` listed bottom-up (on the `H` rows of the image) -/
theorem median3_flip (H W : Nat) (g g' : Cbca.Img) (hg : ∀ r c, r < H → g' r c = g (H - 1 - r) c) (y x : Nat)
    (hy : y < H) : Cbca.median3 H W g' y x = Cbca.median3 H W g (H - 1 - y) x := by
  unfold Cbca.median3
  rw [hg y x hy]
  by_cases c1 : 1 ≤ y ∧ y + 1 < H ∧ 1 ≤ x ∧ x + 1 < W
  · have c2 : 1 ≤ H - 1 - y ∧ H - 1 - y + 1 < H ∧ 1 ≤ x ∧ x + 1 < W := by omega
    rw [if_pos c1, if_pos c2]
    have hw : List.Perm (Cbca.window3 g' y x) (Cbca.window3 g (H - 1 - y) x) := by
      unfold Cbca.window3
      have e1 : H - 1 - (y - 1) = H - 1 - y + 1 := by omega
      have e2 : H - 1 - (y + 1) = H - 1 - y - 1 := by omega
      rw [hg (y - 1) _ (by omega), hg (y - 1) _ (by omega), hg (y - 1) _ (by omega),
        hg y _ hy, hg y _ hy, hg y _ hy,
        hg (y + 1) _ (by omega), hg (y + 1) _ (by omega), hg (y + 1) _ (by omega), e1, e2]
      exact perm_rows3 _ _ _ _ _ _ _ _ _
    rw [cbca_nanmedian_perm hw]
  · have c2 : ¬ (1 ≤ H - 1 - y ∧ H - 1 - y + 1 < H ∧ 1 ≤ x ∧ x + 1 < W) := by omega
    rw [if_neg c1, if_neg c2]

/-- the input listed bottom-up: rows of the two images, of the two masks and of the cost volume; same configuration -/
def flipInput (inp : Cbca.Input) : Cbca.Input :=
  { inp with
    imL := fun y x => inp.imL (inp.H - 1 - y) x
    mskL := fun y x => inp.mskL (inp.H - 1 - y) x
    imR := fun y x => inp.imR (inp.H - 1 - y) x
    mskR := fun y x => inp.mskR (inp.H - 1 - y) x
    cv := fun y x d => inp.cv (inp.H - 1 - y) x d }

/-- row `ya` of the aggregated area, counted from the bottom of the image, is row `h - 1 - ya` of the area -/
theorem flip_area_row (inp : Cbca.Input) {ya : Nat} (hya : ya < inp.h) :
    ya + inp.off < inp.H ∧ inp.H - 1 - (ya + inp.off) = inp.h - 1 - ya + inp.off ∧ inp.h - 1 - ya < inp.h := by
  unfold Cbca.Input.h at *
  omega

/-! The facing column does not look at rows (stated through `inp.disp`, `inp.wr`: the kernel is slow to see
    `((flipInput inp).plane dsp).d = (inp.plane dsp).d` by unfolding). -/

theorem flipInput_plane_d (inp : Cbca.Input) (dsp : Nat) : ((flipInput inp).plane dsp).d = (inp.plane dsp).d := by
  show inp.disp dsp = inp.disp dsp
  rfl

theorem flipInput_plane_Wr (inp : Cbca.Input) (dsp : Nat) : ((flipInput inp).plane dsp).Wr = (inp.plane dsp).Wr := by
  show inp.wr (Cbca.iRight inp.subpix (inp.disp dsp)) = inp.wr (Cbca.iRight inp.subpix (inp.disp dsp))
  rfl

theorem flipInput_plane_cv (inp : Cbca.Input) (dsp y x : Nat) (hy : y < inp.h) :
    ((flipInput inp).plane dsp).cv y x = (inp.plane dsp).cv (inp.h - 1 - y) x := by
  show inp.cv (inp.H - 1 - (y + inp.off)) (x + inp.off) dsp = inp.cv (inp.h - 1 - y + inp.off) (x + inp.off) dsp
  rw [(flip_area_row inp hy).2.1]

theorem filteredL_flip (inp : Cbca.Input) (y x : Nat) (hy : y < inp.H) :
    (flipInput inp).filteredL y x = inp.filteredL (inp.H - 1 - y) x := by
  unfold Cbca.Input.filteredL
  refine median3_flip inp.H inp.W _ _ ?_ y x hy
  intro _ _ _; rfl

theorem filteredR_flip (inp : Cbca.Input) (k y x : Nat) (hy : y < inp.H) :
    (flipInput inp).filteredR k y x = inp.filteredR k (inp.H - 1 - y) x := by
  unfold Cbca.Input.filteredR
  by_cases hk : k = 0
  · rw [if_pos hk, if_pos hk]
    refine median3_flip inp.H inp.W _ _ ?_ y x hy
    intro _ _ _; rfl
  · rw [if_neg hk, if_neg hk]
    refine median3_flip inp.H (inp.W - 1) _ _ ?_ y x hy
    intro _ _ _; rfl

def swapTB (a : Cbca.Arms) : Cbca.Arms := ⟨a.left, a.right, a.bot, a.top⟩

/-- the rooms `y` and `h - 1 - y` are exchanged; an arm never reads beyond its room -/
theorem crossSupport_flip (mr : Cbca.MinRule) (h w dist : Nat) (I : Rat) (img img' : Cbca.Img)
    (hflip : ∀ y x, y < h → img' y x = img (h - 1 - y) x) (ya xa : Nat) (hya : ya < h) :
    Cbca.crossSupport mr h w dist I img' ya xa = swapTB (Cbca.crossSupport mr h w dist I img (h - 1 - ya) xa) := by
  unfold Cbca.crossSupport
  rw [hflip ya xa hya]
  split
  · unfold swapTB
    simp only
    congr 1
    · apply armCoded_transport mr I _ _ dist _ _ rfl
      intro j _
      exact hflip ya _ hya
    · apply armCoded_transport mr I _ _ dist _ _ rfl
      intro j _
      exact hflip ya _ hya
    · have e : h - 1 - (h - 1 - ya) = ya := by omega
      apply armCoded_transport mr I _ _ dist _ _ (by rw [e])
      intro j hj
      show img' (ya - j) xa = img (h - 1 - ya + j) xa
      rw [hflip (ya - j) xa (by omega)]
      congr 1; omega
    · apply armCoded_transport mr I _ _ dist _ _ rfl
      intro j hj
      show img' (ya + j) xa = img (h - 1 - ya - j) xa
      rw [hflip (ya + j) xa (by omega)]
      congr 1; omega
  · rfl

theorem crop_flip (inp : Cbca.Input) (f f' : Cbca.Img) (hf : ∀ y x, y < inp.H → f' y x = f (inp.H - 1 - y) x)
    (y x : Nat) (hy : y < inp.h) : Cbca.crop inp.off f' y x = Cbca.crop inp.off f (inp.h - 1 - y) x := by
  unfold Cbca.crop
  rw [hf (y + inp.off) _ (flip_area_row inp hy).1, (flip_area_row inp hy).2.1]

theorem crossL_flip (inp : Cbca.Input) (ya xa : Nat) (hya : ya < inp.h) :
    (flipInput inp).crossL ya xa = swapTB (inp.crossL (inp.h - 1 - ya) xa) :=
  crossSupport_flip inp.mr inp.h inp.w inp.dist inp.I _ _
    (fun y x hy => crop_flip inp _ _ (fun y x hy => filteredL_flip inp y x hy) y x hy) ya xa hya

theorem crossR_flip (inp : Cbca.Input) (k ya xa : Nat) (hya : ya < inp.h) :
    (flipInput inp).crossR k ya xa = swapTB (inp.crossR k (inp.h - 1 - ya) xa) :=
  crossSupport_flip inp.mr inp.h (inp.wr k) inp.dist inp.I _ _
    (fun y x hy => crop_flip inp _ _ (fun y x hy => filteredR_flip inp k y x hy) y x hy) ya xa hya

/-- row `i` of the region of the flipped pixel (vertical arm `B` up, `T` down) is row `B + T - i` of the region of the
    pixel (vertical arm `T` up, `B` down), read bottom-up -/
theorem flip_row_index {h ya T B i : Nat} (hya : ya < h) (hT : T ≤ h - 1 - ya) (hB : B ≤ ya) (hi : i < B + T + 1) :
    ya - B + i < h ∧ h - 1 - (ya - B + i) = h - 1 - ya - T + (B + T + 1 - 1 - i) := by omega

/-- the region sum and size of the flipped plane at the flipped pixel (planes abstract) -/
theorem region_flip (P P' : Cbca.Plane) (h : Nat) (hd : P'.d = P.d) (hWr : P'.Wr = P.Wr)
    (hL : ∀ y x, y < h → P'.armsL y x = swapTB (P.armsL (h - 1 - y) x))
    (hR : ∀ y x, y < h → P'.armsR y x = swapTB (P.armsR (h - 1 - y) x))
    (hcv : ∀ y x, y < h → P'.cv y x = P.cv (h - 1 - y) x)
    (ya xa : Nat) (hya : ya < h)
    (hin : (P.armsL (h - 1 - ya) xa).top ≤ h - 1 - ya ∧ h - 1 - ya + (P.armsL (h - 1 - ya) xa).bot < h) :
    Cbca.specSum P' ya xa = Cbca.specSum P (h - 1 - ya) xa ∧
    Cbca.specCount P' ya xa = Cbca.specCount P (h - 1 - ya) xa := by
  cases hrc : Cbca.rightCol P.d P.Wr xa with
  | none =>
    have r := region_none P (h - 1 - ya) xa hrc
    have r' := region_none P' ya xa (by rw [hd, hWr]; exact hrc)
    rw [r.1, r.2, r'.1, r'.2, hcv ya xa hya]
    exact ⟨rfl, rfl⟩
  | some xr =>
    have hrc' : Cbca.rightCol P'.d P'.Wr xa = some xr := by rw [hd, hWr]; exact hrc
    have hrow : ∀ y', y' < h → Cbca.hLeft P' xa y' = Cbca.hLeft P xa (h - 1 - y') ∧
        Cbca.hRight P' xa y' = Cbca.hRight P xa (h - 1 - y') := by
      intro y' hy'
      have e' := hLeftRight_of_rightCol P' xa xr y' hrc'
      have e := hLeftRight_of_rightCol P xa xr (h - 1 - y') hrc
      rw [e'.1, e'.2, e.1, e.2, hL y' xa hy', hR y' xr hy']
      exact ⟨rfl, rfl⟩
    have hcomb := Cbca.comb_of_rightCol P (h - 1 - ya) xa hrc
    have hcomb' := Cbca.comb_of_rightCol P' ya xa hrc'
    rw [hL ya xa hya, hR ya xr hya] at hcomb'
    simp only [swapTB] at hcomb'
    generalize hT : min (P.armsL (h - 1 - ya) xa).top (P.armsR (h - 1 - ya) xr).top = T at hcomb hcomb'
    generalize hB : min (P.armsL (h - 1 - ya) xa).bot (P.armsR (h - 1 - ya) xr).bot = B at hcomb hcomb'
    have hTy : T ≤ h - 1 - ya := by omega
    have hBy : B ≤ ya := by omega
    have hidx : ∀ i, i < B + T + 1 → ya - B + i < h ∧ h - 1 - (ya - B + i) = h - 1 - ya - T + (B + T + 1 - 1 - i) :=
      fun i hi' => flip_row_index hya hTy hBy hi'
    constructor
    · unfold Cbca.specSum Cbca.regionOf
      rw [hcomb, hcomb']
      simp only
      rw [C11.sum_region, C11.sum_region, Nat.add_comm T B]
      apply C11.sumRange_reverse
      intro i hi'
      obtain ⟨h1, h2⟩ := hidx i hi'
      have hr := hrow _ h1
      rw [← h2, hr.1, hr.2]
      apply C11.sumRange_congr
      intro j _
      rw [hcv _ _ h1]
    · unfold Cbca.specCount Cbca.regionOf
      rw [hcomb, hcomb']
      simp only
      rw [C11.length_region, C11.length_region, Nat.add_comm T B]
      apply C11.sumRangeN_reverse
      intro i hi'
      obtain ⟨h1, h2⟩ := hidx i hi'
      have hr := hrow _ h1
      rw [← h2, hr.1, hr.2]

theorem inArea_flip (inp : Cbca.Input) (y x : Nat) (hy : y < inp.H) :
    Cbca.inArea (flipInput inp) (inp.H - 1 - y) x = Cbca.inArea inp y x := by
  unfold Cbca.inArea Cbca.Input.h Cbca.Input.w
  apply decide_eq_decide.2
  show (inp.off ≤ inp.H - 1 - y ∧ inp.H - 1 - y < inp.off + (inp.H - 2 * inp.off) ∧ inp.off ≤ x ∧
    x < inp.off + (inp.W - 2 * inp.off)) ↔ _
  omega

/-- **The prescribed cell of the input listed bottom-up**, in the coordinates of the aggregated area -/
theorem aggSpec_flip (inp : Cbca.Input) (dsp ya xa : Nat) (hya : ya < inp.h) (hxa : xa < inp.w) :
    aggSpec ((flipInput inp).plane dsp) (inp.h - 1 - ya) xa = aggSpec (inp.plane dsp) ya xa := by
  have hcvf := flipInput_plane_cv inp dsp
  have hlt := (flip_area_row inp hya).2.2
  have e : inp.h - 1 - (inp.h - 1 - ya) = ya := Nat.sub_sub_self (Nat.le_sub_one_of_lt hya)
  have hin := (C11.armsInImage_spec (C11.crossSupport_in_image inp.mr inp.h inp.w inp.dist inp.I (Cbca.crop inp.off inp.filteredL)) hya hxa).2.2
  have hreg := region_flip (inp.plane dsp) ((flipInput inp).plane dsp) inp.h (flipInput_plane_d inp dsp)
    (flipInput_plane_Wr inp dsp) (fun y x hy => crossL_flip inp y x hy) (fun y x hy => crossR_flip inp _ y x hy) hcvf
    (inp.h - 1 - ya) xa hlt (by rw [e]; exact hin)
  rw [e] at hreg
  exact aggSpec_congr (by rw [hcvf (inp.h - 1 - ya) xa hlt, e]) hreg

/-- **Cross-based aggregation of the input listed bottom-up = the aggregation, read bottom-up** (the specification side):
    `aggSpec_flip` inside the aggregated area, the untouched margin outside -/
theorem specAgg_flip (inp : Cbca.Input) (dsp y x : Nat) (hy : y < inp.H) :
    specAgg (flipInput inp) (inp.H - 1 - y) x dsp = specAgg inp y x dsp := by
  have hA := inArea_flip inp y x hy
  by_cases hA' : Cbca.inArea inp y x = true
  · obtain ⟨ya, xa, hya, hxa, rfl, rfl⟩ := (C11.inArea_iff_exists inp y x).1 hA'
    obtain ⟨_, e, hlt⟩ := flip_area_row inp hya
    rw [e, specAgg_inArea inp ya xa dsp hya hxa]
    exact (specAgg_inArea (flipInput inp) (inp.h - 1 - ya) xa dsp hlt hxa).trans (aggSpec_flip inp dsp ya xa hya hxa)
  · rw [Bool.not_eq_true] at hA'
    rw [specAgg_margin _ _ _ _ (hA.trans hA'), specAgg_margin _ _ _ _ hA']
    show inp.cv (inp.H - 1 - (inp.H - 1 - y)) x dsp = _
    rw [Nat.sub_sub_self (Nat.le_sub_one_of_lt hy)]

/-- `nanOutside` (hypothesis of C11's theorem) is kept by the flip -/
theorem nanOutside_flip (inp : Cbca.Input) (dsp : Nat) (hN : Cbca.nanOutside (inp.plane dsp) = true) :
    Cbca.nanOutside ((flipInput inp).plane dsp) = true := by
  unfold Cbca.nanOutside at *
  simp only [List.all_eq_true, List.mem_range] at *
  intro y hy x hx
  have hy' : y < inp.h := hy
  have hx' : x < inp.w := hx
  rw [flipInput_plane_cv inp dsp y x hy', flipInput_plane_d, flipInput_plane_Wr]
  exact hN (inp.h - 1 - y) (flip_area_row inp hy').2.2 x hx'

/-- **The model: aggregating the input listed bottom-up gives the aggregated volume listed bottom-up.** -/
theorem aggregate_flip (inp : Cbca.Input) (dsp : Nat) (hN : Cbca.nanOutside (inp.plane dsp) = true) (y x : Nat)
    (hy : y < inp.H) :
    Cbca.aggregate (flipInput inp) (inp.H - 1 - y) x dsp = Cbca.aggregate inp y x dsp := by
  rw [aggregate_eq_specAgg _ dsp (nanOutside_flip inp dsp hN), aggregate_eq_specAgg inp dsp hN]
  exact specAgg_flip inp dsp y x hy

def negView (v : View) : View := fun di dj => v (-di) dj

theorem view_vflip (a : Locality.Img CbcaCell) (p : Px) : view (vflip a) p = negView (view a (-p.1, p.2)) := by
  funext di dj
  unfold view vflip negView
  simp only
  congr 1
  ext
  · simp only; omega
  · rfl

theorem vUp_negView (Q : CbcaParams) (v : View) : vUp Q (negView v) = vDn Q v := by
  unfold vUp vDn negView
  simp only [Int.neg_neg]

theorem vDn_negView (Q : CbcaParams) (v : View) : vDn Q (negView v) = vUp Q v := rfl

theorem vLf_negView (Q : CbcaParams) (v : View) : vLf Q (negView v) = vLf Q v := by
  unfold vLf negView
  simp only [Int.neg_zero]

theorem vRt_negView (Q : CbcaParams) (v : View) : vRt Q (negView v) = vRt Q v := by
  unfold vRt negView
  simp only [Int.neg_zero]

theorem winCell_negView (v : View) (u dn l W i j : Nat) (hi : i < dn + 1 + u) :
    winCell (negView v) dn l (dn + 1 + u) W i j = winCell v u l (u + 1 + dn) W (u + 1 + dn - 1 - i) j := by
  unfold winCell negView
  by_cases hj : j < W
  · rw [if_pos ⟨hi, hj⟩, if_pos ⟨by omega, hj⟩]
    congr 1
    omega
  · rw [if_neg (fun h => hj h.2), if_neg (fun h => hj h.2)]

theorem cbcaAt_negView (Q : CbcaParams) (v : View) : cbcaAt Q (negView v) = cbcaAt Q v := by
  unfold cbcaAt
  rw [windowInput_eq, windowInput_eq, vUp_negView, vDn_negView, vLf_negView, vRt_negView]
  generalize vUp Q v = u
  generalize vDn Q v = dn
  generalize vLf Q v = l
  generalize vRt Q v = r
  apply List.map_congr_left
  intro dsp _
  -- the window of the negated view is the flipped window, inside its size: a crop of it, all of it
  have hflip := specAgg_flip (winInp Q v u dn l r) dsp u l (winInp_pixel Q v u dn l r).1
  have e : (winInp Q v u dn l r).H - 1 - u = dn := by
    show u + 1 + dn - 1 - u = dn
    omega
  rw [e] at hflip
  rw [← hflip]
  refine specAgg_eq_of_full (flipInput (winInp Q v u dn l r)) (winInp Q (negView v) dn u l r) ?_
    (show dn + 1 + u = u + 1 + dn by omega) rfl dsp rfl dn l (winInp_pixel Q _ dn u l r).1 (winInp_pixel Q _ dn u l r).2 ?_
  · refine cropOf_mkInp (flipInput (winInp Q v u dn l r)) Q.n Q.gmin Q.gmax (dn + 1 + u) (l + 1 + r) 0 0 _ _
      (by show 0 + (dn + 1 + u) ≤ u + 1 + dn; omega) (Nat.le_of_eq (Nat.zero_add _)) ?_
    intro i j hi _
    show stripMc (winScene (negView v) dn l (dn + 1 + u) (l + 1 + r) i j) = _
    unfold winScene
    rw [winCell_negView v u dn l _ i j hi]
    rfl
  · intro i j _ _ _ _ hi _
    show winCv (negView v) dn l (dn + 1 + u) (l + 1 + r) i j dsp
      = winCv v u l (u + 1 + dn) (l + 1 + r) (u + 1 + dn - 1 - i) j dsp
    unfold winCv
    rw [winCell_negView v u dn l _ i j hi]

/-- **Cross-based aggregation commutes with the vertical flip** — on every partial image. -/
theorem cbcaStep_vflip (Q : CbcaParams) : VFlip (cbcaStep Q) := by
  intro a
  funext p
  show (a (-p.1, p.2)).map (fun _ => cbcaAt Q (view (vflip a) p))
    = (a (-p.1, p.2)).map (fun _ => cbcaAt Q (view a (-p.1, p.2)))
  rw [view_vflip, cbcaAt_negView]

/-- `aggregate_flip` for all the planes `dsp < n` of an input at once -/
theorem aggregate_flip_run (inp : Cbca.Input) (n : Nat) (gmin gmax : Int)
    (hN : ∀ dsp, dsp < n → Cbca.nanOutside (inp.plane dsp) = true)
    (hg : ∀ dsp, dsp < n → (gmin : ℚ) ≤ inp.disp dsp ∧ inp.disp dsp ≤ (gmax : ℚ))
    (r c : Nat) (hr : r < inp.H) (hc : c < inp.W) (dsp : Nat) (hdsp : dsp < n) :
    Cbca.aggregate (flipInput inp) r c dsp = Cbca.aggregate inp (inp.H - 1 - r) c dsp := by
  have h := aggregate_flip inp dsp (hN dsp hdsp) (inp.H - 1 - r) c (by omega)
  rwa [Nat.sub_sub_self (Nat.le_sub_one_of_lt hr)] at h

/-- **Vertical flip of the whole pipeline with `agg := cbcaStep Q`** (flags and right map abstract) -/
theorem pipeline_flip_cbca (C : PipeCfg) (Q : CbcaParams)
    {flagL : Locality.Img McCell → Locality.Img Nat} (hFe : Equivariant flagL) (hF : VFlipOn flagL)
    (doRefine doMedian : Bool) (hodd : doMedian = true → C.fs % 2 = 1)
    {dispR : Locality.Img McCell → Locality.Img Val} (hRe : Equivariant dispR) (hR : VFlipOn dispR)
    (V : CrossCheck.Variant) (CP : CrossCheck.Params)
    (ny nx : Nat) (scene : Nat → Nat → McCell) (p : Px) :
    ccStage C (cbcaStep Q) flagL doRefine doMedian dispR V CP (toImg ny nx (flipArr ny scene)) p
      = ccStage C (cbcaStep Q) flagL doRefine doMedian dispR V CP (toImg ny nx scene) ((ny : Int) - 1 - p.1, p.2) :=
  pipeline_flip C (cbcaStep_equivariant Q) (cbcaStep_vflip Q).toOn hFe hF doRefine doMedian hodd hRe hR V CP
    ny nx scene p

theorem filter_flip_cbca (C : PipeCfg) (Q : CbcaParams)
    {flagL : Locality.Img McCell → Locality.Img Nat} (hFe : Equivariant flagL) (hF : VFlipOn flagL)
    (doRefine doMedian : Bool) (hodd : doMedian = true → C.fs % 2 = 1)
    (ny nx : Nat) (scene : Nat → Nat → McCell) (p : Px) :
    filterStage C (cbcaStep Q) flagL doRefine doMedian (toImg ny nx (flipArr ny scene)) p
      = filterStage C (cbcaStep Q) flagL doRefine doMedian (toImg ny nx scene) ((ny : Int) - 1 - p.1, p.2) :=
  filter_flip C (cbcaStep_equivariant Q) (cbcaStep_vflip Q).toOn hFe hF doRefine doMedian hodd ny nx scene p

theorem pipeline_flip_flags_cbca (C : PipeCfg) (Q : CbcaParams)
    (doRefine doMedian : Bool) (hodd : doMedian = true → C.fs % 2 = 1)
    {dispR : Locality.Img McCell → Locality.Img Val} (hRe : Equivariant dispR) (hR : VFlipOn dispR)
    (V : CrossCheck.Variant) (CP : CrossCheck.Params)
    (ny nx : Nat) (scene : Nat → Nat → McCell) (p : Px) :
    ccStage C (cbcaStep Q) (pipeFlags C) doRefine doMedian dispR V CP (toImg ny nx (flipArr ny scene)) p
      = ccStage C (cbcaStep Q) (pipeFlags C) doRefine doMedian dispR V CP (toImg ny nx scene)
          ((ny : Int) - 1 - p.1, p.2) :=
  pipeline_flip_flags C (cbcaStep_equivariant Q) (cbcaStep_vflip Q).toOn doRefine doMedian hodd hRe hR V CP
    ny nx scene p

/-- criteria flags, right map from the same pipeline on the swapped pair: no hypothesis is left but the odd filter size -/
theorem pipeline_flip_flags_both_cbca (C C' : PipeCfg) (Q : CbcaParams)
    (doRefine doMedian : Bool) (hodd : doMedian = true → C.fs % 2 = 1) (hodd' : doMedian = true → C'.fs % 2 = 1)
    (V : CrossCheck.Variant) (CP : CrossCheck.Params)
    (ny nx : Nat) (scene : Nat → Nat → McCell) (p : Px) :
    ccStage C (cbcaStep Q) (pipeFlags C) doRefine doMedian
        (rightDisp C' (cbcaStep Q) (pipeFlags C') doRefine doMedian) V CP (toImg ny nx (flipArr ny scene)) p
      = ccStage C (cbcaStep Q) (pipeFlags C) doRefine doMedian
        (rightDisp C' (cbcaStep Q) (pipeFlags C') doRefine doMedian) V CP (toImg ny nx scene)
        ((ny : Int) - 1 - p.1, p.2) :=
  pipeline_flip_flags_both C C' (cbcaStep_equivariant Q) (cbcaStep_vflip Q).toOn doRefine doMedian hodd hodd'
    V CP ny nx scene p

theorem filter_flip_flags_cbca (C : PipeCfg) (Q : CbcaParams)
    (doRefine doMedian : Bool) (hodd : doMedian = true → C.fs % 2 = 1)
    (ny nx : Nat) (scene : Nat → Nat → McCell) (p : Px) :
    filterStage C (cbcaStep Q) (pipeFlags C) doRefine doMedian (toImg ny nx (flipArr ny scene)) p
      = filterStage C (cbcaStep Q) (pipeFlags C) doRefine doMedian (toImg ny nx scene) ((ny : Int) - 1 - p.1, p.2) :=
  filter_flip_flags C (cbcaStep_equivariant Q) (cbcaStep_vflip Q).toOn doRefine doMedian hodd ny nx scene p

/-- the 6 × 8 scene of `C13Cbca` listed bottom-up: row 3 of the flipped run is row 2 of the run -/
example : Cbca.aggregate (flipInput exWhole) (6 - 1 - 2) 3 0 = Cbca.aggregate exWhole 2 3 0 :=
  aggregate_flip exWhole 0 (by decide +kernel) 2 3 (by decide)

/-- the flipped scene is another scene: its top-left left-image value is the bottom-left one of the scene -/
example : (flipInput exWhole).imL 0 3 = 15 ∧ exWhole.imL 0 3 = 0 := by decide +kernel

example : Cbca.aggregate (flipInput exWhole) 1 3 0 = Cbca.aggregate exWhole (6 - 1 - 1) 3 0 :=
  aggregate_flip_run exWhole 1 0 0 exWhole_nanOutside exWhole_interval 1 3 (by decide) (by decide) 0 (by decide)

/-- every hypothesis is met, for every scene array -/
example (ny nx : Nat) (scene : Nat → Nat → McCell) (p : Px) :
    ccStage exCfg (cbcaStep exQ) (pipeFlags exCfg) true true
        (rightDisp exCfg (cbcaStep exQ) (pipeFlags exCfg) true true) .ruleFix C07.exParams
        (toImg ny nx (flipArr ny scene)) p
      = ccStage exCfg (cbcaStep exQ) (pipeFlags exCfg) true true
        (rightDisp exCfg (cbcaStep exQ) (pipeFlags exCfg) true true) .ruleFix C07.exParams
        (toImg ny nx scene) ((ny : Int) - 1 - p.1, p.2) :=
  pipeline_flip_flags_both_cbca exCfg exCfg exQ true true (fun _ => by decide) (fun _ => by decide)
    .ruleFix C07.exParams ny nx scene p

end Pandora.C13
