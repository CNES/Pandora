/-
  C02 — `AbstractMatchingCost.point_interval` REGENERATED from the Python source (`Generated/KernelsGlue.lean`,
  written by translator/gen_kernels_glue.py with translator/pyexpr.py) is equal, for every pair of widths and every
  rational disparity, to the hand-written `MC.pointInterval` (which carries the disparity `k/sp` as its numerator
  over the fixed denominator and does all index arithmetic on integers: `ceil` / `floor` of a rational become
  `cdiv` / `fdiv`), followed by the collapse of empty intervals to `(0, 0), (0, 0)` that the source performs
  ("the disparity reaches past the images: nothing can be compared").  What the model USES of the interval (membership
  of a left column, the right column facing it — `pixelWise`, `rawCensus`, `rawZncc`) is the same with or without the
  collapse whenever the right interval is non-empty as well.  The sample index `dsp = int((disp - dmin) * self._subpix)`
  of cv_masked, regenerated the same way, is the model's `(k - gmin * sp).toNat`.
-/
import PandoraModel.Generated.KernelsGlue
import PandoraModel.Generated.KernelsGlueSelfTest  -- the translator's own glue test functions, checked by evaluation
import PandoraModel.Lemmas.MCIndex
import PandoraModel.Lemmas.PyExprRules

namespace Pandora.C02Kernels
open Pandora.MC Pandora.PyExpr

/-- the source returns `(0, 0), (0, 0)` when one of the two intervals is empty -/
def collapse (pq : PQ) : PQ := if pq.p1 ≤ pq.p0 ∨ pq.q1 ≤ pq.q0 then ⟨0, 0, 0, 0⟩ else pq

def encPQ (pq : PQ) : Int × Int × Int × Int := (pq.p0, pq.p1, pq.q0, pq.q1)

theorem two_mul_half (w : Nat) (hw : w % 2 = 1) : 2 * ((half w : Nat) : Int) = (w : Int) - 1 := by
  unfold half; omega

theorem encPQ_collapse (pq : PQ) :
    encPQ (collapse pq) = if pq.p1 ≤ pq.p0 ∨ pq.q1 ≤ pq.q0 then (0, 0, 0, 0) else (pq.p0, pq.p1, pq.q0, pq.q1) := by
  unfold collapse
  split_ifs <;> rfl

theorem rfloor_div (a : Int) (s : Nat) : rfloor ((a : ℚ) / (s : ℚ)) = fdiv a s :=
  Rat.floor_intCast_div_natCast a s

theorem rceil_div (a : Int) (s : Nat) : rceil ((a : ℚ) / (s : ℚ)) = cdiv a s := by
  unfold rceil cdiv
  rw [Rat.ceil_eq_neg_floor_neg]
  have h : -((a : ℚ) / (s : ℚ)) = ((-a : Int) : ℚ) / (s : ℚ) := by push_cast; ring
  rw [h]
  exact congrArg Neg.neg (Rat.floor_intCast_div_natCast (-a) s)

/-! ### the four operands of `point_interval` at `disp = k / s`, as fractions over `s` -/

theorem max_frac_zero (k : Int) (s : Nat) : max ((k : ℚ) / (s : ℚ)) 0 = ((max k 0 : Int) : ℚ) / (s : ℚ) := by
  rw [Int.cast_max, Int.cast_zero, ← max_div_div_right (Nat.cast_nonneg s), zero_div]

theorem max_neg_frac_zero (k : Int) (s : Nat) : max (-((k : ℚ) / (s : ℚ))) 0 = ((max (-k) 0 : Int) : ℚ) / (s : ℚ) := by
  rw [← neg_div, ← Int.cast_neg]
  exact max_frac_zero (-k) s

theorem min_sub_frac (n k : Int) (s : Nat) (hs : (s : ℚ) ≠ 0) :
    min ((n : ℚ) - (k : ℚ) / (s : ℚ)) n = ((min (n * s - k) (n * s) : Int) : ℚ) / (s : ℚ) := by
  rw [Int.cast_min, ← min_div_div_right (Nat.cast_nonneg s), Int.cast_sub, Int.cast_mul, Int.cast_natCast, sub_div,
    mul_div_cancel_right₀ _ hs]

theorem min_add_frac (n k : Int) (s : Nat) (hs : (s : ℚ) ≠ 0) :
    min ((n : ℚ) + (k : ℚ) / (s : ℚ)) n = ((min (n * s + k) (n * s) : Int) : ℚ) / (s : ℚ) := by
  rw [Int.cast_min, ← min_div_div_right (Nat.cast_nonneg s), Int.cast_add, Int.cast_mul, Int.cast_natCast, add_div,
    mul_div_cancel_right₀ _ hs]

theorem div_neg_iff (k : Int) (s : Nat) (hs : 0 < s) : ((k : ℚ) / (s : ℚ) < 0) ↔ k < 0 := by
  have hs' : (0 : ℚ) < (s : ℚ) := by exact_mod_cast hs
  rw [div_lt_iff₀ hs', zero_mul, Int.cast_lt_zero]

-- the simp set lists both spellings of each operand (documented rewrites PH1, PH2 of DESIGN_NOTES/C02.md);
-- on the source as it is some are unused
set_option linter.unusedSimpArgs false in
open Generated.KernelsGlue in
/-- **the translated `point_interval` is the hand model** (then the collapse of empty intervals), for every pair of
    widths — positive or not — and every disparity `k / sp` -/
theorem pointInterval_eq (nxL nxR k : Int) (sp : Nat) (hs : 0 < sp) :
    Generated.KernelsGlue.pointInterval nxL nxR ((k : ℚ) / (sp : ℚ))
      = encPQ (collapse (MC.pointInterval nxL nxR k sp)) := by
  have hs' : (sp : ℚ) ≠ 0 := by exact_mod_cast (Nat.pos_iff_ne_zero.mp hs)
  have hneg := div_neg_iff k sp hs
  have hge : ((k : ℚ) / (sp : ℚ) ≥ 0) ↔ ¬ k < 0 := by rw [ge_iff_le, ← not_lt, hneg]
  have hgt : ((0 : ℚ) > (k : ℚ) / (sp : ℚ)) ↔ k < 0 := hneg
  unfold Generated.KernelsGlue.pointInterval MC.pointInterval
  -- `0 - disp` / `-disp`, `0 + disp` / `disp` and either order of the two operands come to the same normal form: a rewrite
  -- of the source that only changes these keeps the proof
  simp only [rmax_eq_max, rmin_eq_min, zero_sub, zero_add, max_comm (0 : ℚ), min_comm (nxL : ℚ), min_comm (nxR : ℚ),
    max_frac_zero, max_neg_frac_zero, min_sub_frac _ _ _ hs', min_add_frac _ _ _ hs', rceil_div, rfloor_div, hneg, hge, hgt,
    encPQ_collapse]
  by_cases hk : k < 0 <;>
    simp only [hk, not_true_eq_false, not_false_eq_true, decide_true, decide_false, if_true, if_false, Bool.or_eq_true,
      decide_eq_true_eq, Bool.false_eq_true]

/-- for an arbitrary rational disparity (the model is called on its reduced numerator and denominator) -/
theorem pointInterval_eq_rat (nxL nxR : Int) (d : ℚ) :
    Generated.KernelsGlue.pointInterval nxL nxR d = encPQ (collapse (MC.pointInterval nxL nxR d.num d.den)) := by
  have h := pointInterval_eq nxL nxR d.num d.den d.den_pos
  rwa [Rat.num_div_den] at h

theorem pointInterval_eq_nonempty (nxL nxR k : Int) (sp : Nat) (hs : 0 < sp)
    (hp : (MC.pointInterval nxL nxR k sp).p0 < (MC.pointInterval nxL nxR k sp).p1)
    (hq : (MC.pointInterval nxL nxR k sp).q0 < (MC.pointInterval nxL nxR k sp).q1) :
    Generated.KernelsGlue.pointInterval nxL nxR ((k : ℚ) / (sp : ℚ)) = encPQ (MC.pointInterval nxL nxR k sp) := by
  rw [pointInterval_eq nxL nxR k sp hs, collapse, if_neg (by omega)]

/-- a collapsed interval contains no column: membership in the left range is unchanged by the collapse as soon as
    the right range is not empty (`pixelWise`, `rawCensus`, `rawZncc` read the interval only through this test) -/
theorem pointInterval_mem_p (nxL nxR k : Int) (sp : Nat) (hs : 0 < sp) (c : Int)
    (hq : (MC.pointInterval nxL nxR k sp).q0 < (MC.pointInterval nxL nxR k sp).q1) :
    ((Generated.KernelsGlue.pointInterval nxL nxR ((k : ℚ) / (sp : ℚ))).1 ≤ c
        ∧ c < (Generated.KernelsGlue.pointInterval nxL nxR ((k : ℚ) / (sp : ℚ))).2.1)
      ↔ ((MC.pointInterval nxL nxR k sp).p0 ≤ c ∧ c < (MC.pointInterval nxL nxR k sp).p1) := by
  rw [pointInterval_eq nxL nxR k sp hs]
  unfold collapse encPQ
  split_ifs with h
  · simp only; omega
  · simp only

theorem pointInterval_q_of_p (nxL nxR k : Int) (sp : Nat) (hs : 0 < sp) (c : Int)
    (hq : (MC.pointInterval nxL nxR k sp).q0 < (MC.pointInterval nxL nxR k sp).q1)
    (hc : (MC.pointInterval nxL nxR k sp).p0 ≤ c ∧ c < (MC.pointInterval nxL nxR k sp).p1) :
    (Generated.KernelsGlue.pointInterval nxL nxR ((k : ℚ) / (sp : ℚ))).2.2.1
        + (c - (Generated.KernelsGlue.pointInterval nxL nxR ((k : ℚ) / (sp : ℚ))).1)
      = (MC.pointInterval nxL nxR k sp).q0 + (c - (MC.pointInterval nxL nxR k sp).p0) := by
  rw [pointInterval_eq_nonempty nxL nxR k sp hs (by omega) hq]
  rfl

/-- **the translated sample index is the model's** (`cvMaskedStep`: `dsp = (k - gmin * sp).toNat`): for the disparity
    `k / sp` and an integer first disparity `gmin` the product is the integer `k - gmin * sp` exactly, which `int()`
    leaves alone (no rounding is involved on the dyadic disparities of a cost volume) -/
theorem dspIndex_eq (k gmin : Int) (sp : Nat) (hs : 0 < sp) :
    Generated.KernelsGlue.dspIndex ((k : ℚ) / (sp : ℚ)) (gmin : ℚ) (sp : Int) = k - gmin * sp := by
  have hs' : (sp : ℚ) ≠ 0 := by exact_mod_cast (Nat.pos_iff_ne_zero.mp hs)
  have h : ((k : ℚ) / (sp : ℚ) - (gmin : ℚ)) * (((sp : Int) : ℚ)) = ((k - gmin * sp : Int) : ℚ) := by
    rw [Int.cast_natCast, sub_mul, div_mul_cancel₀ _ hs', Int.cast_sub, Int.cast_mul, Int.cast_natCast]
  unfold Generated.KernelsGlue.dspIndex
  rw [h, rtrunc_intCast]

theorem dspIndex_toNat (k gmin : Int) (sp : Nat) (hs : 0 < sp) (h : gmin * sp ≤ k) :
    Generated.KernelsGlue.dspIndex ((k : ℚ) / (sp : ℚ)) (gmin : ℚ) (sp : Int) = ((k - gmin * sp).toNat : Int) := by
  rw [dspIndex_eq k gmin sp hs]; omega

/-- non-vacuity: half-pixel disparities of both signs, different widths, a disparity past the image -/
example : Generated.KernelsGlue.pointInterval 5 6 ((3 : ℚ) / 2) = (0, 3, 1, 6) := by decide +kernel
example : encPQ (collapse (MC.pointInterval 5 6 3 2)) = (0, 3, 1, 6) := by decide
example : encPQ (collapse (MC.pointInterval 6 5 (-3) 2)) = (2, 6, 0, 4) := by decide
example : encPQ (collapse (MC.pointInterval 4 4 7 1)) = (0, 0, 0, 0) := by decide
example : encPQ (MC.pointInterval 4 4 7 1) = (0, -3, 7, 4) := by decide

end Pandora.C02Kernels
