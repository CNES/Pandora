/-
  C13 — cross-based cost aggregation, the whole step on arrays: crop run = whole run at CLIPPED cones.

  Each of the four sides of the crop is EITHER the border of the image itself (then the border rules of the model — arm
  room up to the border of the aggregated area, copied one-pixel border of `median3`, untouched `offset_row_col` margin,
  right images of width `W - 1`, no facing right column — apply identically in both runs) OR far enough from the pixel:

      D  = armBound dist = max (dist - 1) 1                       (longest possible arm)
      Rv = D + max 1 off                                          (rows; `off = offset_row_col`)
      Rl = Rv + (−⌊d⌋)⁺ ,  Rr = Rv + (⌊d⌋ + [d fractional])⁺      (columns, `d` = the disparity of the plane)
-/
import PandoraModel.Properties.C13Cbca

namespace Pandora.C13
open Pandora.Cbca

/-- for pixel `(y, x)` of the crop and plane `dsp`: each side of the crop is the border of the image, or `Rv` (`Rl`, `Rr`)
    away -/
structure Sides (inp inp' : Input) (ty tx dsp y x : Nat) : Prop where
  top : ty = 0 ∨ armBound inp.dist + max 1 inp.off ≤ y
  bot : ty + inp'.H = inp.H ∨ y + armBound inp.dist + max 1 inp.off < inp'.H
  left : tx = 0 ∨ armBound inp.dist + max 1 inp.off + (-(inp.disp dsp).floor).toNat ≤ x
  right : tx + inp'.W = inp.W ∨ x + armBound inp.dist + max 1 inp.off
    + ((inp.disp dsp).floor + (fracK (iRight inp.subpix (inp.disp dsp)) : Nat)).toNat < inp'.W

theorem near_rows {ty H' H D m off ya : Nat} (hT : ty = 0 ∨ D + m ≤ ya + off)
    (hB : ty + H' = H ∨ ya + off + D + m < H') : Near ty H' H (D + m) (ya + off) := by omega

/-- the column conditions count the disparity `fd` in: they hold at `xa` in the left image and at the facing column `xr`
    in the right image, `f` columns narrower -/
theorem near_cols {tx W' W D m off xa xr f : Nat} {fd : Int} (hxr : (xr : Int) = xa + fd)
    (hlt : xr < W' - f - 2 * off) (hL : tx = 0 ∨ D + m + (-fd).toNat ≤ xa + off)
    (hR : tx + W' = W ∨ xa + off + D + m + (fd + (f : Int)).toNat < W') :
    Near tx W' W (D + m) (xa + off) ∧ Near tx (W' - f) (W - f) (D + m) (xr + off) ∧ f < W' := by omega

theorem toNat_facing (xa tx xr : Nat) (fd : Int) (hxr : (xr : Int) = xa + fd) :
    ((xa : Int) + fd).toNat = xr ∧ (((xa + tx : Nat) : Int) + fd).toNat = xr + tx := by omega

theorem side_status (tx W' W D m off xa f : Nat) (fd : Int) (hfit : tx + W' ≤ W)
    (hL : tx = 0 ∨ D + m + (-fd).toNat ≤ xa + off) (hm : off ≤ m)
    (hR : tx + W' = W ∨ xa + off + D + m + (fd + (f : Int)).toNat < W') :
    (0 ≤ (xa : Int) + fd ∧ (xa : Int) + fd < ((W' - f - 2 * off : Nat) : Int)) ↔
    (0 ≤ ((xa + tx : Nat) : Int) + fd ∧ ((xa + tx : Nat) : Int) + fd < ((W - f - 2 * off : Nat) : Int)) := by
  omega

/-- one coordinate `p` of a pixel; `r`, `r'`: what the disparity adds to the radius on the column sides -/
theorem side_area1 (t n' n D m off p r r' : Nat) (hm : off ≤ m) (fit : t + n' ≤ n)
    (hlo : t = 0 ∨ D + m + r ≤ p) (hhi : t + n' = n ∨ p + D + m + r' < n') :
    (off ≤ p ∧ p < off + (n' - 2 * off)) ↔ (off ≤ p + t ∧ p + t < off + (n - 2 * off)) := by omega

theorem square_shift {D p a : Nat} (off : Nat) (h1 : p - D ≤ a) (h2 : a ≤ p + D) :
    p + off - D ≤ a + off ∧ a + off ≤ p + off + D := by omega

theorem inArea_crop {inp inp' : Input} {ty tx dsp y x : Nat} (hc : CropOf inp inp' ty tx)
    (s : Sides inp inp' ty tx dsp y x) : inArea inp' y x = inArea inp (y + ty) (x + tx) := by
  have hay := side_area1 ty inp'.H inp.H (armBound inp.dist) (max 1 inp.off) inp.off y 0 0
    (Nat.le_max_right _ _) hc.fitH s.top s.bot
  have hax := side_area1 tx inp'.W inp.W (armBound inp.dist) (max 1 inp.off) inp.off x _ _
    (Nat.le_max_right _ _) hc.fitW s.left s.right
  unfold inArea Input.h Input.w
  rw [hc.off]
  exact decide_eq_decide.2
    ⟨fun h => ⟨(hay.1 ⟨h.1, h.2.1⟩).1, (hay.1 ⟨h.1, h.2.1⟩).2, hax.1 h.2.2⟩,
      fun h => ⟨(hay.2 ⟨h.1, h.2.1⟩).1, (hay.2 ⟨h.1, h.2.1⟩).2, hax.2 h.2.2⟩⟩

/-- the arms of the crop are those of the whole, at the pixel and on the rows within `armBound dist`, for the left image
    and the `k`-th right image (`fracK k` columns narrower); `xr = xa + fd`: the facing column -/
theorem arms_crop_eq_whole {inp inp' : Input} {ty tx : Nat} (hc : CropOf inp inp' ty tx) (k : Nat) (fd : Int)
    (ya xa xr : Nat) (hya : ya < inp'.h) (hxa : xa < inp'.w) (hxr : (xr : Int) = xa + fd) (hxrlt : xr < inp'.wr k)
    (hT : ty = 0 ∨ armBound inp.dist + max 1 inp.off ≤ ya + inp.off)
    (hB : ty + inp'.H = inp.H ∨ ya + inp.off + armBound inp.dist + max 1 inp.off < inp'.H)
    (hL : tx = 0 ∨ armBound inp.dist + max 1 inp.off + (-fd).toNat ≤ xa + inp.off)
    (hR : tx + inp'.W = inp.W ∨ xa + inp.off + armBound inp.dist + max 1 inp.off
      + (fd + (fracK k : Nat)).toNat < inp'.W) :
    inp'.crossL ya xa = inp.crossL (ya + ty) (xa + tx) ∧ inp'.crossR k ya xr = inp.crossR k (ya + ty) (xr + tx) ∧
    ∀ y', ya - armBound inp.dist ≤ y' → y' ≤ ya + armBound inp.dist → y' < inp'.h →
      (inp'.crossL y' xa).left = (inp.crossL (y' + ty) (xa + tx)).left ∧
      (inp'.crossL y' xa).right = (inp.crossL (y' + ty) (xa + tx)).right ∧
      (inp'.crossR k y' xr).left = (inp.crossR k (y' + ty) (xr + tx)).left ∧
      (inp'.crossR k y' xr).right = (inp.crossR k (y' + ty) (xr + tx)).right := by
  have hh : inp'.h = inp'.H - 2 * inp.off := by unfold Input.h; rw [hc.off]
  have hw : inp'.w = inp'.W - 2 * inp.off := by unfold Input.w; rw [hc.off]
  rw [hh] at hya ⊢
  rw [hw] at hxa
  rw [wr_eq, hc.off] at hxrlt
  have ny := near_rows hT hB
  obtain ⟨nxL, nxR, hk⟩ := near_cols hxr hxrlt hL hR
  rw [crossL_eq, crossL_eq, crossR_eq, crossR_eq, hc.mr, hc.dist, hc.I, hc.off]
  have L := hc.subL.crossOf_eq inp.mr inp.dist inp.I inp.off ya xa hya hxa ny nxL
  have R := (hc.subR k hk).crossOf_eq inp.mr inp.dist inp.I inp.off ya xr hya hxrlt ny nxR
  exact ⟨L.1, R.1, fun y' h1 h2 h3 =>
    ⟨(L.2 y' h1 h2 h3).1, (L.2 y' h1 h2 h3).2, (R.2 y' h1 h2 h3).1, (R.2 y' h1 h2 h3).2⟩⟩

theorem plane_rightCol (inp : Input) (dsp xa : Nat) :
    rightCol (inp.plane dsp).d (inp.plane dsp).Wr xa =
      if 0 ≤ (xa : Int) + (inp.disp dsp).floor ∧ (xa : Int) + (inp.disp dsp).floor
        < ((inp.W - fracK (iRight inp.subpix (inp.disp dsp)) - 2 * inp.off : Nat) : Int)
      then some ((xa : Int) + (inp.disp dsp).floor).toNat else none := by
  rw [rightCol_eq, ← wr_eq]
  rfl

theorem aggSpec_crop_eq_whole (inp inp' : Input) (ty tx : Nat) (hc : CropOf inp inp' ty tx) (dsp dsp' : Nat)
    (hd : inp'.disp dsp' = inp.disp dsp) (ya xa : Nat) (hya : ya < inp'.h) (hxa : xa < inp'.w)
    (hcv : ∀ i j, ya + inp.off - armBound inp.dist ≤ i → i ≤ ya + inp.off + armBound inp.dist →
      xa + inp.off - armBound inp.dist ≤ j → j ≤ xa + inp.off + armBound inp.dist → i < inp'.H → j < inp'.W →
      inp'.cv i j dsp' = inp.cv (i + ty) (j + tx) dsp)
    (s : Sides inp inp' ty tx dsp (ya + inp.off) (xa + inp.off)) :
    aggSpec (inp'.plane dsp') ya xa = aggSpec (inp.plane dsp) (ya + ty) (xa + tx) := by
  have ho := hc.off
  have hPaR' : (inp'.plane dsp').armsR = inp'.crossR (iRight inp.subpix (inp.disp dsp)) := by
    show inp'.crossR (iRight inp'.subpix (inp'.disp dsp')) = _
    rw [hc.subpix, hd]
  have hcvA : ∀ a b, ya - armBound inp.dist ≤ a → a ≤ ya + armBound inp.dist → xa - armBound inp.dist ≤ b →
      b ≤ xa + armBound inp.dist → a < inp'.h → b < inp'.w →
      (inp.plane dsp).cv (a + ty) (b + tx) = (inp'.plane dsp').cv a b := by
    intro a b h1 h2 h3 h4 ha hb
    show inp.cv (a + ty + inp.off) (b + tx + inp.off) dsp = inp'.cv (a + inp'.off) (b + inp'.off) dsp'
    unfold Input.h at ha
    unfold Input.w at hb
    rw [ho] at ha hb ⊢
    obtain ⟨i1, i2⟩ := square_shift inp.off h1 h2
    obtain ⟨j1, j2⟩ := square_shift inp.off h3 h4
    rw [hcv (a + inp.off) (b + inp.off) i1 i2 j1 j2 (lt_of_lt_sub_margin ha) (lt_of_lt_sub_margin hb),
      Nat.add_right_comm a, Nat.add_right_comm b]
  have hcv0 := hcvA ya xa (Nat.sub_le _ _) (Nat.le_add_right _ _) (Nat.sub_le _ _) (Nat.le_add_right _ _) hya hxa
  have hrc' := plane_rightCol inp' dsp' xa
  have hrcW := plane_rightCol inp dsp (xa + tx)
  rw [hd, hc.subpix, ho] at hrc'
  have hst := side_status tx inp'.W inp.W (armBound inp.dist) (max 1 inp.off) inp.off xa
    (fracK (iRight inp.subpix (inp.disp dsp))) (inp.disp dsp).floor hc.fitW
    s.left (Nat.le_max_right _ _) s.right
  refine (aggSpec_congr hcv0 ?_).symm
  split at hrc'
  · -- a facing column in both
    rename_i hs
    rw [if_pos (hst.1 hs)] at hrcW
    obtain ⟨xr, hxr⟩ : ∃ xr : Nat, (xr : Int) = (xa : Int) + (inp.disp dsp).floor :=
      ⟨_, Int.toNat_of_nonneg hs.1⟩
    obtain ⟨e1, e2⟩ := toNat_facing xa tx xr _ hxr
    rw [e1] at hrc'
    rw [e2] at hrcW
    have hxrlt : xr < inp'.wr (iRight inp.subpix (inp.disp dsp)) := by
      rw [wr_eq, ho]
      have := hs.2
      rw [← hxr] at this
      exact_mod_cast this
    obtain ⟨hAL, hAR, hrows⟩ := arms_crop_eq_whole hc _ _ ya xa xr hya hxa hxr hxrlt s.top s.bot s.left s.right
    rw [← hPaR'] at hAR hrows
    rw [← hc.dist] at hrows hcvA
    exact region_transport_arms (inp.plane dsp) (inp'.plane dsp') ya xa xr ty tx (armBound inp'.dist) hya hxa
      hrc' hrcW (C11.crossSupport_in_image inp'.mr inp'.h inp'.w inp'.dist inp'.I _)
      (crossSupport_le_bound inp'.mr inp'.h inp'.w inp'.dist inp'.I _) hAL hAR hrows hcvA
  · -- no facing column, neither in the crop nor in the whole: the region is the pixel alone
    rename_i hs
    rw [if_neg (fun h => hs (hst.2 h))] at hrcW
    have r' := region_none (inp'.plane dsp') ya xa hrc'
    have r := region_none (inp.plane dsp) (ya + ty) (xa + tx) hrcW
    rw [r.1, r.2, r'.1, r'.2, hcv0]
    exact ⟨rfl, rfl⟩

/-- **Transport of the prescribed aggregated cost**: the costs need to agree within `armBound dist` of the pixel only. -/
theorem specAgg_crop_eq_whole (inp inp' : Input) (ty tx : Nat) (hc : CropOf inp inp' ty tx) (dsp dsp' : Nat)
    (hd : inp'.disp dsp' = inp.disp dsp) (y x : Nat) (hy : y < inp'.H) (hx : x < inp'.W)
    (hcv : ∀ i j, y - armBound inp.dist ≤ i → i ≤ y + armBound inp.dist → x - armBound inp.dist ≤ j →
      j ≤ x + armBound inp.dist → i < inp'.H → j < inp'.W → inp'.cv i j dsp' = inp.cv (i + ty) (j + tx) dsp)
    (s : Sides inp inp' ty tx dsp y x) :
    specAgg inp' y x dsp' = specAgg inp (y + ty) (x + tx) dsp := by
  have hA := inArea_crop hc s
  by_cases hA' : inArea inp' y x = true
  · obtain ⟨ya, xa, hya, hxa, rfl, rfl⟩ := (C11.inArea_iff_exists inp' y x).1 hA'
    rw [specAgg_inArea inp' ya xa dsp' hya hxa]
    rw [hA', hc.off, Nat.add_right_comm ya, Nat.add_right_comm xa] at hA
    rw [hc.off] at hcv s
    obtain ⟨hYa, hXa⟩ := C11.inArea_spec hA.symm
    rw [Nat.add_sub_cancel] at hYa hXa
    rw [hc.off, Nat.add_right_comm ya, Nat.add_right_comm xa, specAgg_inArea inp (ya + ty) (xa + tx) dsp hYa hXa]
    exact aggSpec_crop_eq_whole inp inp' ty tx hc dsp dsp' hd ya xa hya hxa hcv s
  · rw [Bool.not_eq_true] at hA'
    rw [specAgg_margin inp' y x dsp' hA', specAgg_margin inp _ _ dsp (hA.symm.trans hA')]
    exact hcv y x (Nat.sub_le _ _) (Nat.le_add_right _ _) (Nat.sub_le _ _) (Nat.le_add_right _ _) hy hx

/-- same images and masks, other costs away from the pixel -/
theorem specAgg_eq_of_full (inp inp' : Input) (hc : CropOf inp inp' 0 0) (hH : inp'.H = inp.H) (hW : inp'.W = inp.W)
    (dsp : Nat) (hd : inp'.disp dsp = inp.disp dsp) (y x : Nat) (hy : y < inp'.H) (hx : x < inp'.W)
    (hcv : ∀ i j, y - armBound inp.dist ≤ i → i ≤ y + armBound inp.dist → x - armBound inp.dist ≤ j →
      j ≤ x + armBound inp.dist → i < inp'.H → j < inp'.W → inp'.cv i j dsp = inp.cv i j dsp) :
    specAgg inp' y x dsp = specAgg inp y x dsp :=
  specAgg_crop_eq_whole inp inp' 0 0 hc dsp dsp hd y x hy hx hcv
    ⟨Or.inl rfl, Or.inl ((Nat.zero_add _).trans hH), Or.inl rfl, Or.inl ((Nat.zero_add _).trans hW)⟩

/-- **Cross-based aggregation: crop run = whole run at clipped cones** (the model `Cbca.aggregate`; `nanOutside`:
    hypothesis of C11's theorem — the costs are NaN where the disparity has no facing column). -/
theorem cbca_crop_eq_whole_clipped (inp inp' : Input) (ty tx : Nat) (hc : CropOf inp inp' ty tx) (dsp dsp' : Nat)
    (hd : inp'.disp dsp' = inp.disp dsp)
    (hcv : ∀ y x, y < inp'.H → x < inp'.W → inp'.cv y x dsp' = inp.cv (y + ty) (x + tx) dsp)
    (hN : nanOutside (inp.plane dsp) = true) (hN' : nanOutside (inp'.plane dsp') = true)
    (y x : Nat) (hy : y < inp'.H) (hx : x < inp'.W)
    (hT : ty = 0 ∨ armBound inp.dist + max 1 inp.off ≤ y)
    (hB : ty + inp'.H = inp.H ∨ y + armBound inp.dist + max 1 inp.off < inp'.H)
    (hL : tx = 0 ∨ armBound inp.dist + max 1 inp.off + (-(inp.disp dsp).floor).toNat ≤ x)
    (hR : tx + inp'.W = inp.W ∨ x + armBound inp.dist + max 1 inp.off
      + ((inp.disp dsp).floor + (fracK (iRight inp.subpix (inp.disp dsp)) : Nat)).toNat < inp'.W) :
    aggregate inp' y x dsp' = aggregate inp (y + ty) (x + tx) dsp := by
  rw [aggregate_eq_specAgg inp' dsp' hN', aggregate_eq_specAgg inp dsp hN]
  exact specAgg_crop_eq_whole inp inp' ty tx hc dsp dsp' hd y x hy hx (fun i j _ _ _ _ hi hj => hcv i j hi hj)
    ⟨hT, hB, hL, hR⟩

theorem sides_of_interior {off D y x H' W' f : Nat} {fd : Int} (hf : f ≤ 1)
    (hy : off + D + 1 ≤ y ∧ y + D + 1 + off < H') (hx : off + D + 1 ≤ x ∧ x + D + 1 + off < W')
    (hxr : D + 1 ≤ (((x - off : Nat) : Int) + fd).toNat ∧ (((x - off : Nat) : Int) + fd).toNat + D + 2 + 2 * off < W') :
    (y < H' ∧ D + max 1 off ≤ y ∧ y + D + max 1 off < H') ∧
    (x < W' ∧ D + max 1 off + (-fd).toNat ≤ x ∧ x + D + max 1 off + (fd + (f : Int)).toNat < W') := by omega

/-- **Cross-based aggregation: crop run = whole run on cone-interior pixels**: `D + 1` rows above and below the pixel,
    `D + 1` columns left and right of it and `D + 1` (`+ 1` for the interpolated right image) columns around its facing
    column `xr = ⌊x - off + d⌋` lie in the aggregated area of the crop; no side needs to be a border of the image. -/
theorem cbca_crop_eq_whole (inp inp' : Input) (ty tx : Nat) (hc : CropOf inp inp' ty tx) (dsp dsp' : Nat)
    (hd : inp'.disp dsp' = inp.disp dsp)
    (hcv : ∀ y x, y < inp'.H → x < inp'.W → inp'.cv y x dsp' = inp.cv (y + ty) (x + tx) dsp)
    (hN : nanOutside (inp.plane dsp) = true) (hN' : nanOutside (inp'.plane dsp') = true)
    (y x : Nat)
    (hy : inp.off + armBound inp.dist + 1 ≤ y ∧ y + armBound inp.dist + 1 + inp.off < inp'.H)
    (hx : inp.off + armBound inp.dist + 1 ≤ x ∧ x + armBound inp.dist + 1 + inp.off < inp'.W)
    (hd0 : 0 ≤ ((x - inp.off : Nat) : ℚ) + inp.disp dsp)
    (hxr : armBound inp.dist + 1 ≤ (((x - inp.off : Nat) : ℚ) + inp.disp dsp).floor.toNat ∧
      (((x - inp.off : Nat) : ℚ) + inp.disp dsp).floor.toNat + armBound inp.dist + 2 + 2 * inp.off < inp'.W) :
    aggregate inp' y x dsp' = aggregate inp (y + ty) (x + tx) dsp := by
  rw [floor_nat_add] at hxr
  obtain ⟨⟨hyH, hT, hB⟩, hxW, hL, hR⟩ := sides_of_interior (fracK_le (iRight inp.subpix (inp.disp dsp))) hy hx hxr
  exact cbca_crop_eq_whole_clipped inp inp' ty tx hc dsp dsp' hd hcv hN hN' y x hyH hxW
    (Or.inr hT) (Or.inr hB) (Or.inr hL) (Or.inr hR)

/-- **The prescribed aggregated cost reads the cost volume only inside the square of radius `armBound dist`.** -/
theorem specAgg_cv_congr (inp : Input) (cv2 : Nat → Nat → Nat → Val) (dsp y x : Nat)
    (h : ∀ i j, y - armBound inp.dist ≤ i → i ≤ y + armBound inp.dist → x - armBound inp.dist ≤ j →
      j ≤ x + armBound inp.dist → inp.cv i j dsp = cv2 i j dsp) :
    specAgg inp y x dsp = specAgg { inp with cv := cv2 } y x dsp := by
  by_cases hin : y < inp.H ∧ x < inp.W
  · exact specAgg_eq_of_full { inp with cv := cv2 } inp
      ⟨rfl, rfl, rfl, rfl, rfl, rfl, rfl, rfl, rfl, Nat.le_of_eq (Nat.zero_add _), Nat.le_of_eq (Nat.zero_add _),
        fun _ _ _ _ => rfl, fun _ _ _ _ => rfl, fun _ _ _ _ => rfl, fun _ _ _ _ => rfl⟩
      rfl rfl dsp rfl y x hin.1 hin.2 (fun i j h1 h2 h3 h4 _ _ => h i j h1 h2 h3 h4)
  · have hA : inArea inp y x = false := by
      unfold inArea Input.h Input.w
      rw [decide_eq_false_iff_not]
      omega
    rw [specAgg_margin inp y x dsp hA, specAgg_margin { inp with cv := cv2 } y x dsp hA]
    exact h y x (Nat.sub_le _ _) (Nat.le_add_right _ _) (Nat.sub_le _ _) (Nat.le_add_right _ _)

/-! pixel (2, 2) of the 5 × 7 crop of the 6 × 8 scene satisfies every hypothesis of `cbca_crop_eq_whole` -/

example : aggregate exCrop 2 2 0 = aggregate exWhole (2 + 1) (2 + 1) 0 :=
  cbca_crop_eq_whole exWhole exCrop 1 1 exCropOf 0 0 rfl (fun _ _ _ _ => rfl)
    (by decide +kernel) (by decide +kernel) 2 2 (by decide) (by decide) (by decide +kernel) (by decide +kernel)

/-! a 4 × 5 crop starting at (0, 0): the BORDER pixel (0, 1) (top and left side = the image's borders; `Rv = 2` rows
    below it and columns right of it are in the crop) satisfies every hypothesis of `cbca_crop_eq_whole_clipped` -/

def exCrop0 : Input := { exWhole with H := 4, W := 5 }

theorem exCropOf0 : CropOf exWhole exCrop0 0 0 :=
  ⟨rfl, rfl, rfl, rfl, rfl, rfl, rfl, rfl, rfl, by decide, by decide,
   fun _ _ _ _ => rfl, fun _ _ _ _ => rfl, fun _ _ _ _ => rfl, fun _ _ _ _ => rfl⟩

example : aggregate exCrop0 0 1 0 = aggregate exWhole (0 + 0) (1 + 0) 0 :=
  cbca_crop_eq_whole_clipped exWhole exCrop0 0 0 exCropOf0 0 0 rfl (fun _ _ _ _ => rfl)
    (by decide +kernel) (by decide +kernel) 0 1 (by decide) (by decide) (Or.inl rfl)
    (Or.inr (by decide +kernel)) (Or.inl rfl) (Or.inr (by decide +kernel))

end Pandora.C13
