/-
  C13 — locality of the bilateral filter (model of C10: `Filter.bilateralFilterDisparity`, block loops
  included), for a given window width `w` (`min(ny, nx, int(3·sigma_space + 1))` in the code: the same for a
  crop and the whole image as soon as the crop is at least `int(3·sigma_space + 1)` in both directions).

  On partial images the step reads the pixel's own (disparity, flag) and the `w × w` window that starts
  `w / 2` cells before the pixel (an even window has two radii: `w / 2` before, `w - 1 - w / 2` after);
  a window cell outside the image makes the pixel keep its disparity.
-/
import PandoraModel.Properties.C13Median

namespace Pandora.C13
open Pandora.Locality Pandora.Filter

theorem bilateralKernel_congr (wts : Weights) (w off : Nat) (win win' : Nat → Nat → Val) (hoff : off < w)
    (h : ∀ a b, a < w → b < w → win a b = win' a b) :
    bilateralKernel wts w off win = bilateralKernel wts w off win' := by
  have hc : win off off = win' off off := h _ _ hoff hoff
  have e1 : (cells w).map (cellWeight wts win (win off off)) = (cells w).map (cellWeight wts win' (win' off off)) := by
    apply List.map_congr_left
    intro p hp
    have hp' := (C10.mem_cells w p.1 p.2).1 hp
    unfold cellWeight
    rw [h p.1 p.2 hp'.1 hp'.2, hc]
  have e2 : (cells w).map (fun p => win p.1 p.2 * cellWeight wts win (win off off) p)
      = (cells w).map (fun p => win' p.1 p.2 * cellWeight wts win' (win' off off) p) := by
    apply List.map_congr_left
    intro p hp
    have hp' := (C10.mem_cells w p.1 p.2).1 hp
    unfold cellWeight
    rw [h p.1 p.2 hp'.1 hp'.2, hc]
  unfold bilateralKernel
  simp only
  rw [e1, e2]

def winOf (invalidMask w : Nat) (a : Locality.Img (Val × Nat)) (p : Px) : Nat → Nat → Val :=
  fun i j => maskedOpt invalidMask (a (p.1 - ((w / 2 : Nat) : Int) + (i : Int), p.2 - ((w / 2 : Nat) : Int) + (j : Int)))

/-- the window lies in the partial image: its first and last cells do -/
def winIn (w : Nat) (a : Locality.Img (Val × Nat)) (p : Px) : Prop :=
  (a (p.1 - ((w / 2 : Nat) : Int), p.2 - ((w / 2 : Nat) : Int))).isSome = true ∧
  (a (p.1 + ((w - 1 - w / 2 : Nat) : Int), p.2 + ((w - 1 - w / 2 : Nat) : Int))).isSome = true

instance (w : Nat) (a : Locality.Img (Val × Nat)) (p : Px) : Decidable (winIn w a p) := by
  unfold winIn; infer_instance

def bilateralStep (wts : Weights) (invalidMask w : Nat) : Locality.Img (Val × Nat) → Locality.Img Val :=
  fun a p => (a p).map fun x =>
    if (maskCell invalidMask x.2 x.1).isNum then
      (if winIn w a p then bilateralKernel wts w (w / 2) (winOf invalidMask w a p) else x.1)
    else x.1

def bilateralCone (w : Nat) : Cone := ⟨w / 2, w - 1 - w / 2, w / 2, w - 1 - w / 2⟩

theorem bilateralStep_local (wts : Weights) (invalidMask w : Nat) (hw : 0 < w) :
    Local (bilateralCone w) (bilateralStep wts invalidMask w) := by
  intro a b p hab
  unfold bilateralStep
  rw [hab p (inCone_self _ p)]
  congr 1
  funext x
  have hk : bilateralKernel wts w (w / 2) (winOf invalidMask w a p)
      = bilateralKernel wts w (w / 2) (winOf invalidMask w b p) := by
    apply bilateralKernel_congr wts w (w / 2) _ _ (by omega)
    intro i j hi hj
    unfold winOf
    rw [hab _ (by unfold inCone bilateralCone; dsimp only; omega)]
  refine if_congr Iff.rfl (if_congr ?_ hk rfl) rfl
  unfold winIn
  rw [hab _ (by unfold inCone bilateralCone; dsimp only; omega),
    hab _ (by unfold inCone bilateralCone; dsimp only; omega)]

theorem bilateralStep_equivariant (wts : Weights) (invalidMask w : Nat) :
    Equivariant (bilateralStep wts invalidMask w) := by
  intro t a
  funext p
  unfold bilateralStep
  show ((a (p.1 + t.1, p.2 + t.2)).map fun x => _) = ((a (p.1 + t.1, p.2 + t.2)).map fun x => _)
  congr 1
  funext x
  have hk : winOf invalidMask w (shift t a) p = winOf invalidMask w a (p.1 + t.1, p.2 + t.2) := by
    funext i j
    simp only [winOf, shift, Int.sub_eq_add_neg, Int.add_assoc, Int.add_comm, Int.add_left_comm]
  refine if_congr Iff.rfl (if_congr ?_ (congrArg _ hk) rfl) rfl
  simp only [winIn, shift, Int.sub_eq_add_neg, Int.add_assoc, Int.add_comm]

/-- **The model of `BilateralFilter.filter_disparity` is the step `bilateralStep`**, for every block split
    whose offsets start at `w / 2`, every window width and every map at least as large as the window. -/
theorem bilateralFilterDisparity_is_bilateralStep (s : Blocks.Split) (wts : Weights) (invalidMask w ny nx : Nat)
    (flags : Nat → Nat → Nat) (disp : Filter.Img)
    (hy : s.beginY = w / 2) (hx : s.beginX = w / 2) (hw : 0 < w) (hny : w ≤ ny) (hnx : w ≤ nx) :
    toImg ny nx (bilateralFilterDisparity s wts invalidMask w ny nx flags disp)
      = bilateralStep wts invalidMask w (toImg ny nx (zipArr disp flags)) := by
  apply toImg_eq_of_cells
  · intro r c hr hc
    unfold bilateralStep
    rw [toImg_some ny nx _ r c hr hc]
    show some _ = _
    congr 1
    symm
    unfold bilateralFilterDisparity
    rw [C10.bilateralFilter_eq_direct s wts w ny nx _ hy hx hw hny hnx]
    -- the two radii of the window as variables: `omega` then sees no division and no truncated subtraction
    obtain ⟨h, g, hh, hg, hsum⟩ : ∃ h g, w / 2 = h ∧ w - 1 - h = g ∧ h + g + 1 = w := ⟨_, _, rfl, rfl, by omega⟩
    rw [hh, hg]
    refine keep_or_filter maskCell_of_isNum ?_ fun hi => ?_
    · unfold winIn
      rw [hh, hg]
      simp only [interior, Bool.and_eq_true, decide_eq_true_eq, isSome_toImg, InImage]
      omega
    · apply bilateralKernel_congr wts w h _ _ (by omega)
      intro i j hiw hjw
      simp only [interior, Bool.and_eq_true, decide_eq_true_eq] at hi
      unfold winOf
      rw [hh]
      have e1 : ((r - h + i : Nat) : Int) = (r : Int) - (h : Int) + (i : Int) := by
        rw [Int.natCast_add, Int.natCast_sub hi.1.1.1]
      have e2 : ((c - h + j : Nat) : Int) = (c : Int) - (h : Int) + (j : Int) := by
        rw [Int.natCast_add, Int.natCast_sub hi.1.2]
      rw [← e1, ← e2, toImg_some ny nx _ _ _ (by omega) (by omega)]
      rfl
  · intro q hq
    unfold bilateralStep
    rw [toImg_none ny nx _ q hq]
    rfl

/-- **Bilateral filter: crop run = whole run** (same window width in both runs). -/
theorem bilateral_crop_eq_whole (s s' : Blocks.Split) (wts : Weights) (invalidMask w ny nx r0 c0 ny' nx' : Nat)
    (flags : Nat → Nat → Nat) (disp : Filter.Img)
    (hy : s.beginY = w / 2) (hx : s.beginX = w / 2) (hy' : s'.beginY = w / 2) (hx' : s'.beginX = w / 2)
    (hw : 0 < w) (hny : w ≤ ny') (hnx : w ≤ nx') (hfit : r0 + ny' ≤ ny ∧ c0 + nx' ≤ nx)
    (r c : Nat) (hr : r < ny') (hc : c < nx')
    (hcone : ∀ q, inCone (bilateralCone w) ((r : Int) + r0, (c : Int) + c0) q →
      InRect r0 c0 ny' nx' q ∨ ¬ InImage ny nx q) :
    bilateralFilterDisparity s' wts invalidMask w ny' nx' (cropArr r0 c0 flags) (cropArr r0 c0 disp) r c
      = bilateralFilterDisparity s wts invalidMask w ny nx flags disp (r + r0) (c + c0) :=
  crop_arr_eq_whole (crop_run_eq_whole (bilateralStep_local wts invalidMask w hw) (bilateralStep_equivariant wts invalidMask w))
    (bilateralFilterDisparity_is_bilateralStep s wts invalidMask w ny nx flags disp hy hx hw (by omega) (by omega))
    (bilateralFilterDisparity_is_bilateralStep s' wts invalidMask w ny' nx' _ _ hy' hx' hw hny hnx)
    (fun _ _ _ _ => rfl) hfit r c hr hc hcone

example : bilateralCone 4 = ⟨2, 1, 2, 1⟩ := by decide

end Pandora.C13
