/-
  C13 — locality of cross-checking (model of C07: `CrossCheck.ccPixel`, `CrossCheck.check`).

  A pixel `(r, c)` of `disparity_checking(left, right)` reads
    * its own left disparity and flag,
    * the right disparity at `c + rint(dL)` (its correspondent) and at `c + d` for every `d` of the
      interval `[int dmin, int dmax]` (the mismatch search), "outside the image" included,
    * and, when `offset_row_col > 0`, whether it is closer than the offset to an image edge (`mask_border`).
  When the rounded left disparity of every valid pixel lies in the interval (hypothesis `InInterval`:
  what the disparity step guarantees, C09), the correspondent is one of the `c + d`, and the step is a
  *stencil* on the pixel's own row, columns `c + dmin … c + dmax` (plus the four `mask_border` probes at
  distance `offset`).
-/
import PandoraModel.Properties.C13Util
import PandoraModel.Properties.C07

namespace Pandora.C13
open Pandora.Locality Pandora.CrossCheck

/-- `np.rint(disp_right(c + d)) == -d`, the right row being given relative to the pixel
    (`rd d` = the right disparity at column `c + d`, `none` outside the image) -/
def matchRel (rd : Int → Option Val) (d : Int) : Bool :=
  match rd d with
  | some (.num v) => rint v == -d
  | _ => false

def compRel (rd : Int → Option Val) (range : List Int) : Nat :=
  let n := (range.filter (matchRel rd)).length
  if n > 1 then 1 else n

def ccOutsideRel (V : Variant) (P : Params) (rd : Int → Option Val) (flag : Nat) : PixOut :=
  match V with
  | .asIs => ⟨flag, .nan⟩
  | .orFix => ⟨flag + Flags.occlusion, .nan⟩
  | .ruleFix =>
    let k := compRel rd (arange P.dmin P.dmax)
    ⟨flag + Flags.occlusion + Flags.mismatch * k - Flags.occlusion * k, .nan⟩

/-- `ccPixel` with the right row given relative to the pixel -/
def ccPixelRel (V : Variant) (P : Params) (rd : Int → Option Val) (dl : Val) (flag : Nat) : PixOut :=
  if Flags.isInvalid flag then ⟨flag, .nan⟩
  else
    match dl with
    | .nan => ccOutsideRel V P rd flag
    | .num v =>
      match rd (rint v) with
      | none => ccOutsideRel V P rd flag
      | some dr =>
        let conf := absSum (nanToInf dr) (nanToInf dl)
        if conf.gt P.threshold then
          let k := compRel rd (arange P.dmin P.dmax)
          ⟨flag + Flags.occlusion + Flags.mismatch * k - Flags.occlusion * k, conf.toConf⟩
        else ⟨flag, conf.toConf⟩

theorem matchAt_eq_rel (ncol : Nat) (dR : List Val) (c : Nat) (d : Int) :
    matchAt ncol dR c d = matchRel (fun d => dispRightAt ncol dR ((c : Int) + d)) d := rfl

theorem comp_eq_rel (ncol : Nat) (dR : List Val) (c : Nat) (range : List Int) :
    comp ncol dR c range = compRel (fun d => dispRightAt ncol dR ((c : Int) + d)) range := rfl

theorem ccOutside_eq_rel (V : Variant) (P : Params) (ncol : Nat) (dR : List Val) (c flag : Nat) (q : Option Int) :
    ccOutside V P ncol dR c flag q = ccOutsideRel V P (fun d => dispRightAt ncol dR ((c : Int) + d)) flag := by
  cases V with
  | asIs => simp [ccOutside, ccOutsideRel, C07.outside_never]
  | orFix => rfl
  | ruleFix => rfl

theorem ccPixel_eq_rel (V : Variant) (P : Params) (ncol : Nat) (dL dR : List Val) (c flag : Nat) :
    ccPixel V P ncol dL dR c flag
      = ccPixelRel V P (fun d => dispRightAt ncol dR ((c : Int) + d)) (dL.getD c .nan) flag := by
  unfold ccPixel ccPixelRel
  by_cases hinv : Flags.isInvalid flag = true
  · simp [hinv]
  · simp only [hinv, Bool.false_eq_true, if_false]
    cases hdl : dL.getD c .nan with
    | nan =>
      simp only [colRight, insideRight, Bool.false_eq_true, if_false]
      exact ccOutside_eq_rel V P ncol dR c flag none
    | num v =>
      simp only [colRight, insideRight]
      by_cases hin : (0 : Int) ≤ (c : Int) + rint v ∧ (c : Int) + rint v < (ncol : Int)
      · have h2 : dispRightAt ncol dR ((c : Int) + rint v) = some (dR.getD ((c : Int) + rint v).toNat .nan) :=
          if_pos hin
        simp only [hin.1, hin.2, decide_true, Bool.and_self, if_true, h2]
        unfold ccInside
        simp only [hdl, ← comp_eq_rel]
      · have h1 : (decide ((0 : Int) ≤ (c : Int) + rint v) && decide ((c : Int) + rint v < (ncol : Int))) = false := by
          simpa only [Bool.and_eq_false_iff, decide_eq_false_iff_not, not_and_or] using not_and_or.1 hin
        have h2 : dispRightAt ncol dR ((c : Int) + rint v) = none := if_neg hin
        simp only [h1, Bool.false_eq_true, if_false, h2]
        exact ccOutside_eq_rel V P ncol dR c flag _

def DispInInterval (P : Params) (dl : Val) (flag : Nat) : Prop :=
  Flags.isInvalid flag = true ∨ dl = .nan ∨ ∃ v, dl = .num v ∧ P.dmin ≤ rint v ∧ rint v ≤ P.dmax

theorem compRel_congr (rd rd' : Int → Option Val) (lo hi : Int) (h : ∀ d, lo ≤ d → d ≤ hi → rd d = rd' d) :
    compRel rd (arange lo hi) = compRel rd' (arange lo hi) := by
  unfold compRel
  have : (arange lo hi).filter (matchRel rd) = (arange lo hi).filter (matchRel rd') := by
    apply List.filter_congr
    intro d hd
    have := (C07.mem_arange lo hi d).1 hd
    unfold matchRel
    rw [h d this.1 this.2]
  rw [this]

/-- **One pixel only reads the right row inside the interval.** -/
theorem ccPixelRel_congr (V : Variant) (P : Params) (rd rd' : Int → Option Val) (dl : Val) (flag : Nat)
    (h : ∀ d, P.dmin ≤ d → d ≤ P.dmax → rd d = rd' d) (hin : DispInInterval P dl flag) :
    ccPixelRel V P rd dl flag = ccPixelRel V P rd' dl flag := by
  have hc := compRel_congr rd rd' P.dmin P.dmax h
  have ho : ccOutsideRel V P rd flag = ccOutsideRel V P rd' flag := by
    cases V <;> simp only [ccOutsideRel, hc]
  unfold ccPixelRel
  rcases hin with hinv | hnan | ⟨v, hv, h1, h2⟩
  · simp [hinv]
  · subst hnan; simp only [ho]
  · subst hv
    simp only [ho, hc, h (rint v) h1 h2]

/-- a pixel of the scene the step reads: left disparity, left flag, right disparity -/
abbrev CcCell := Val × Nat × Val

/-- offsets read by a pixel: itself, the four `mask_border` probes, the columns of the interval -/
def ccOffs (P : Params) : List Px :=
  (0, 0) :: (-(P.offset : Int), 0) :: ((P.offset : Int), 0) :: (0, -(P.offset : Int)) :: (0, (P.offset : Int))
    :: (arange P.dmin P.dmax).map fun d => ((0 : Int), d)

def rdOf (P : Params) (rs : List (Option CcCell)) (d : Int) : Option Val :=
  if P.dmin ≤ d ∧ d ≤ P.dmax then (rs.getD (d - P.dmin).toNat none).map fun x => x.2.2 else none

def ccG (V : Variant) (P : Params) : List (Option CcCell) → Option PixOut
  | some (dl, flag, _) :: b1 :: b2 :: b3 :: b4 :: rs =>
    let o := ccPixelRel V P (rdOf P rs) dl flag
    some ⟨if P.offset > 0 ∧ (b1.isNone ∨ b2.isNone ∨ b3.isNone ∨ b4.isNone) then Flags.leftNodataOrBorder else o.flag,
          o.conf⟩
  | _ => none

def ccStep (V : Variant) (P : Params) : Img CcCell → Img PixOut := stencil (ccOffs P) (ccG V P)

/-- the cone of cross-checking: the columns of the interval on the pixel's own row, widened by the
    `mask_border` offset in the four directions -/
def ccCone (P : Params) : Cone :=
  ⟨P.offset, P.offset, max P.offset (-P.dmin).toNat, max P.offset P.dmax.toNat⟩

theorem arange_map_getD {β : Type} (lo hi d : Int) (g : Int → Option β) (h1 : lo ≤ d) (h2 : d ≤ hi) :
    ((arange lo hi).map g).getD (d - lo).toNat none = g d := by
  unfold arange
  have hlt : (d - lo).toNat < (hi + 1 - lo).toNat := by omega
  simp [List.getD_eq_getElem?_getD, hlt]
  congr 1
  omega

/-- **What a pixel reads, exactly**: its own cell, and from the other cells of its cone only the right
    disparity (and whether the cell is in the image). -/
theorem ccStep_congr (V : Variant) (P : Params) (a b : Img CcCell) (p : Px) (h0 : a p = b p)
    (h : ∀ q, inCone (ccCone P) p q → (a q).map (fun x => x.2.2) = (b q).map (fun x => x.2.2)) :
    ccStep V P a p = ccStep V P b p := by
  have hnone : ∀ q, inCone (ccCone P) p q → (a q).isNone = (b q).isNone := fun q hq => by
    simpa using congrArg Option.isNone (h q hq)
  have hrd : rdOf P (List.map ((fun d => a (p.1 + d.1, p.2 + d.2)) ∘ fun d => ((0 : Int), d)) (arange P.dmin P.dmax))
      = rdOf P (List.map ((fun d => b (p.1 + d.1, p.2 + d.2)) ∘ fun d => ((0 : Int), d)) (arange P.dmin P.dmax)) := by
    funext d
    unfold rdOf
    by_cases hd : P.dmin ≤ d ∧ d ≤ P.dmax
    · rw [if_pos hd, if_pos hd, arange_map_getD P.dmin P.dmax d _ hd.1 hd.2,
        arange_map_getD P.dmin P.dmax d _ hd.1 hd.2]
      exact h _ (by unfold inCone ccCone; dsimp only; omega)
    · rw [if_neg hd, if_neg hd]
  unfold ccStep stencil ccOffs
  simp only [List.map_cons, List.map_map, Int.add_zero]
  rw [h0]
  cases hb : b p with
  | none => rfl
  | some x =>
    obtain ⟨dl, flag, dr⟩ := x
    simp only [ccG]
    rw [hrd, hnone _ (by unfold inCone ccCone; dsimp only; omega), hnone _ (by unfold inCone ccCone; dsimp only; omega),
      hnone _ (by unfold inCone ccCone; dsimp only; omega), hnone _ (by unfold inCone ccCone; dsimp only; omega)]

theorem ccStep_local (V : Variant) (P : Params) : Local (ccCone P) (ccStep V P) := fun a b p h =>
  ccStep_congr V P a b p (h p (inCone_self _ p)) fun q hq => congrArg _ (h q hq)

theorem ccCone_offset_zero (P : Params) (h : P.offset = 0) :
    ccCone P = Cone.row (-P.dmin).toNat P.dmax.toNat := by
  unfold ccCone Cone.row
  rw [h]
  simp

theorem ccStep_equivariant (V : Variant) (P : Params) : Equivariant (ccStep V P) :=
  stencil_equivariant _ _

def RectShapes (ny nx : Nat) (A B : Dataset) : Prop :=
  A.disp.length = ny ∧ ∀ r, r < ny → ∃ (dL dR : List Val) (mL : List Nat),
    A.disp[r]? = some dL ∧ B.disp[r]? = some dR ∧ A.mask[r]? = some mL ∧
    dL.length = nx ∧ dR.length = nx ∧ mL.length = nx

/-- the scene of `disparity_checking(A, B)` as an array of cells -/
def ccScene (A B : Dataset) : Nat → Nat → CcCell := fun r c =>
  ((A.disp.getD r []).getD c .nan, (A.mask.getD r []).getD c 0, (B.disp.getD r []).getD c .nan)

def InInterval (P : Params) (ny nx : Nat) (A : Dataset) : Prop :=
  ∀ r c, r < ny → c < nx →
    DispInInterval P ((A.disp.getD r []).getD c .nan) ((A.mask.getD r []).getD c 0)

/-- **The model of `disparity_checking` is the stencil `ccStep`** (flag word and confidence cell of every
    pixel), for rectangular maps of any size whose valid pixels have their rounded disparity in the
    interval of the search. -/
theorem check_is_ccStep (V : Variant) (P : Params) (ny nx : Nat) (A B : Dataset)
    (hs : RectShapes ny nx A B) (hin : InInterval P ny nx A) :
    toImg ny nx (fun r c => C07.outPix (check V P A B) r c) = ccStep V P (toImg ny nx (ccScene A B)) := by
  apply toImg_eq_of_cells
  · intro r c hr hc
    symm
    obtain ⟨hlen, hrows⟩ := hs
    obtain ⟨dL, dR, mL, hA, hB, hM, hlL, hlR, hlM⟩ := hrows r hr
    rw [C07.check_pix V P A B r c dL dR mL hA hB hM (by omega)]
    unfold ccStep stencil ccOffs
    simp only [List.map_cons, List.map_map, Int.add_zero]
    rw [toImg_some ny nx _ r c hr hc]
    have hsc : ∀ c', ccScene A B r c' = (dL.getD c' .nan, mL.getD c' 0, dR.getD c' .nan) := fun c' => by
      simp [ccScene, List.getD_eq_getElem?_getD, hA, hB, hM]
    rw [hsc]
    simp only [ccG]
    -- the right row read through the stencil is the right row of the model, inside the interval
    have hrd : ∀ d, P.dmin ≤ d → d ≤ P.dmax →
        rdOf P (List.map ((fun d => toImg ny nx (ccScene A B) ((r : Int) + d.1, (c : Int) + d.2)) ∘ fun d => ((0 : Int), d))
          (arange P.dmin P.dmax)) d = dispRightAt dL.length dR ((c : Int) + d) := by
      intro d h1 h2
      unfold rdOf
      rw [if_pos ⟨h1, h2⟩, arange_map_getD P.dmin P.dmax d _ h1 h2]
      simp only [Function.comp, Int.add_zero]
      unfold dispRightAt
      by_cases hd : (0 : Int) ≤ (c : Int) + d ∧ (c : Int) + d < (dL.length : Int)
      · rw [if_pos hd]
        rw [← Int.toNat_of_nonneg hd.1, toImg_some ny nx _ r _ hr (by omega), hsc]
        simp only [Option.map_some, Int.toNat_natCast]
      · rw [if_neg hd, toImg_none ny nx _ _ (by unfold InImage; simp only; omega)]
        rfl
    have hdi : DispInInterval P (dL.getD c .nan) (mL.getD c 0) := by
      simpa [List.getD_eq_getElem?_getD, hA, hM] using hin r c hr hc
    rw [ccPixel_eq_rel V P dL.length dL dR c (mL.getD c 0),
      ccPixelRel_congr V P _ _ _ _ (fun d h1 h2 => (hrd d h1 h2).symm) hdi]
    congr 2
    -- the border test: a probe at distance `offset` falls outside the image
    refine if_congr ?_ rfl rfl
    simp only [Option.isNone_iff_eq_none, toImg_eq_none_iff, InImage, isBorder, Bool.or_eq_true,
      decide_eq_true_eq, hlen, hlL]
    omega
  · intro q hq
    unfold ccStep stencil ccOffs
    simp only [List.map_cons, Int.add_zero]
    rw [toImg_none ny nx _ q hq]
    rfl

/-- **Cross-checking: crop run = whole run** (flag word and confidence cell).  `A'`, `B'` are `ny' × nx'` datasets
    whose cells are the cells `(r + r0, c + c0)` of the `ny × nx` datasets `A`, `B`. -/
theorem cc_crop_eq_whole (V : Variant) (P : Params) (ny nx r0 c0 ny' nx' : Nat) (A B A' B' : Dataset)
    (hs : RectShapes ny nx A B) (hs' : RectShapes ny' nx' A' B')
    (hin : InInterval P ny nx A) (hin' : InInterval P ny' nx' A')
    (hcrop : ∀ r c, r < ny' → c < nx' → ccScene A' B' r c = ccScene A B (r + r0) (c + c0))
    (hfit : r0 + ny' ≤ ny ∧ c0 + nx' ≤ nx) (r c : Nat) (hr : r < ny') (hc : c < nx')
    (hcone : ∀ q, inCone (ccCone P) ((r : Int) + r0, (c : Int) + c0) q →
      InRect r0 c0 ny' nx' q ∨ ¬ InImage ny nx q) :
    C07.outPix (check V P A' B') r c = C07.outPix (check V P A B) (r + r0) (c + c0) :=
  crop_arr_eq_whole (crop_run_eq_whole (ccStep_local V P) (ccStep_equivariant V P)) (check_is_ccStep V P ny nx A B hs hin)
    (check_is_ccStep V P ny' nx' A' B' hs' hin') hcrop hfit r c hr hc hcone

/-! ### Non-vacuity: the 1 × 5 pair of C07 (interval `[-2, 3]`, one half-integer disparity, one invalid pixel) -/

example : RectShapes 1 5 C07.exA C07.exB := by
  refine ⟨rfl, ?_⟩
  intro r hr
  have : r = 0 := by omega
  subst this
  exact ⟨_, _, _, rfl, rfl, rfl, rfl, rfl, rfl⟩

example : InInterval C07.exParams 1 5 C07.exA := by
  intro r c hr hc
  have : r = 0 := by omega
  subst this
  have hcases : c = 0 ∨ c = 1 ∨ c = 2 ∨ c = 3 ∨ c = 4 := by omega
  rcases hcases with rfl | rfl | rfl | rfl | rfl
  · exact Or.inr (Or.inr ⟨0, rfl, by decide +kernel, by decide +kernel⟩)
  · exact Or.inr (Or.inr ⟨1, rfl, by decide +kernel, by decide +kernel⟩)
  · exact Or.inr (Or.inr ⟨-1, rfl, by decide +kernel, by decide +kernel⟩)
  · exact Or.inr (Or.inr ⟨1 / 2, rfl, by decide +kernel, by decide +kernel⟩)
  · exact Or.inl (by decide)

end Pandora.C13
