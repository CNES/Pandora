/-
  C17 — the input schemas of `pandora/check_configuration.py` as literal terms (`generated_input_schemas`
  ties the regenerated tables to them) and what each accepts, for all values.
-/
import PandoraModel.Generated.Schemas
import PandoraModel.Lemmas.SchemaSem

namespace Pandora.C17W
open Pandora.Config Pandora.Generated.Schemas

theorem all2 (o : Oracle) (a b : Schema) (v : JVal) :
    Schema.accepts o (.all [a, b]) v = (Schema.accepts o a v && Schema.accepts o b v) := by
  rw [Schema.accepts_all, List.all_cons, List.all_cons, List.all_nil, Bool.and_true]

theorem any2 (o : Oracle) (a b : Schema) (v : JVal) :
    Schema.accepts o (.any [a, b]) v =
      (Schema.keptByOr v a && Schema.accepts o a v || Schema.keptByOr v b && Schema.accepts o b v) := by
  rw [Schema.accepts_any, List.any_cons, List.any_cons, List.any_nil, Bool.or_false]

theorem len_eq_holds (items : List JVal) (n : Int) :
    (Expr.cmp .eq (.len .var) (.lit (.int n))).holds (.list items) = decide ((items.length : Int) = n) := by
  simp [Expr.holds, Expr.eval, pyCmp, pyEq, JVal.toNum?, Num.eq, JVal.truthy]

/-- the schema `[t, t]`: a non-empty list whose elements are all `t`s — whatever its length, since a
    list of another length than the schema is checked element by element against the first component -/
theorem listOf_type_type (o : Oracle) (t : PyType) (items : List JVal) :
    Schema.accepts o (.listOf [.type t, .type t]) (.list items) = (!items.isEmpty && items.all t.isInstance) := by
  match items with
  | [] => rw [Schema.accepts_listOf_nil]; rfl
  | [a] => simp [Schema.accepts_listOf_cons, Schema.accepts_type]
  | [a, b] => simp [Schema.accepts_listOf_cons, Schema.acceptsZip_cons, Schema.acceptsZip_nil, Schema.accepts_type]
  | a :: b :: c :: rest => simp [Schema.accepts_listOf_cons, Schema.accepts_type]

/-- `rasterio_can_open_mandatory`: a string naming a file rasterio can open -/
def imgSchemaOk (files : Files) : Option JVal → Bool
  | some (.str p) => (files p).isSome
  | _ => false

/-- `rasterio_can_open`: `None`, or a string that is `"none"` or names a readable file -/
def auxSchemaOk (files : Files) : Option JVal → Bool
  | some .null => true
  | some (.str p) => p == "none" || (files p).isSome
  | _ => false

theorem fileOracle_mandatory (files : Files) (v : JVal) :
    fileOracle files "rasterio_can_open_mandatory" v = imgSchemaOk files (some v) := by
  cases v <;> simp [fileOracle, imgSchemaOk]

theorem fileOracle_optional (files : Files) (v : JVal) :
    fileOracle files "rasterio_can_open" v = auxSchemaOk files (some v) := by
  cases v <;> simp [fileOracle, auxSchemaOk]

def imgS : Schema := .all [.type .str, .oracle "rasterio_can_open_mandatory"]
def nodataS : Schema := .any [.type .int, .func (.and (.npIsscalar .var) (.npIsnan .var))]
def auxS : Schema := .all [.any [.type .str, .func (.isNone .var)], .oracle "rasterio_can_open"]
def rangeS : Schema := .all [.listOf [.type .int, .type .int], .func (.cmp .eq (.len .var) (.lit (.int 2)))]
def gridS : Schema := .all [.type .str, .oracle "rasterio_can_open"]
def noneS : Schema := .func (.isNone .var)

def baseEntries : List (String × Bool × Schema) :=
  [("img", false, imgS), ("nodata", false, nodataS), ("mask", false, auxS), ("classif", false, auxS),
   ("segm", false, auxS)]

def dL : Dict := [("nodata", .int (-9999)), ("mask", .null), ("classif", .null), ("segm", .null)]
def dR : Dict := [("nodata", .int (-9999)), ("mask", .null), ("classif", .null), ("segm", .null), ("disp", .null)]

/-- what the source says (regenerated on every run) is what the lemmas below are about: the five
    common entries, the three disparity completions selected by the type of the disparities, and
    the defaults `nodata` −9999, `mask` / `classif` / `segm` `None`, right `disp` `None` -/
theorem generated_input_schemas :
    inputSchemas.baseLeft = baseEntries ∧ inputSchemas.baseRight = baseEntries ∧
    inputSchemas.integerLeft = [("disp", false, rangeS)] ∧ inputSchemas.integerRight = [("disp", false, noneS)] ∧
    inputSchemas.gridNoneLeft = [("disp", false, gridS)] ∧ inputSchemas.gridNoneRight = [("disp", false, noneS)] ∧
    inputSchemas.gridGridLeft = [("disp", false, gridS)] ∧ inputSchemas.gridGridRight = [("disp", false, gridS)] ∧
    inputSchemas.defaults = [("input", .obj [("left", .obj dL), ("right", .obj dR)])] := by decide +kernel

theorem generated_defaults :
    inputSchemas.defaults = [("input", .obj [("left", .obj dL), ("right", .obj dR)])] :=
  generated_input_schemas.2.2.2.2.2.2.2.2

theorem img_entry (files : Files) (v : JVal) :
    Schema.accepts (fileOracle files) imgS v = imgSchemaOk files (some v) := by
  rw [imgS, all2, Schema.accepts_type, Schema.accepts_oracle, fileOracle_mandatory]
  cases v <;> rfl

/-- `nodata`: an integer or NaN — for ALL values: a list holding NaN is refused (the source tests
    `np.isscalar(x) and np.isnan(x)`), and so is a bool (`Or` keeps the alternatives of exactly the
    value's type: `True` is not tried against `int`) -/
def nodataOk : JVal → Bool
  | .int _ => true
  | .float .nan => true
  | _ => false

theorem nodata_entry (o : Oracle) (v : JVal) : Schema.accepts o nodataS v = nodataOk v := by
  rw [nodataS, any2, Schema.accepts_type, Schema.accepts_func]
  cases v with
  | float f => cases f <;> rfl
  | _ => rfl

/-- `mask` / `classif` / `segm`: the `Or(str, None)` in front of the oracle refuses nothing the oracle accepts -/
theorem aux_entry (files : Files) (v : JVal) :
    Schema.accepts (fileOracle files) auxS v = auxSchemaOk files (some v) := by
  rw [auxS, all2, any2, Schema.accepts_type, Schema.accepts_func, Expr.isNone_holds, Schema.accepts_oracle, fileOracle_optional]
  cases v <;> rfl

theorem none_entry (o : Oracle) (v : JVal) : Schema.accepts o noneS v = v.isNull := by
  rw [noneS, Schema.accepts_func, Expr.isNone_holds]

theorem grid_entry (files : Files) (v : JVal) :
    Schema.accepts (fileOracle files) gridS v = (auxSchemaOk files (some v) && v.isStr) := by
  rw [gridS, all2, Schema.accepts_type, Schema.accepts_oracle, fileOracle_optional, Bool.and_comm]
  cases v <;> rfl

/-- `[int, int]` with `len(x) == 2`: exactly the two-element lists of integers (bools included) -/
def twoInts : JVal → Bool
  | .list [a, b] => (intOf? a).isSome && (intOf? b).isSome
  | _ => false

theorem intOf_isSome (v : JVal) : (intOf? v).isSome = PyType.int.isInstance v := by
  cases v <;> rfl

theorem range_entry (o : Oracle) (v : JVal) : Schema.accepts o rangeS v = twoInts v := by
  rw [rangeS, all2, Schema.accepts_func]
  cases v with
  | list items =>
    rw [listOf_type_type, len_eq_holds]
    match items with
    | [] => rfl
    | [a] => simp [twoInts]
    | [a, b] => simp [twoInts, intOf_isSome]
    | a :: b :: c :: rest => simp [twoInts]; intros; omega
  | _ => rw [Schema.accepts_listOf_of_isList_eq_false _ _ _ rfl]; rfl

end Pandora.C17W
