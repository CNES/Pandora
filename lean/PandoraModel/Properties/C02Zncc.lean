/-
  C02, zncc — the algebra behind the zero-mean normalised cross-correlation, over ℚ, for block sums (`boxSum`; the sums
  of `meanRaster` and `winSum` are instances), and what it implies for the cells of the model.

  The specification writes the covariance as E[XY] − E[X]E[Y]; `cov_eq_centred` shows it is the textbook centred form,
  from which non-negativity of the variance and Cauchy–Schwarz follow.  The model stores a zncc cell symbolically as
  `Cell.zn cov vv`, meaning `cov / √vv` (no root is taken in Lean): every cell of the model's zncc volume is NaN, the
  number `0`, or `zn cov vv` with `0 < vv` and `cov² ≤ vv`, whatever the `1e-15` threshold of `compute_std_raster` does
  (a positive product of two thresholded radicands forces both to be the plain variances).
-/
import PandoraModel.Properties.C02

namespace Pandora.C02
open Pandora.MC

/-- `Σ_{a = r}^{r+n-1} Σ_{b = c}^{c+m-1} f a b` -/
def boxSum (n m : Nat) (f : Int → Int → Rat) (r c : Int) : Rat :=
  sumZ (0 : Rat) (fun a => sumZ (0 : Rat) (fun b => f a b) c m) r n

def mean (n m : Nat) (f : Int → Int → Rat) (r c : Int) : Rat :=
  boxSum n m f r c / ((n * m : Nat) : Rat)

theorem winSum_eq_boxSum (o : Nat) (f : Int → Int → Rat) (r c : Int) :
    winSum o f r c = boxSum (2 * o + 1) (2 * o + 1) f (r - o) (c - o) := rfl

theorem meanRaster_eq_mean (w : Nat) (f : Int → Int → Rat) (i j : Int) (hi : 0 ≤ i) (hj : 0 ≤ j) :
    meanRaster w f i j = mean w w f i j :=
  meanRaster_eq w f i j hi hj

theorem boxSum_add (n m : Nat) (f g : Int → Int → Rat) (r c : Int) :
    boxSum n m (fun a b => f a b + g a b) r c = boxSum n m f r c + boxSum n m g r c := by
  unfold boxSum
  simp only [sumZ_add_fun]

theorem boxSum_mul_const (n m : Nat) (f : Int → Int → Rat) (k : Rat) (r c : Int) :
    boxSum n m (fun a b => f a b * k) r c = boxSum n m f r c * k := by
  unfold boxSum
  simp only [sumZ_mul_const]

theorem boxSum_const (n m : Nat) (k : Rat) (r c : Int) :
    boxSum n m (fun _ _ => k) r c = (n : Rat) * ((m : Rat) * k) := by
  unfold boxSum
  simp only [sumZ_const]

theorem boxSum_nonneg (n m : Nat) (f : Int → Int → Rat) (r c : Int) (h : ∀ a b, 0 ≤ f a b) :
    0 ≤ boxSum n m f r c := by
  unfold boxSum
  exact sumZ_nonneg _ _ _ (fun a => sumZ_nonneg _ _ _ (fun b => h a b))

theorem mean_nonneg (n m : Nat) (f : Int → Int → Rat) (r c : Int) (h : ∀ a b, 0 ≤ f a b) :
    0 ≤ mean n m f r c := by
  unfold mean
  exact div_nonneg (boxSum_nonneg n m f r c h) (by exact_mod_cast Nat.zero_le _)

theorem boxSum_eq_zero_iff (n m : Nat) (f : Int → Int → Rat) (r c : Int) (h : ∀ a b, 0 ≤ f a b) :
    boxSum n m f r c = 0 ↔ ∀ i j : Nat, i < n → j < m → f (r + i) (c + j) = 0 := by
  unfold boxSum
  rw [sumZ_eq_zero_iff _ _ _ (fun a => sumZ_nonneg _ _ _ (fun b => h a b))]
  constructor
  · intro H i j hi hj
    exact (sumZ_eq_zero_iff (fun b => f (r + i) b) c m (fun b => h _ b)).mp (H i hi) j hj
  · intro H i hi
    exact (sumZ_eq_zero_iff (fun b => f (r + i) b) c m (fun b => h _ b)).mpr (fun j hj => H i j hi hj)

theorem boxSum_centred (n m : Nat) (X Y : Int → Int → Rat) (μ ν : Rat) (r c : Int) :
    boxSum n m (fun a b => (X a b - μ) * (Y a b - ν)) r c
      = boxSum n m (fun a b => X a b * Y a b) r c - ν * boxSum n m X r c - μ * boxSum n m Y r c
        + (n : Rat) * (m : Rat) * (μ * ν) := by
  have e : (fun a b => (X a b - μ) * (Y a b - ν))
      = fun a b => X a b * Y a b + (X a b * (-ν) + (Y a b * (-μ) + μ * ν)) := by funext a b; ring
  rw [e]
  simp only [boxSum_add, boxSum_mul_const, boxSum_const]
  ring

/-- **`E[XY] − E[X]·E[Y] = E[(X − EX)(Y − EY)]`** over any non-empty block -/
theorem cov_eq_centred (n m : Nat) (hn : 0 < n) (hm : 0 < m) (X Y : Int → Int → Rat) (r c : Int) :
    mean n m (fun a b => X a b * Y a b) r c - mean n m X r c * mean n m Y r c
      = mean n m (fun a b => (X a b - mean n m X r c) * (Y a b - mean n m Y r c)) r c := by
  have hNpos : (0 : Rat) < ((n * m : Nat) : Rat) := by exact_mod_cast Nat.mul_pos hn hm
  have hN0 : ((n * m : Nat) : Rat) ≠ 0 := ne_of_gt hNpos
  have hN : (n : Rat) * (m : Rat) = ((n * m : Nat) : Rat) := (Nat.cast_mul n m).symm
  have hX : boxSum n m X r c = mean n m X r c * ((n * m : Nat) : Rat) := by unfold mean; field_simp
  have hY : boxSum n m Y r c = mean n m Y r c * ((n * m : Nat) : Rat) := by unfold mean; field_simp
  generalize mean n m X r c = μ at hX ⊢
  generalize mean n m Y r c = ν at hY ⊢
  unfold mean
  rw [boxSum_centred, hX, hY, hN]
  field_simp
  ring

theorem var_eq_centred (n m : Nat) (hn : 0 < n) (hm : 0 < m) (X : Int → Int → Rat) (r c : Int) :
    mean n m (fun a b => X a b * X a b) r c - mean n m X r c * mean n m X r c
      = mean n m (fun a b => (X a b - mean n m X r c) * (X a b - mean n m X r c)) r c :=
  cov_eq_centred n m hn hm X X r c

theorem var_nonneg (n m : Nat) (hn : 0 < n) (hm : 0 < m) (X : Int → Int → Rat) (r c : Int) :
    0 ≤ mean n m (fun a b => X a b * X a b) r c - mean n m X r c * mean n m X r c := by
  rw [var_eq_centred n m hn hm X r c]
  exact mean_nonneg n m _ r c (fun a b => mul_self_nonneg _)

/-- the variance vanishes exactly when the block is uniform (every cell equals the mean) -/
theorem var_eq_zero_iff (n m : Nat) (hn : 0 < n) (hm : 0 < m) (X : Int → Int → Rat) (r c : Int) :
    mean n m (fun a b => X a b * X a b) r c - mean n m X r c * mean n m X r c = 0
      ↔ ∀ i j : Nat, i < n → j < m → X (r + i) (c + j) = mean n m X r c := by
  have hNpos : (0 : Rat) < ((n * m : Nat) : Rat) := by exact_mod_cast Nat.mul_pos hn hm
  rw [var_eq_centred n m hn hm X r c]
  generalize mean n m X r c = μ
  unfold mean
  rw [div_eq_zero_iff, boxSum_eq_zero_iff n m _ r c (fun a b => mul_self_nonneg _)]
  constructor
  · rintro (H | H)
    · intro i j hi hj
      have := H i j hi hj
      have := mul_self_eq_zero.mp this
      linarith
    · exact absurd H (ne_of_gt hNpos)
  · intro H
    left
    intro i j hi hj
    rw [H i j hi hj]; ring

theorem discriminant_le (A B C : Rat) (hB : 0 ≤ B) (key : ∀ t : Rat, 0 ≤ A - 2 * t * C + t * t * B) :
    C * C ≤ A * B := by
  by_cases hB0 : B = 0
  · -- a linear function of `t` that is never negative is constant
    have hC : C = 0 := by
      by_contra hC
      have h1 := key ((A + 1) / (2 * C))
      have : 2 * ((A + 1) / (2 * C)) * C = A + 1 :=
        calc 2 * ((A + 1) / (2 * C)) * C = (A + 1) / (2 * C) * (2 * C) := by ring
          _ = A + 1 := div_mul_cancel₀ _ (mul_ne_zero two_ne_zero hC)
      rw [hB0, this] at h1
      linarith
    rw [hC, hB0, mul_zero, mul_zero]
  · -- the minimum, at `t = C / B`, is `A − C² / B`
    have hBpos : 0 < B := lt_of_le_of_ne hB (Ne.symm hB0)
    have h1 := key (C / B)
    rw [mul_assoc (C / B), div_mul_cancel₀ C hB0] at h1
    have h2 : C * C / B ≤ A := by rw [← div_mul_eq_mul_div]; linarith
    have := (div_le_iff₀ hBpos).mp h2
    linarith

theorem boxSum_cauchy_schwarz (n m : Nat) (u v : Int → Int → Rat) (r c : Int) :
    boxSum n m (fun a b => u a b * v a b) r c * boxSum n m (fun a b => u a b * v a b) r c
      ≤ boxSum n m (fun a b => u a b * u a b) r c * boxSum n m (fun a b => v a b * v a b) r c := by
  apply discriminant_le
  · exact boxSum_nonneg n m _ r c (fun a b => mul_self_nonneg _)
  · intro t
    have h := boxSum_nonneg n m (fun a b => (u a b - v a b * t) * (u a b - v a b * t)) r c
      (fun a b => mul_self_nonneg _)
    have e : (fun a b => (u a b - v a b * t) * (u a b - v a b * t))
        = fun a b => u a b * u a b + (u a b * v a b * (-(2 * t)) + v a b * v a b * (t * t)) := by funext a b; ring
    rw [e] at h
    simp only [boxSum_add, boxSum_mul_const] at h
    linarith

theorem cov_sq_le_var_mul_var (n m : Nat) (hn : 0 < n) (hm : 0 < m) (X Y : Int → Int → Rat) (r c : Int) :
    (mean n m (fun a b => X a b * Y a b) r c - mean n m X r c * mean n m Y r c)
        * (mean n m (fun a b => X a b * Y a b) r c - mean n m X r c * mean n m Y r c)
      ≤ (mean n m (fun a b => X a b * X a b) r c - mean n m X r c * mean n m X r c)
        * (mean n m (fun a b => Y a b * Y a b) r c - mean n m Y r c * mean n m Y r c) := by
  have hNpos : (0 : Rat) < ((n * m : Nat) : Rat) := by exact_mod_cast Nat.mul_pos hn hm
  rw [cov_eq_centred n m hn hm X Y r c, var_eq_centred n m hn hm X r c, var_eq_centred n m hn hm Y r c]
  generalize mean n m X r c = μ
  generalize mean n m Y r c = ν
  have hcs := boxSum_cauchy_schwarz n m (fun a b => X a b - μ) (fun a b => Y a b - ν) r c
  unfold mean
  rw [div_mul_div_comm, div_mul_div_comm]
  exact div_le_div_of_nonneg_right hcs (le_of_lt (mul_pos hNpos hNpos))

/-- the squared correlation coefficient is at most 1 wherever it is defined (no square root involved:
    `(cov / √(vX·vY))² = cov² / (vX·vY)`) -/
theorem corr_sq_le_one (n m : Nat) (hn : 0 < n) (hm : 0 < m) (X Y : Int → Int → Rat) (r c : Int)
    (hpos : 0 < (mean n m (fun a b => X a b * X a b) r c - mean n m X r c * mean n m X r c)
        * (mean n m (fun a b => Y a b * Y a b) r c - mean n m Y r c * mean n m Y r c)) :
    (mean n m (fun a b => X a b * Y a b) r c - mean n m X r c * mean n m Y r c)
        * (mean n m (fun a b => X a b * Y a b) r c - mean n m X r c * mean n m Y r c)
      / ((mean n m (fun a b => X a b * X a b) r c - mean n m X r c * mean n m X r c)
        * (mean n m (fun a b => Y a b * Y a b) r c - mean n m Y r c * mean n m Y r c)) ≤ 1 :=
  (div_le_iff₀ hpos).mpr (by rw [one_mul]; exact cov_sq_le_var_mul_var n m hn hm X Y r c)

theorem winMean_eq (x : Input) (h : Shape x) (f : Int → Int → Rat) (r c : Int) :
    winSum (half x.w) f r c / ((x.w * x.w : Nat) : Rat)
      = mean x.w x.w f (r - (half x.w : Nat)) (c - (half x.w : Nat)) := by
  unfold mean boxSum winSum
  rw [← window_eq x h]

/-- zncc written as in the textbooks: `E[(L − EL)(R̃ − ER̃)] / √(E[(L − EL)²]·E[(R̃ − ER̃)²])`, `0` when a
    centred second moment vanishes -/
def valueZnccCentred (x : Input) (r c k : Int) : Cell :=
  let o := half x.w
  let n : Rat := ((x.w * x.w : Nat) : Rat)
  let lf := x.L.px
  let rt := fun (a b : Int) => interpR x.R x.sp k a b
  let eL := winSum o lf r c / n
  let eR := winSum o rt r c / n
  let cov := winSum o (fun a b => (lf a b - eL) * (rt a b - eR)) r c / n
  let vL := winSum o (fun a b => (lf a b - eL) * (lf a b - eL)) r c / n
  let vR := winSum o (fun a b => (rt a b - eR) * (rt a b - eR)) r c / n
  if vL = 0 ∨ vR = 0 then .num 0 else .zn cov (vL * vR)

/-- **the `E[XY] − E[X]E[Y]` form the specification uses is the textbook centred form** -/
theorem valueSpec_zncc_eq_centred (x : Input) (h : Shape x) (hm : x.meas = .zncc) (r c k : Int) :
    valueSpec x r c k = valueZnccCentred x r c k := by
  have hw : 0 < x.w := by have := h.odd; omega
  unfold valueSpec valueZnccCentred
  simp only [hm, winMean_eq x h]
  rw [cov_eq_centred x.w x.w hw hw x.L.px (fun a b => interpR x.R x.sp k a b),
    var_eq_centred x.w x.w hw hw x.L.px, var_eq_centred x.w x.w hw hw (fun a b => interpR x.R x.sp k a b)]

/-- what a zncc cell can be: NaN, the number `0`, or the symbolic quotient `cov / √vv` with `vv > 0` and
    `cov² ≤ vv` (so that its square `cov² / vv` is at most 1) -/
def znccCellOK : Cell → Prop
  | .nan => True
  | .num q => q = 0
  | .zn cov vv => 0 < vv ∧ cov * cov ≤ vv

theorem valueZnccRaw_cellOK (x : Input) (h : Shape x) (r c k : Int) : znccCellOK (valueZnccRaw x r c k) := by
  have hw : 0 < x.w := by have := h.odd; omega
  unfold valueZnccRaw
  simp only
  split
  · rename_i hpos
    obtain ⟨hL, hR⟩ := radicand_mul_pos hpos
    refine ⟨hpos, ?_⟩
    rw [hL, hR]
    simp only [winMean_eq x h]
    exact cov_sq_le_var_mul_var x.w x.w hw hw x.L.px (fun a b => interpR x.R x.sp k a b) _ _
  · rfl

theorem zncc_costVolume_cellOK (x : Input) (h : Shape x) (hm : x.meas = .zncc)
    (hg : x.gmin ≤ x.gmax) (r c : Int) (j : Nat) (hj : j < x.nSamples) :
    znccCellOK (costVolume x r c j) := by
  rw [costVolume_cell x h hg r c j hj]
  by_cases hc : cause x r c (x.gmin * (x.sp : Int) + j) = .computable
  · rw [specCellWith_of_computable hc, codeValue_zncc x hm]
    exact valueZnccRaw_cellOK x h r c _
  · rw [specCellWith_of_not hc]
    trivial

set_option linter.unusedVariables false in
/-- `cmax_bound`, zncc: every symbolic cell `cov/√vv` of the volume has `cov² ≤ vv`, i.e. `|zncc| ≤ 1 = cmax`
    (Cauchy–Schwarz over the window: `zncc_costVolume_cellOK`; the hypothesis `hz` plays no role) -/
theorem cmax_bound_zncc (x : Input) (hwf : wfShape x = true) (hm : x.meas = .zncc)
    (hz : ∀ k : Int, noTinyVariance x k = true) (r c : Int) (j : Nat)
    (hj : j < nDisp (gridMin x.dminG x.L.rows x.L.cols) (gridMax x.dmaxG x.L.rows x.L.cols) x.sp)
    (cov vv : Rat) (hq : costVolume x r c j = .zn cov vv) : cov * cov ≤ vv := by
  have hok := zncc_costVolume_cellOK x (shape_of_wf x hwf) hm (gridOK_of_wf x hwf) r c j hj
  rw [hq] at hok
  exact hok.2

/-- **`|zncc| ≤ 1` without a square root and without the variance-threshold hypothesis**: a symbolic cell
    `cov / √vv` of the model's zncc volume has `vv > 0` and `(cov/√vv)² = cov² / vv ≤ 1`; a numeric cell is `0` -/
theorem zncc_sq_le_one (x : Input) (hwf : wfShape x = true) (hm : x.meas = .zncc) (r c : Int) (j : Nat)
    (hj : j < nDisp (gridMin x.dminG x.L.rows x.L.cols) (gridMax x.dmaxG x.L.rows x.L.cols) x.sp) :
    (∀ cov vv, costVolume x r c j = .zn cov vv → 0 < vv ∧ cov * cov / vv ≤ 1)
    ∧ (∀ q, costVolume x r c j = .num q → q * q ≤ 1) := by
  have hok := zncc_costVolume_cellOK x (shape_of_wf x hwf) hm (gridOK_of_wf x hwf) r c j hj
  constructor
  · intro cov vv hq
    rw [hq] at hok
    exact ⟨hok.1, (div_le_iff₀ hok.1).mpr (by rw [one_mul]; exact hok.2)⟩
  · intro q hq
    rw [hq] at hok
    have : q = 0 := hok
    rw [this]; norm_num

namespace ZnccExample

def X : Int → Int → Rat := fun a b => ((a + b : Int) : Rat)
def Y : Int → Int → Rat := fun a b => ((2 * b - a : Int) : Rat)

/-- a 2 × 3 block of a concrete pair: both forms of the covariance are `13/12`, the variances `11/12` and
    `35/12`, and `(13/12)² < 11/12 · 35/12` -/
example : mean 2 3 (fun a b => X a b * Y a b) 0 0 - mean 2 3 X 0 0 * mean 2 3 Y 0 0 = 13 / 12 := by
  decide +kernel
example : mean 2 3 (fun a b => (X a b - mean 2 3 X 0 0) * (Y a b - mean 2 3 Y 0 0)) 0 0 = 13 / 12 := by
  decide +kernel
example : mean 2 3 (fun a b => X a b * X a b) 0 0 - mean 2 3 X 0 0 * mean 2 3 X 0 0 = 11 / 12 := by
  decide +kernel
example : mean 2 3 (fun a b => Y a b * Y a b) 0 0 - mean 2 3 Y 0 0 * mean 2 3 Y 0 0 = 35 / 12 := by
  decide +kernel

def noMask : Mask := { present := false, code := fun _ _ => 0, valid := 0, nodata := 1 }

/-- 3 × 5 pair that is not an affine copy of itself, window 3, subpix 2, interval `[-1, 1]` -/
def exZ : Input where
  meas := .zncc
  w := 3
  sp := 2
  L := { rows := 3, cols := 5, px := fun r c => ((r * r + 2 * c : Int) : Rat) }
  R := { rows := 3, cols := 5, px := fun r c => ((r * c + c * c : Int) : Rat) }
  mL := noMask
  mR := noMask
  dminG := fun _ _ => -1
  dmaxG := fun _ _ => 1

example : wf exZ = true := by decide
example : Shape exZ := shape_of_wf _ (by decide)
/-- a symbolic cell at the fractional disparity `-1/2`: `cov² = 1452/27 < 1925/27 = vv` -/
example : costVolume exZ 1 2 1 = .zn (22 / 3) (1925 / 27) := by decide +kernel
/-- the pair `R = L − 1` of Properties/C02.lean attains the bound: `cov² = vv` -/
example : costVolume (Example.exIn .zncc) 1 1 2 = .zn (50 / 9) (2500 / 81) := by decide +kernel
example : costVolume (Example.exIn .zncc) 0 1 2 = .nan := by decide
/-- a uniform left image: the variance vanishes and the cell is the number `0`, not NaN -/
example : costVolume { exZ with L := { rows := 3, cols := 5, px := fun _ _ => 7 } } 1 2 2 = .num 0 := by
  decide +kernel

end ZnccExample

end Pandora.C02
