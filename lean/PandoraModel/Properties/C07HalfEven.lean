/-
  C07 — the specification, in both readings of `round`.

  The statement of C07 writes `q = p + round(dL(p))` and `round(dR(p + d)) = -d`.  `clausesPix` reads `round` as "a
  nearest integer" and accepts, on an exact half, an outcome that is right for either neighbour.  Python's `round` and
  `np.rint` both round an exact half to the even neighbour; `clausesPixEven` reads `round` that way at BOTH rounding
  sites (single correspondent `p + rintEven(dL(p))`, witness test `rintEven(dR(p + d)) = -d`, no alternatives).
  The model is shown to satisfy the half-even clauses; these imply the loose ones for any output, so the two readings
  are never in conflict and the loose theorems are corollaries.
-/
import PandoraModel.Properties.C07

namespace Pandora.C07
open Pandora.CrossCheck

theorem correspondentEven_eq_colRight (dL : List Val) (c : Nat) :
    correspondentEven dL c = colRight c (dL.getD c .nan) := by
  unfold correspondentEven colRight
  cases dL.getD c .nan with
  | nan => rfl
  | num d => simp only [rintEven_eq_rint]

theorem correspondentEven_mem (dL : List Val) (c : Nat) (q : Int) (h : correspondentEven dL c = some q) :
    q ∈ correspondents dL c := by
  unfold correspondentEven at h
  unfold correspondents
  cases hd : dL.getD c .nan with
  | nan => rw [hd] at h; cases h
  | num d =>
    rw [hd] at h
    simp only [Option.some.injEq] at h
    simp only [List.mem_map]
    exact ⟨rint d, rint_mem_nearest d, rintEven_eq_rint d ▸ h⟩

theorem correspondentEven_none (dL : List Val) (c : Nat) (h : correspondentEven dL c = none) :
    correspondents dL c = [] := by
  unfold correspondentEven at h
  unfold correspondents
  cases hd : dL.getD c .nan with
  | nan => rfl
  | num d => rw [hd] at h; cases h

/-- the choice among several nearest integers: if the outcome is right for one of them, the pixel's
    clauses hold -/
theorem clausesPix_of_candidate (P : Params) (dL dR : List Val) (c flag : Nat) (o : PixOut) (qi : Int)
    (hv : Flags.isInvalid flag = false) (hmem : qi ∈ correspondents dL c)
    (hok : allOK (clausesValid P dL dR c flag o (some qi)) = true) :
    allOK (clausesPix P false dL dR c flag o) = true := by
  unfold clausesPix
  simp only [Bool.false_eq_true, ↓reduceIte, hv]
  cases hl : correspondents dL c with
  | nil => rw [hl] at hmem; cases hmem
  | cons q qs =>
    cases qs with
    | nil =>
      rw [hl] at hmem
      simp only [List.mem_singleton] at hmem
      subst hmem
      exact hok
    | cons q' qs' =>
      simp only
      cases hf : List.find? (fun q => allOK (clausesValid P dL dR c flag o (some q))) (q :: q' :: qs') with
      | some q'' =>
        simp only
        have := List.find?_some hf
        exact this
      | none =>
        exfalso
        rw [List.find?_eq_none] at hf
        rw [hl] at hmem
        exact absurd hok (by simpa using hf qi hmem)

/-- what `+= OCCLUSION; += MISMATCH * comp; -= OCCLUSION * comp` leaves satisfies every clause of a pixel
    that is not consistent: mismatch iff the search found a witness, occlusion otherwise, never both, no
    other bit touched. -/
theorem flagged_clausesEven (P : Params) (ncol : Nat) (dL dR : List Val) (c flag : Nat) (conf : Conf) (q : Option Int)
    (hlen : dR.length = ncol) (hv : Flags.isInvalid flag = false)
    (hcons : consistentOpt P dL dR c q = false)
    (hconf : confOKOpt dL dR c conf q = true) :
    allOK (clausesValidEven P dL dR c flag
      ⟨flag + Flags.occlusion + Flags.mismatch * comp ncol dR c (arange P.dmin P.dmax)
        - Flags.occlusion * comp ncol dR c (arange P.dmin P.dmax), conf⟩ q) = true := by
  obtain ⟨h8, h9⟩ := valid_bits_clear flag hv
  have hk := comp_cases ncol dR c (arange P.dmin P.dmax)
  obtain ⟨b9, b8, hsame⟩ := flag_arith flag _ h8 h9 hk
  have hiff := comp_eq_one_iff_witnessEven P ncol dR c hlen
  simp only [clausesValidEven, hcons, Bool.false_eq_true, ↓reduceIte, allOK, List.all_cons, List.all_nil, Bool.and_true,
    Bool.and_eq_true, hsame, hconf, b9, b8]
  rcases hk with hk | hk
  · have hw : witnessEven P dR c = false := by
      by_contra hw
      have := hiff.mpr (by simpa using hw)
      omega
    simp [hk, hw]
  · have hw := hiff.mp hk
    simp [hk, hw]

theorem inside_consistent_iff (P : Params) (ncol : Nat) (dL dR : List Val) (c : Nat) (qi : Int)
    (hlen : dR.length = ncol) (hi : insideRight ncol (some qi) = true) :
    consistentOpt P dL dR c (some qi)
        = !(absSum (nanToInf (dR.getD qi.toNat .nan)) (nanToInf (dL.getD c .nan))).gt P.threshold
    ∧ confOKOpt dL dR c (absSum (nanToInf (dR.getD qi.toNat .nan)) (nanToInf (dL.getD c .nan))).toConf (some qi) = true := by
  simp only [insideRight, Bool.and_eq_true, decide_eq_true_eq] at hi
  simp only [consistentOpt, consistentAt, confOKOpt, distance, cell_inrange dR qi hi.1 (hlen ▸ hi.2), beq_self_eq_true,
    and_true]
  cases absSum (nanToInf (dR.getD qi.toNat .nan)) (nanToInf (dL.getD c .nan)) with
  | inf => rfl
  | fin x => simp only [Ext.gt, ← not_lt, decide_not]

theorem outside_not_consistent (P : Params) (ncol : Nat) (dL dR : List Val) (c : Nat) (conf : Conf) (qi : Int)
    (hlen : dR.length = ncol) (hout : insideRight ncol (some qi) = false) :
    consistentOpt P dL dR c (some qi) = false ∧ confOKOpt dL dR c conf (some qi) = true := by
  simp only [insideRight, Bool.and_eq_false_iff, decide_eq_false_iff_not] at hout
  have hcell : cell dR qi = none := by
    simp only [cell, hlen]
    exact if_neg (not_and_or.mpr hout)
  simp only [consistentOpt, consistentAt, confOKOpt, distance, hcell, and_self]

theorem ccInside_clausesEven (P : Params) (ncol : Nat) (dL dR : List Val) (c flag : Nat) (qi : Int)
    (hlen : dR.length = ncol) (hv : Flags.isInvalid flag = false) (hi : insideRight ncol (some qi) = true) :
    allOK (clausesValidEven P dL dR c flag (ccInside P ncol dL dR c flag qi) (some qi)) = true := by
  obtain ⟨hcons, hconf⟩ := inside_consistent_iff P ncol dL dR c qi hlen hi
  unfold ccInside
  simp only
  split
  · rename_i hgt
    exact flagged_clausesEven P ncol dL dR c flag _ (some qi) hlen hv (by rw [hcons, hgt]; rfl) hconf
  · rename_i hgt
    rw [Bool.not_eq_true] at hgt
    simp only [clausesValidEven, hcons, hgt, Bool.not_false, if_true, allOK, List.all_cons, List.all_nil, Bool.and_true,
      beq_self_eq_true, hconf]

/-- **C07 half-even, one pixel.**  The half-even correspondent is the model's `col_right`: no correspondent (NaN) and a
    correspondent outside the image are flagged by the search alone (repaired step only), one inside the image by
    `ccInside`. -/
theorem ccPixel_specEven (V : Variant) (P : Params) (ncol : Nat) (dL dR : List Val) (c flag : Nat)
    (hlen : dR.length = ncol)
    (h : V = .ruleFix ∨ (Flags.isInvalid flag = false → insideRight ncol (colRight c (dL.getD c .nan)) = true)) :
    allOK (clausesPixEven P false dL dR c flag (ccPixel V P ncol dL dR c flag)) = true := by
  unfold clausesPixEven
  rw [correspondentEven_eq_colRight, if_neg Bool.false_ne_true]
  rcases ccPixel_cases V P ncol dL dR c flag with ⟨hv, e⟩ | ⟨hv, qi, hq, hi, e⟩ | ⟨hv, ho, e⟩ <;> rw [e, hv]
  · simp only [if_true, allOK, List.all_cons, List.all_nil, beq_self_eq_true, Bool.and_self]
  · rw [if_neg Bool.false_ne_true, hq]
    exact ccInside_clausesEven P ncol dL dR c flag qi hlen hv hi
  · -- no correspondent in the image: only the repaired step flags the pixel, by the search alone
    rw [if_neg Bool.false_ne_true]
    rcases h with rfl | h
    · cases hq : colRight c (dL.getD c .nan) with
      | none => exact flagged_clausesEven P ncol dL dR c flag .nan none hlen hv rfl rfl
      | some qi =>
        obtain ⟨hnc, hcf⟩ := outside_not_consistent P ncol dL dR c .nan qi hlen (hq ▸ ho)
        exact flagged_clausesEven P ncol dL dR c flag .nan (some qi) hlen hv hnc hcf
    · rw [h hv] at ho
      cases ho

/-- rows and columns of the two datasets line up -/
def WfShapes (A B : Dataset) : Prop :=
  A.disp.length = B.disp.length ∧ A.disp.length = A.mask.length ∧
  ∀ (r : Nat) (dL dR : List Val) (mL : List Nat), A.disp[r]? = some dL → B.disp[r]? = some dR → A.mask[r]? = some mL →
    dR.length = dL.length ∧ mL.length = dL.length

/-- the correspondent of every previously valid, non-border pixel of `A` lies in the right image -/
def CorrespondentsInside (P : Params) (A : Dataset) : Prop :=
  ∀ (r c : Nat) (dL : List Val) (mL : List Nat), A.disp[r]? = some dL → A.mask[r]? = some mL → c < dL.length →
    ¬(P.offset > 0 ∧ isBorder P.offset A.disp.length dL.length r c = true) →
    Flags.isInvalid (mL.getD c 0) = false → insideRight dL.length (colRight c (dL.getD c .nan)) = true

/-- **C07 half-even, the whole map**: every output cell `(r, c)` of `disparity_checking(A, B)` satisfies its clauses,
    for the repaired step without exception, for any variant when the correspondents are inside.
    Full-strength statement (false of `asIs` / `orFix` — `cc_outside_counterexample`, finding C07-F1): the same
    without that proviso. -/
theorem check_specEven (V : Variant) (P : Params) (A B : Dataset) (hw : WfShapes A B)
    (h : V = .ruleFix ∨ CorrespondentsInside P A)
    (r c : Nat) (dL dR : List Val) (mL : List Nat)
    (hA : A.disp[r]? = some dL) (hB : B.disp[r]? = some dR) (hM : A.mask[r]? = some mL) (hc : c < dL.length) :
    allOK (clausesPixEven P (decide (P.offset > 0) && isBorder P.offset A.disp.length dL.length r c)
      dL dR c (mL.getD c 0) (outPix (check V P A B) r c)) = true := by
  rw [check_pix V P A B r c dL dR mL hA hB hM hc]
  by_cases hb : P.offset > 0 ∧ isBorder P.offset A.disp.length dL.length r c = true
  · -- `mask_border` writes the border word
    simp only [hb.1, hb.2, decide_true, Bool.and_self, if_true, and_self, clausesPixEven, allOK, List.all_cons,
      List.all_nil, beq_self_eq_true]
  · have hb' : (decide (P.offset > 0) && isBorder P.offset A.disp.length dL.length r c) = false := by
      rw [Bool.and_eq_false_iff, decide_eq_false_iff_not]
      exact (not_and_or.mp hb).imp_right (Bool.not_eq_true _ ▸ ·)
    rw [hb', if_neg hb]
    exact ccPixel_specEven V P dL.length dL dR c (mL.getD c 0) (hw.2.2 r dL dR mL hA hB hM).1
      (h.imp_right fun hin => hin r c dL mL hA hM hc hb)

/-- **C07 half-even for the variant read from the source** (`Generated/RefineCC.lean`). -/
theorem source_check_specEven (P : Params) (A B : Dataset) (hw : WfShapes A B)
    (hin : ∀ (r c : Nat) (dL : List Val) (mL : List Nat), A.disp[r]? = some dL → A.mask[r]? = some mL → c < dL.length →
      ¬(P.offset > 0 ∧ isBorder P.offset A.disp.length dL.length r c = true) →
      Flags.isInvalid (mL.getD c 0) = false → insideRight dL.length (colRight c (dL.getD c .nan)) = true)
    (r c : Nat) (dL dR : List Val) (mL : List Nat)
    (hA : A.disp[r]? = some dL) (hB : B.disp[r]? = some dR) (hM : A.mask[r]? = some mL) (hc : c < dL.length) :
    allOK (clausesPixEven P (decide (P.offset > 0) && isBorder P.offset A.disp.length dL.length r c)
      dL dR c (mL.getD c 0) (outPix (check sourceVariant P A B) r c)) = true :=
  check_specEven sourceVariant P A B hw (Or.inr hin) r c dL dR mL hA hB hM hc

/-- the source carries the repair of C07-F1 (`Generated/RefineCC.lean`, regenerated on every run: this stops
    building if the source goes back to `&` or stops searching the outside pixels) -/
theorem source_is_ruleFix : sourceVariant = .ruleFix := by decide

/-- **C07 half-even for the variant read from the source, without exception** -/
theorem source_check_specEven_full (P : Params) (A B : Dataset) (hw : WfShapes A B)
    (r c : Nat) (dL dR : List Val) (mL : List Nat)
    (hA : A.disp[r]? = some dL) (hB : B.disp[r]? = some dR) (hM : A.mask[r]? = some mL) (hc : c < dL.length) :
    allOK (clausesPixEven P (decide (P.offset > 0) && isBorder P.offset A.disp.length dL.length r c)
      dL dR c (mL.getD c 0) (outPix (check sourceVariant P A B) r c)) = true :=
  check_specEven sourceVariant P A B hw (Or.inl source_is_ruleFix) r c dL dR mL hA hB hM hc

/-- `mismatch_iff_witness`: where the loose clause (strict witness ⇒ flagged ⇒ loose witness) fails, the half-even one
    (flagged ⇔ half-even witness) fails, because strict ⇒ half-even ⇒ loose -/
theorem mismatch_fails_of_chain {ws we wl m : Bool} (h1 : ws = true → we = true) (h2 : we = true → wl = true)
    (h : false = ((!ws || m) && (!m || wl))) : false = (m == we) := by
  cases m
  · -- not flagged: there is a strict witness, hence a half-even one
    rw [Bool.or_false, Bool.not_false, Bool.true_or, Bool.and_true] at h
    rw [h1 (Eq.mp (Bool.not_eq_false' _) h.symm)]; rfl
  · -- flagged: there is no loose witness, hence no half-even one
    rw [Bool.or_true, Bool.true_and, Bool.not_true, Bool.false_or] at h
    rw [Bool.eq_false_iff.2 fun hwe => Bool.noConfusion (h.trans (h2 hwe))]; rfl

/-- `occlusion_otherwise`: the same for (loose witness or flagged) ∧ (flagged ⇒ no strict witness) against
    flagged ⇔ no half-even witness -/
theorem occlusion_fails_of_chain {ws we wl oc : Bool} (h1 : ws = true → we = true) (h2 : we = true → wl = true)
    (h : false = ((wl || oc) && (!oc || !ws))) : false = (oc == !we) := by
  cases oc
  · rw [Bool.or_false, Bool.not_false, Bool.true_or, Bool.and_true] at h
    rw [Bool.eq_false_iff.2 fun hwe => Bool.noConfusion (h.trans (h2 hwe))]; rfl
  · rw [Bool.or_true, Bool.true_and, Bool.not_true, Bool.false_or] at h
    rw [h1 (Eq.mp (Bool.not_eq_false' _) h.symm)]; rfl

/-- **clause by clause, for one correspondent**: a loose clause that fails has a half-even clause of the same
    name that fails — the half-even reading never accepts what the loose one rejects -/
theorem clausesValidEven_fails_of_fails (P : Params) (dL dR : List Val) (c flag : Nat) (o : PixOut) (q : Option Int)
    (name : String) (h : (name, false) ∈ clausesValid P dL dR c flag o q) :
    (name, false) ∈ clausesValidEven P dL dR c flag o q := by
  unfold clausesValid at h
  unfold clausesValidEven
  by_cases hcons : consistentOpt P dL dR c q = true
  · rw [if_pos hcons] at h ⊢; exact h
  · rw [if_neg hcons] at h ⊢
    -- the clauses differ at `mismatch_iff_witness` and `occlusion_otherwise` only: strict ⇒ half-even ⇒ loose
    have h1 := witnessEven_of_strict P dR c
    have h2 := witness_loose_of_even P dR c
    simp only [List.mem_cons, Prod.mk.injEq, List.not_mem_nil, or_false] at h ⊢
    exact h.imp_right (Or.imp (And.imp_right (mismatch_fails_of_chain h1 h2))
      (Or.imp_left (And.imp_right (occlusion_fails_of_chain h1 h2))))

theorem allOK_iff_no_false (l : List (String × Bool)) : allOK l = true ↔ ∀ name, (name, false) ∉ l := by
  unfold allOK
  rw [List.all_eq_true]
  constructor
  · intro h name hm
    have := h _ hm
    simp at this
  · intro h x hx
    cases hb : x.2 with
    | true => rfl
    | false => exact absurd (by rw [← hb]; exact hx) (h x.1)

theorem clausesValid_allOK_of_even (P : Params) (dL dR : List Val) (c flag : Nat) (o : PixOut) (q : Option Int)
    (h : allOK (clausesValidEven P dL dR c flag o q) = true) : allOK (clausesValid P dL dR c flag o q) = true := by
  rw [allOK_iff_no_false] at h ⊢
  exact fun name hm => h name (clausesValidEven_fails_of_fails P dL dR c flag o q name hm)

/-- the half-even correspondent is one of the admissible candidates -/
theorem clausesPix_of_even (P : Params) (border : Bool) (dL dR : List Val) (c flag : Nat) (o : PixOut)
    (h : allOK (clausesPixEven P border dL dR c flag o) = true) : allOK (clausesPix P border dL dR c flag o) = true := by
  cases border with
  | true => simpa [clausesPixEven, clausesPix] using h
  | false =>
    by_cases hv : Flags.isInvalid flag = true
    · simpa [clausesPixEven, clausesPix, hv] using h
    · have hv' : Flags.isInvalid flag = false := by simpa using hv
      simp only [clausesPixEven, Bool.false_eq_true, ↓reduceIte, hv'] at h
      have h' := clausesValid_allOK_of_even P dL dR c flag o _ h
      cases hq : correspondentEven dL c with
      | none =>
        rw [hq] at h'
        simp only [clausesPix, Bool.false_eq_true, ↓reduceIte, hv', correspondentEven_none dL c hq]
        exact h'
      | some q =>
        rw [hq] at h'
        exact clausesPix_of_candidate P dL dR c flag o q hv' (correspondentEven_mem dL c q hq) h'

theorem ccPixel_spec (V : Variant) (P : Params) (ncol : Nat) (dL dR : List Val) (c flag : Nat)
    (hlen : dR.length = ncol)
    (h : V = .ruleFix ∨ (Flags.isInvalid flag = false → insideRight ncol (colRight c (dL.getD c .nan)) = true)) :
    allOK (clausesPix P false dL dR c flag (ccPixel V P ncol dL dR c flag)) = true :=
  clausesPix_of_even _ _ _ _ _ _ _ (ccPixel_specEven V P ncol dL dR c flag hlen h)

/-- **C07, the whole map** -/
theorem check_spec (V : Variant) (P : Params) (A B : Dataset) (hw : WfShapes A B)
    (h : V = .ruleFix ∨ CorrespondentsInside P A)
    (r c : Nat) (dL dR : List Val) (mL : List Nat)
    (hA : A.disp[r]? = some dL) (hB : B.disp[r]? = some dR) (hM : A.mask[r]? = some mL) (hc : c < dL.length) :
    allOK (clausesPix P (decide (P.offset > 0) && isBorder P.offset A.disp.length dL.length r c)
      dL dR c (mL.getD c 0) (outPix (check V P A B) r c)) = true :=
  clausesPix_of_even _ _ _ _ _ _ _ (check_specEven V P A B hw h r c dL dR mL hA hB hM hc)

/-- **C07, the whole map, repaired step** -/
theorem check_spec_ruleFix (P : Params) (A B : Dataset) (hw : WfShapes A B)
    (r c : Nat) (dL dR : List Val) (mL : List Nat)
    (hA : A.disp[r]? = some dL) (hB : B.disp[r]? = some dR) (hM : A.mask[r]? = some mL) (hc : c < dL.length) :
    allOK (clausesPix P (decide (P.offset > 0) && isBorder P.offset A.disp.length dL.length r c)
      dL dR c (mL.getD c 0) (outPix (check .ruleFix P A B) r c)) = true :=
  check_spec .ruleFix P A B hw (Or.inl rfl) r c dL dR mL hA hB hM hc

/-- **C07 for the variant read from the source** (`Generated/RefineCC.lean`) -/
theorem source_check_spec (P : Params) (A B : Dataset) (hw : WfShapes A B)
    (hin : ∀ (r c : Nat) (dL : List Val) (mL : List Nat), A.disp[r]? = some dL → A.mask[r]? = some mL → c < dL.length →
      ¬(P.offset > 0 ∧ isBorder P.offset A.disp.length dL.length r c = true) →
      Flags.isInvalid (mL.getD c 0) = false → insideRight dL.length (colRight c (dL.getD c .nan)) = true)
    (r c : Nat) (dL dR : List Val) (mL : List Nat)
    (hA : A.disp[r]? = some dL) (hB : B.disp[r]? = some dR) (hM : A.mask[r]? = some mL) (hc : c < dL.length) :
    allOK (clausesPix P (decide (P.offset > 0) && isBorder P.offset A.disp.length dL.length r c)
      dL dR c (mL.getD c 0) (outPix (check sourceVariant P A B) r c)) = true :=
  check_spec sourceVariant P A B hw (Or.inr hin) r c dL dR mL hA hB hM hc

/-- what the clauses say about the flag word of a previously valid pixel (`never_both`, `only_bits_8_9`; a kept pixel
    has both bits clear) and of an invalid one (`invalid_not_reexamined`) -/
theorem clausesValid_never_both (P : Params) (dL dR : List Val) (c flag : Nat) (o : PixOut) (q : Option Int)
    (hv : Flags.isInvalid flag = false) (h : allOK (clausesValid P dL dR c flag o q) = true) :
    ¬(bitAt o.flag 8 = 1 ∧ bitAt o.flag 9 = 1) ∧ sameExcept89 o.flag flag = true := by
  unfold clausesValid at h
  split at h <;>
    simp only [allOK, List.all_cons, List.all_nil, Bool.and_true, Bool.and_eq_true, beq_iff_eq, Bool.not_eq_true',
      Bool.and_eq_false_iff] at h
  · rw [h.1]
    refine ⟨fun hb => ?_, by simp only [sameExcept89, beq_self_eq_true, Bool.and_self]⟩
    rw [(valid_bits_clear flag hv).1] at hb
    cases hb.1
  · refine ⟨fun hb => ?_, h.2.2.2.2.1⟩
    rcases h.2.2.2.1 with h8 | h8 <;> simp only [beq_eq_false_iff_ne] at h8
    · exact h8 hb.2
    · exact h8 hb.1

theorem clausesPix_never_both (P : Params) (dL dR : List Val) (c flag : Nat) (o : PixOut)
    (hv : Flags.isInvalid flag = false) (h : allOK (clausesPix P false dL dR c flag o) = true) :
    ¬(bitAt o.flag 8 = 1 ∧ bitAt o.flag 9 = 1) ∧ sameExcept89 o.flag flag = true := by
  unfold clausesPix at h
  simp only [Bool.false_eq_true, if_false, hv] at h
  split at h
  · exact clausesValid_never_both _ _ _ _ _ _ _ hv h
  · exact clausesValid_never_both _ _ _ _ _ _ _ hv h
  · split at h <;> exact clausesValid_never_both _ _ _ _ _ _ _ hv h

theorem clausesPix_invalid (P : Params) (dL dR : List Val) (c flag : Nat) (o : PixOut)
    (hv : Flags.isInvalid flag = true) (h : allOK (clausesPix P false dL dR c flag o) = true) : o.flag = flag := by
  simpa only [clausesPix, Bool.false_eq_true, if_false, hv, if_true, allOK, List.all_cons, List.all_nil, Bool.and_true,
    beq_iff_eq] using h
/-- in the driver's terms: no failing half-even clause ⇒ no failing loose clause -/
theorem failingPix_nil_of_even (P : Params) (border : Bool) (dL dR : List Val) (c flag : Nat) (o : PixOut)
    (h : failingPixEven P border dL dR c flag o = []) : failingPix P border dL dR c flag o = [] := by
  have conv : ∀ l : List (String × Bool), (l.filter (fun x => !x.2)).map (·.1) = [] ↔ allOK l = true := by
    intro l
    simp [allOK, List.filter_eq_nil_iff]
  unfold failingPix failingPixEven at *
  rw [conv] at h ⊢
  exact clausesPix_of_even P border dL dR c flag o h

/-- away from ties the two readings are the same clauses: when `dL(p)` has a single nearest integer and the strict
    and loose witnesses agree, every half-even clause has the truth value of the loose clause of the same
    position — nothing new can fail at such a pixel -/
theorem clausesPixEven_eq_of_no_tie (P : Params) (border : Bool) (dL dR : List Val) (c flag : Nat) (o : PixOut)
    (h : isTiePix P dL dR c = false) :
    (clausesPixEven P border dL dR c flag o).map (·.2) = (clausesPix P border dL dR c flag o).map (·.2)
    ∧ (clausesPixEven P border dL dR c flag o).map (·.1) = (clausesPix P border dL dR c flag o).map (·.1) := by
  simp only [isTiePix, Bool.or_eq_false_iff, decide_eq_false_iff_not, bne_eq_false_iff_eq] at h
  obtain ⟨hlen, hw⟩ := h
  have hwe : witnessEven P dR c = witness true P dR c := by
    cases hs : witness true P dR c with
    | true => exact witnessEven_of_strict P dR c hs
    | false =>
      cases he : witnessEven P dR c with
      | false => rfl
      | true => rw [witness_loose_of_even P dR c he, hs] at hw; cases hw
  have hval : ∀ q, (clausesValidEven P dL dR c flag o q).map (·.2) = (clausesValid P dL dR c flag o q).map (·.2)
      ∧ (clausesValidEven P dL dR c flag o q).map (·.1) = (clausesValid P dL dR c flag o q).map (·.1) := by
    intro q
    unfold clausesValidEven clausesValid
    split
    · exact ⟨rfl, rfl⟩
    · simp only [hwe, hw, List.map_cons, List.map_nil, List.cons.injEq, and_true, true_and]
      cases witness true P dR c <;> cases (bitAt o.flag 9 == 1) <;> cases (bitAt o.flag 8 == 1) <;> simp
  unfold clausesPixEven clausesPix
  split
  · exact ⟨rfl, rfl⟩
  · split
    · exact ⟨rfl, rfl⟩
    · cases hq : correspondentEven dL c with
      | none => rw [correspondentEven_none dL c hq]; exact hval none
      | some q =>
        have hm := correspondentEven_mem dL c q hq
        cases hl : correspondents dL c with
        | nil => rw [hl] at hm; cases hm
        | cons q' qs =>
          cases qs with
          | nil =>
            rw [hl] at hm
            simp only [List.mem_singleton] at hm
            subst hm
            exact hval (some q)
          | cons q'' qs' => rw [hl] at hlen; simp at hlen

/-- non-vacuity of `WfShapes`: the map of `Properties/C07.lean` (kept pixel, mismatch, occlusion, kept tie `dL = 1/2`,
    invalid pixel) is well-shaped, and every cell satisfies the half-even clauses — computed -/
example : WfShapes exA exB
    ∧ ((List.range 5).all fun c =>
        allOK (clausesPixEven exParams false [.num 0, .num 1, .num (-1), .num (1/2), .num 0]
          [.num 1, .num 3, .num 2, .num 0, .num 0] c ([0, 0, 4, 0, 2].getD c 0)
          (outPix (check .ruleFix exParams exA exB) 0 c))) = true := by
  refine ⟨⟨rfl, rfl, ?_⟩, by decide +kernel⟩
  intro r dL dR mL hA hB hM
  cases r with
  | zero =>
    simp only [exA, exB, List.getElem?_cons_zero, Option.some.injEq] at hA hB hM
    subst hA hB hM
    exact ⟨rfl, rfl⟩
  | succ r => simp [exA] at hA

/-- the seeded situation: three columns, interval `[-1, 1]`, threshold 1/2; `dL(1) = 0` and `dR(1) = -1`: pixel 1
    is inconsistent; `dR(0) = 1/2` is an exact tie between 0 and 1 and `d = -1` asks for `round(1/2) = 1` -/
def tieParams : Params := { threshold := 1 / 2, dmin := -1, dmax := 1, offset := 0 }
def tieL : List Val := [.num 0, .num 0, .num 0]
def tieR : List Val := [.num (1/2), .num (-1), .num 0]

/-- **an exact tie where the two readings differ.**  Half-even: `round(1/2) = 0 ≠ 1`, no witness, pixel 1 is an
    *occlusion* — what the model (the code) answers: 256.  An output of 512 (*mismatch* — what a search testing
    `rint(dR(p+d) + d) = 0` answers, since `rint(1/2 - 1) = -0`) satisfies every loose clause (1 is *a* nearest
    integer of 1/2) and fails the half-even clauses `mismatch_iff_witness` and `occlusion_otherwise`. -/
theorem tie_readings_differ :
    witness true tieParams tieR 1 = false ∧ witness false tieParams tieR 1 = true
    ∧ witnessEven tieParams tieR 1 = false
    ∧ isTiePix tieParams tieL tieR 1 = true
    ∧ triggerOfEven tieParams false tieL tieR 1 0 = "half_integer_tie"
    ∧ ccPixel .ruleFix tieParams 3 tieL tieR 1 0 = ⟨256, .fin 1⟩
    ∧ failingPix tieParams false tieL tieR 1 0 ⟨256, .fin 1⟩ = []
    ∧ failingPixEven tieParams false tieL tieR 1 0 ⟨256, .fin 1⟩ = []
    ∧ failingPix tieParams false tieL tieR 1 0 ⟨512, .fin 1⟩ = []
    ∧ failingPixEven tieParams false tieL tieR 1 0 ⟨512, .fin 1⟩ = ["mismatch_iff_witness", "occlusion_otherwise"] := by
  decide +kernel

/-- **the other rounding site**: `dL(0) = 1/2` (tie between columns 0 and 1).  Half-even: the correspondent is
    column 0, where `dR = -1/2`: distance 0, the pixel is kept — what the model answers.  An output computed
    from the odd neighbour (column 1, `dR = 5`: flagged occlusion with 11/2 in the band) satisfies the loose
    clauses and fails the half-even ones. -/
theorem tie_correspondent_differs :
    correspondents [.num (1/2), .num 0] 0 = [0, 1] ∧ correspondentEven [.num (1/2), .num 0] 0 = some 0
    ∧ ccPixel .ruleFix tieParams 2 [.num (1/2), .num 0] [.num (-1/2), .num 5] 0 0 = ⟨0, .fin 0⟩
    ∧ failingPixEven tieParams false [.num (1/2), .num 0] [.num (-1/2), .num 5] 0 0 ⟨0, .fin 0⟩ = []
    ∧ failingPix tieParams false [.num (1/2), .num 0] [.num (-1/2), .num 5] 0 0 ⟨256, .fin (11/2)⟩ = []
    ∧ failingPixEven tieParams false [.num (1/2), .num 0] [.num (-1/2), .num 5] 0 0 ⟨256, .fin (11/2)⟩
        = ["kept_iff_consistent", "conf_band_value"] := by
  decide +kernel

example : [(-3/2 : Rat), -1/2, 1/2, 3/2, 5/2, 7/16, 9/16, -9/16, 2].map rintEven = [-2, 0, 0, 2, 2, 0, 1, -1, 2] := by
  decide +kernel

end Pandora.C07
