/-
  C13 — winner-takes-all (model of C03, block structure included) is a pointwise step on partial images: empty cone.
-/
import PandoraModel.Properties.C13Util
import PandoraModel.Properties.C03

namespace Pandora.C13
open Pandora.Locality

def wtaStep (isMax : Bool) (disps : List Rat) (invalid : Val) : Img (List Val) → Img Val :=
  fun a p => (a p).map fun costs => Wta.wtaPixel isMax disps costs invalid

/-- the model of `to_disp` (any block split with initial offsets 0, in particular the one of the source)
    is that pointwise step -/
theorem toDisp_is_wtaStep (s : Blocks.Split) (h0 : s.beginY = 0 ∧ s.beginX = 0) (x : Wta.Input) :
    toImg x.rows x.cols (Wta.toDisp s x) = wtaStep x.isMax x.disps x.invalid (toImg x.rows x.cols x.cv) := by
  apply toImg_eq_of_cells
  · intro r c hr hc
    unfold wtaStep
    rw [toImg_some x.rows x.cols x.cv r c hr hc, C03.toDisp_eq_pixel s h0 x r c hr hc]
    rfl
  · intro q hq
    unfold wtaStep
    rw [toImg_none x.rows x.cols x.cv q hq]
    rfl

theorem wtaStep_local (isMax : Bool) (disps : List Rat) (invalid : Val) :
    Local Cone.zero (wtaStep isMax disps invalid) :=
  pointwise_local fun o => o.map fun costs => Wta.wtaPixel isMax disps costs invalid

theorem wtaStep_equivariant (isMax : Bool) (disps : List Rat) (invalid : Val) :
    Equivariant (wtaStep isMax disps invalid) := by
  intro t a
  rfl

/-- **Winner-takes-all on a crop = on the whole image**, for every pixel of the crop, wherever the crop
    starts (the cone is the pixel itself). -/
theorem wta_crop_eq_whole (isMax : Bool) (disps : List Rat) (invalid : Val)
    (S : Px → Prop) [DecidablePred S] (cv : Img (List Val)) (t p : Px)
    (hp : S (p.1 + t.1, p.2 + t.2) ∨ cv (p.1 + t.1, p.2 + t.2) = none) :
    wtaStep isMax disps invalid (shift t (restrict S cv)) p
      = wtaStep isMax disps invalid cv (p.1 + t.1, p.2 + t.2) := by
  apply crop_anywhere (wtaStep_local isMax disps invalid) (wtaStep_equivariant isMax disps invalid)
  intro q hq
  rw [inCone_zero.1 hq]
  exact hp

end Pandora.C13
