/-
  C13 — the pipeline `[matching cost; cross-based aggregation; wta; (refinement); (median); cross-checking]` with
  every ingredient concrete: aggregation `cbcaStep`, flags `pipeFlags`, right map = the same pipeline on the swapped
  pair.  No locality hypothesis is left; the cone, obtained from the cone of the cost stage `costStage_cbca_local`
  (the cost rows are read within `armBound` only), lies within the documented one
  (`w/2 + (armBound cbca_distance + 1) + filter_size/2`, columns extended by the interval, once more for cross-checking).
-/
import PandoraModel.Properties.C13CbcaStep
import PandoraModel.Properties.C13Flags

namespace Pandora.C13
open Pandora.Locality

/-- the cone of the left chain with cbca and the criteria flags -/
def cbcaFilterCone (C : PipeCfg) (Q : CbcaParams) (doMedian : Bool) : Cone :=
  filterConeOf C (cbcaCostCone C Q) (mcCone C.mc C.gmin C.gmax) doMedian

/-- the cone of the whole pipeline with cbca on both sides and the criteria flags -/
def cbcaPipeCone (C C' : PipeCfg) (Q Q' : CbcaParams) (doMedian : Bool) (CP : CrossCheck.Params) : Cone :=
  pipeConeOf C (cbcaCostCone C Q) (mcCone C.mc C.gmin C.gmax) (cbcaFilterCone C' Q' doMedian) doMedian CP

/-- **Crop run = whole run for the pipeline with cross-based aggregation, nothing left abstract**: aggregation
    `cbcaStep`, criteria flags, right map by the same pipeline (configuration `C'`, `Q'`: mirrored interval) on the
    swapped pair. -/
theorem pipeline_cbca_flags_crop_eq_whole (C C' : PipeCfg) (Q Q' : CbcaParams)
    (hsp : 0 < C.mc.sp) (hsp' : 0 < C'.mc.sp)
    (hn : ∀ j : Nat, j < C.n → C.gmin * (C.mc.sp : Int) + j ≤ C.gmax * (C.mc.sp : Int))
    (hn' : ∀ j : Nat, j < C'.n → C'.gmin * (C'.mc.sp : Int) + j ≤ C'.gmax * (C'.mc.sp : Int))
    (doRefine doMedian : Bool) (V : CrossCheck.Variant) (CP : CrossCheck.Params)
    (ny nx r0 c0 ny' nx' : Nat) (scene : Nat → Nat → McCell) (hfit : r0 + ny' ≤ ny ∧ c0 + nx' ≤ nx) (p : Px)
    (hcone : ∀ q, inCone (cbcaPipeCone C C' Q Q' doMedian CP) (p.1 + r0, p.2 + c0) q →
      InRect r0 c0 ny' nx' q ∨ ¬ InImage ny nx q) :
    ccStage C (cbcaStep Q) (pipeFlags C) doRefine doMedian
        (rightDisp C' (cbcaStep Q') (pipeFlags C') doRefine doMedian) V CP (toImg ny' nx' (cropArr r0 c0 scene)) p
      = ccStage C (cbcaStep Q) (pipeFlags C) doRefine doMedian
        (rightDisp C' (cbcaStep Q') (pipeFlags C') doRefine doMedian) V CP (toImg ny nx scene) (p.1 + r0, p.2 + c0) :=
  pipeline_crop_eq_whole_of_cost C (costStage_cbca_local C ⟨hsp, hn⟩ Q) (cbcaStep_equivariant Q)
    (pipeFlags_local C ⟨hsp, hn⟩) (pipeFlags_equivariant C) doRefine doMedian
    (rightDisp_local_of_cost C' (costStage_cbca_local C' ⟨hsp', hn'⟩ Q')
      (pipeFlags_local C' ⟨hsp', hn'⟩) doRefine doMedian)
    (rightDisp_equivariant C' (cbcaStep_equivariant Q') (pipeFlags_equivariant C')
      doRefine doMedian)
    V CP ny nx r0 c0 ny' nx' scene hfit p hcone

theorem filter_cbca_flags_crop_eq_whole (C : PipeCfg) (Q : CbcaParams) (hsp : 0 < C.mc.sp)
    (hn : ∀ j : Nat, j < C.n → C.gmin * (C.mc.sp : Int) + j ≤ C.gmax * (C.mc.sp : Int))
    (doRefine doMedian : Bool)
    (ny nx r0 c0 ny' nx' : Nat) (scene : Nat → Nat → McCell) (hfit : r0 + ny' ≤ ny ∧ c0 + nx' ≤ nx) (p : Px)
    (hcone : ∀ q, inCone (cbcaFilterCone C Q doMedian) (p.1 + r0, p.2 + c0) q →
      InRect r0 c0 ny' nx' q ∨ ¬ InImage ny nx q) :
    filterStage C (cbcaStep Q) (pipeFlags C) doRefine doMedian (toImg ny' nx' (cropArr r0 c0 scene)) p
      = filterStage C (cbcaStep Q) (pipeFlags C) doRefine doMedian (toImg ny nx scene) (p.1 + r0, p.2 + c0) :=
  filter_crop_eq_whole_of_cost C (costStage_cbca_local C ⟨hsp, hn⟩ Q) (cbcaStep_equivariant Q)
    (pipeFlags_local C ⟨hsp, hn⟩) (pipeFlags_equivariant C) doRefine doMedian
    ny nx r0 c0 ny' nx' scene hfit p hcone

theorem cbcaCostCone_le_costCone (C : PipeCfg) (Q : CbcaParams) (hoff : Q.off = MC.half C.mc.w)
    (hmin : Q.gmin = C.gmin) (hmax : Q.gmax = C.gmax) :
    Cone.le (cbcaCostCone C Q) (costCone C (Cone.square (armBound Q.dist + 1))) := by
  rw [costCone, mcCone_add_square, ← Nat.add_assoc]
  exact cbcaCostCone_documented C Q hoff hmin hmax

/-- **The documented radii of the full pipeline with cbca**: `offset_row_col = w/2`, same window, filter size and
    `cbca_distance` on both sides, mirrored interval on the right, cross-checking without border offset. -/
theorem cbcaPipeCone_documented (C C' : PipeCfg) (Q Q' : CbcaParams) (CP : CrossCheck.Params) (hoff : CP.offset = 0)
    (hQ : Q.off = MC.half C.mc.w) (hQmin : Q.gmin = C.gmin) (hQmax : Q.gmax = C.gmax)
    (hQ' : Q'.off = MC.half C'.mc.w) (hQmin' : Q'.gmin = C'.gmin) (hQmax' : Q'.gmax = C'.gmax)
    (hw : MC.half C'.mc.w = MC.half C.mc.w) (hfs : C'.fs = C.fs) (hdist : Q'.dist = Q.dist)
    (hmin : C'.gmin = -C.gmax) (hmax : C'.gmax = -C.gmin) :
    Cone.le (cbcaPipeCone C C' Q Q' true CP)
      ⟨MC.half C.mc.w + (armBound Q.dist + 1) + C.fs / 2, MC.half C.mc.w + (armBound Q.dist + 1) + C.fs / 2,
       MC.half C.mc.w + (armBound Q.dist + 1) + C.fs / 2 + max (-C.gmin).toNat C.gmax.toNat + (-CP.dmin).toNat,
       MC.half C.mc.w + (armBound Q.dist + 1) + C.fs / 2 + max (-C.gmin).toNat C.gmax.toNat + CP.dmax.toNat⟩ := by
  -- the right chain is the left chain of the mirrored configuration: its documented cone, with the interval mirrored
  have h := filterConeOf_documented C' (armBound Q'.dist + 1) (cbcaCostCone_le_costCone C' Q' hQ' hQmin' hQmax')
    (flagCone_le_costCone C' _)
  rw [hw, hfs, hdist, show (-C'.gmin).toNat = C.gmax.toNat by rw [hmin, Int.neg_neg],
    show C'.gmax.toNat = (-C.gmin).toNat by rw [hmax]] at h
  exact pipeConeOf_documented C _ CP hoff _ _ _ (cbcaCostCone_le_costCone C Q hQ hQmin hQmax) (flagCone_le_costCone C _) h

/-! `exCfg` (sad, window 3, subpix 2, interval [-1, 1], vfit, median 3) with `exQ` on both sides (the interval is its own
    mirror image): no hypothesis is left -/

theorem exCfg_samples : ∀ j : Nat, j < exCfg.n → exCfg.gmin * (exCfg.mc.sp : Int) + j ≤ exCfg.gmax * (exCfg.mc.sp : Int) :=
  exCfg_samplesOK.le_gmax

example (ny nx r0 c0 ny' nx' : Nat) (scene : Nat → Nat → McCell) (hfit : r0 + ny' ≤ ny ∧ c0 + nx' ≤ nx) (p : Px)
    (hcone : ∀ q, inCone (cbcaPipeCone exCfg exCfg exQ exQ true C07.exParams) (p.1 + r0, p.2 + c0) q →
      InRect r0 c0 ny' nx' q ∨ ¬ InImage ny nx q) :
    ccStage exCfg (cbcaStep exQ) (pipeFlags exCfg) true true
        (rightDisp exCfg (cbcaStep exQ) (pipeFlags exCfg) true true) .ruleFix C07.exParams
        (toImg ny' nx' (cropArr r0 c0 scene)) p
      = ccStage exCfg (cbcaStep exQ) (pipeFlags exCfg) true true
        (rightDisp exCfg (cbcaStep exQ) (pipeFlags exCfg) true true) .ruleFix C07.exParams
        (toImg ny nx scene) (p.1 + r0, p.2 + c0) :=
  pipeline_cbca_flags_crop_eq_whole exCfg exCfg exQ exQ (by decide) (by decide) exCfg_samples exCfg_samples
    true true .ruleFix C07.exParams ny nx r0 c0 ny' nx' scene hfit p hcone

/-- its cone: `armBound 3 = 2`, cost stage `2 + max 1 1 = 3` (inside the documented `1 + 2 + 1 = 4`), median `+ 1`:
    rows 4; columns `4 + 1` for the interval, `+ 2 / + 3` for the interval of C07's example parameters (`[-2, 3]`) -/
example : cbcaPipeCone exCfg exCfg exQ exQ true C07.exParams = ⟨4, 4, 7, 8⟩ := by decide
example : cbcaCostCone exCfg exQ = ⟨3, 3, 4, 4⟩ ∧ (mcCone exCfg.mc exCfg.gmin exCfg.gmax).add (cbcaCone exQ) = ⟨4, 4, 6, 6⟩ := by
  decide

end Pandora.C13
