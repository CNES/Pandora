/-
  C10 ∘ C12 — `median_for_intervals` as one step: C10's filter and flag model with C12's model of
  `interval_regularization` as the producer of the regularised bands and of `mask_regularization`
  (`Model/FilterIntervals.lean`), for every image size, filter size, block split (offsets at the radius), ambiguity
  map, threshold, kernel, depth and validity mask.  Bit 11 marks the low-confidence segments of C12's model; these
  contain every pixel whose bound the regularisation changed, not only those (`flagged_unchanged_example`).
-/
import PandoraModel.Model.FilterIntervals
import PandoraModel.Properties.C10
import PandoraModel.Lemmas.C12Regul
import PandoraModel.Lemmas.IntervalRuns
import PandoraModel.Lemmas.Grid

namespace Pandora.C10C12
open Pandora.Filter Pandora.Confidence Pandora.FilterIntervals

theorem cell?_toGrid (ny nx : Nat) (img : Img) (r c : Nat) (hr : r < ny) (hc : c < nx) :
    C12.cell? (toGrid ny nx img) r c = some (img r c) := by
  rw [toGrid_eq_tabulate, C12.cell?_tabulate, if_pos ⟨hr, hc⟩]

theorem ofGrid_of_cell? {g : Grid Val} {r c : Nat} {v : Val} (h : C12.cell? g r c = some v) : ofGrid g r c = v := by
  obtain ⟨row, hg, hc⟩ := C12.cell?_eq_some_iff.1 h
  simp [ofGrid, cell, List.getD_eq_getElem?_getD, hg, hc]

/-- **frame of the regularisation**: a pixel outside every segment keeps both bounds -/
theorem graphRegularization_frame (inf sup : Grid Val) (segs : List (Pos × Pos)) (graph : List (List Bool)) (q : Rat)
    (r c : Nat) (hout : inSegments segs r c = false) :
    C12.cell? (graphRegularization inf sup segs graph q).1 r c = C12.cell? inf r c ∧
    C12.cell? (graphRegularization inf sup segs graph q).2 r c = C12.cell? sup r c := by
  rcases C12.graphRegularization_cell inf sup segs graph q r c with ⟨_, h⟩ | ⟨sg, hsg, ⟨e1, e2, e3⟩, _⟩
  · exact h
  · simp only [inSegments, List.any_eq_false, Bool.and_eq_true, decide_eq_true_eq, not_and] at hout
    exact absurd e3 (hout sg.1 (List.of_mem_zip hsg).1 ⟨e1.symm, e2⟩)

theorem regularization_frame (inf sup amb : Grid Val) (thr : Rat) (k depth : Nat) (q : Rat) (r c : Nat)
    (hout : inSegments (segments thr k amb) r c = false) :
    C12.cell? (intervalRegularization inf sup amb thr k depth q).1 r c = C12.cell? inf r c ∧
    C12.cell? (intervalRegularization inf sup amb thr k depth q).2 r c = C12.cell? sup r c := by
  unfold intervalRegularization
  exact graphRegularization_frame inf sup _ _ q r c hout

section Step
variable (s : Blocks.Split) (off : Nat) (cfg : Cfg) (ny nx : Nat) (inf sup amb : Img) (flags : Nat → Nat → Nat)

abbrev step : Out := medianForIntervals s Flags.intervalRegularized off cfg ny nx inf sup amb flags

abbrev segs : List (Pos × Pos) := segments cfg.thr cfg.kernel (toGrid ny nx amb)

theorem step_noreg (h : cfg.regularization = false) :
    step s off cfg ny nx inf sup amb flags =
      { inf := medianFilter s cfg.fs ny nx inf, sup := medianFilter s cfg.fs ny nx sup, flags := flags,
        regMask := fun _ _ => false } := by
  simp only [medianForIntervals, h, Bool.false_eq_true, if_false]

/-- the regularising step: C12's `interval_regularization` on the two median-filtered bands, bit 11 or-ed in on its
    segments, then `mask_border` when `offset_row_col > 0` -/
theorem step_reg (h : cfg.regularization = true) :
    step s off cfg ny nx inf sup amb flags =
      { inf := ofGrid (intervalRegularization (toGrid ny nx (medianFilter s cfg.fs ny nx inf))
          (toGrid ny nx (medianFilter s cfg.fs ny nx sup)) (toGrid ny nx amb) cfg.thr cfg.kernel cfg.depth cfg.quantile).1,
        sup := ofGrid (intervalRegularization (toGrid ny nx (medianFilter s cfg.fs ny nx inf))
          (toGrid ny nx (medianFilter s cfg.fs ny nx sup)) (toGrid ny nx amb) cfg.thr cfg.kernel cfg.depth cfg.quantile).2,
        flags := if off > 0
          then maskBorder off ny nx (regularizeFlags Flags.intervalRegularized (inSegments (segs cfg ny nx amb)) flags)
          else regularizeFlags Flags.intervalRegularized (inSegments (segs cfg ny nx amb)) flags,
        regMask := inSegments (segs cfg ny nx amb) } := by
  simp only [medianForIntervals, h, if_true]

/-- **without regularisation** the two bands are their medians and the mask is untouched -/
theorem intervals_noreg (h : cfg.regularization = false) :
    (step s off cfg ny nx inf sup amb flags).inf = medianFilter s cfg.fs ny nx inf ∧
    (step s off cfg ny nx inf sup amb flags).sup = medianFilter s cfg.fs ny nx sup ∧
    (step s off cfg ny nx inf sup amb flags).flags = flags := by
  rw [step_noreg s off cfg ny nx inf sup amb flags h]
  exact ⟨rfl, rfl, rfl⟩

/-- the bands the regularisation receives (the final bands when there is no regularisation) satisfy C10's
    per-cell specification of the median filter, "valid" meaning "not NaN in the band" -/
theorem intervals_bands_median (hy : s.beginY = cfg.fs / 2) (hx : s.beginX = cfg.fs / 2) (hodd : cfg.fs % 2 = 1)
    (hny : cfg.fs ≤ ny) (hnx : cfg.fs ≤ nx) (r c : Nat) :
    medianCellSpec inf cfg.fs ny nx r c (inf r c) (medianFilter s cfg.fs ny nx inf r c) = true ∧
    medianCellSpec sup cfg.fs ny nx r c (sup r c) (medianFilter s cfg.fs ny nx sup r c) = true :=
  ⟨C10.medianBand_spec s cfg.fs ny nx inf hy hx hodd hny hnx r c,
   C10.medianBand_spec s cfg.fs ny nx sup hy hx hodd hny hnx r c⟩

theorem intervals_regMask (h : cfg.regularization = true) :
    (step s off cfg ny nx inf sup amb flags).regMask = inSegments (segs cfg ny nx amb) := by
  rw [step_reg s off cfg ny nx inf sup amb flags h]

/-- **the mask after a regularising step**, at a pixel `mask_border` does not rewrite: the flag with bit 11
    or-ed in exactly when the pixel lies in a segment of C12's model -/
theorem intervals_flags (h : cfg.regularization = true) (r c : Nat)
    (hb : off = 0 ∨ FlagSteps.inBorder ny nx off r c = false) :
    (step s off cfg ny nx inf sup amb flags).flags r c =
      regularizeFlags Flags.intervalRegularized (inSegments (segs cfg ny nx amb)) flags r c := by
  rw [step_reg s off cfg ny nx inf sup amb flags h]
  rcases hb with h0 | hnb
  · simp [h0]
  · by_cases ho : off > 0
    · simp [ho, maskBorder, hnb]
    · simp [ho]

theorem intervals_flagSpec (h : cfg.regularization = true) (r c : Nat)
    (hb : off = 0 ∨ FlagSteps.inBorder ny nx off r c = false) :
    flagSpec Flags.intervalRegularized (flags r c) ((step s off cfg ny nx inf sup amb flags).flags r c) true = true := by
  rw [intervals_flags s off cfg ny nx inf sup amb flags h r c hb]
  exact C10.regularize_flagSpec _ _ _ r c

/-- **bit 11 after the step ⇔ it was set before, or the pixel lies in a low-confidence segment** -/
theorem intervals_bit11_iff (h : cfg.regularization = true) (r c : Nat)
    (hb : off = 0 ∨ FlagSteps.inBorder ny nx off r c = false) :
    ((step s off cfg ny nx inf sup amb flags).flags r c).testBit 11 =
      ((flags r c).testBit 11 || inSegments (segs cfg ny nx amb) r c) := by
  rw [intervals_flags s off cfg ny nx inf sup amb flags h r c hb, C10.regularizeFlags_testBit, decide_eq_true rfl, Bool.true_and]

def ambRow (nx : Nat) (amb : Img) (r : Nat) : List Val := (List.range nx).map fun c => amb r c

/-- **bit 11, declaratively** (`ambiguity_threshold ≤ 1`, which the schema enforces): after a regularising
    step a pixel carries bit 11 iff it carried it before, or its confidence flag is `false` — the minimum of the
    confidence-from-ambiguity over the `ambiguity_kernel_size` window around it (row padded with ones) is below
    the threshold, the last column excepted (`Lemmas/IntervalRuns.lean`: the segments of C12's model are
    exactly the runs of `false` flags) -/
theorem intervals_bit11_lowConfidence (h : cfg.regularization = true) (hthr : cfg.thr ≤ 1) (r c : Nat) (hr : r < ny)
    (hb : off = 0 ∨ FlagSteps.inBorder ny nx off r c = false) :
    ((step s off cfg ny nx inf sup amb flags).flags r c).testBit 11 = true ↔
      ((flags r c).testBit 11 = true ∨ (confidentFlags cfg.thr cfg.kernel (ambRow nx amb r))[c]? = some false) := by
  rw [intervals_bit11_iff s off cfg ny nx inf sup amb flags h r c hb, Bool.or_eq_true,
    IntervalRuns.inSegments_iff cfg.thr cfg.kernel (toGrid ny nx amb) hthr r c]
  have hrow : (toGrid ny nx amb)[r]? = some (ambRow nx amb r) := by simp [toGrid, ambRow, hr]
  exact or_congr_right ⟨fun ⟨row, h2, h3⟩ => by rw [hrow] at h2; cases h2; exact h3, fun h3 => ⟨_, hrow, h3⟩⟩

theorem intervals_other_bits (h : cfg.regularization = true) (r c : Nat)
    (hb : off = 0 ∨ FlagSteps.inBorder ny nx off r c = false) (i : Nat) (hi : i ≠ 11) :
    ((step s off cfg ny nx inf sup amb flags).flags r c).testBit i = (flags r c).testBit i := by
  rw [intervals_flags s off cfg ny nx inf sup amb flags h r c hb, C10.regularizeFlags_testBit, decide_eq_false hi, Bool.false_and,
    Bool.or_false]

theorem intervals_validity (h : cfg.regularization = true) (r c : Nat)
    (hb : off = 0 ∨ FlagSteps.inBorder ny nx off r c = false) :
    Flags.isInvalid ((step s off cfg ny nx inf sup amb flags).flags r c) = Flags.isInvalid (flags r c) := by
  rw [intervals_flags s off cfg ny nx inf sup amb flags h r c hb, regularizeFlags]
  split
  · exact C10.regularize_validity _
  · rfl

/-- with `offset_row_col > 0` the border pixels carry `PANDORA_MSK_PIXEL_LEFT_NODATA_OR_BORDER` only -/
theorem intervals_border (h : cfg.regularization = true) (r c : Nat) (ho : off > 0)
    (hb : FlagSteps.inBorder ny nx off r c = true) :
    (step s off cfg ny nx inf sup amb flags).flags r c = Flags.leftNodataOrBorder := by
  rw [step_reg s off cfg ny nx inf sup amb flags h]
  simp [ho, maskBorder, hb]

theorem intervals_frame (h : cfg.regularization = true) (r c : Nat) (hr : r < ny) (hc : c < nx)
    (hout : inSegments (segs cfg ny nx amb) r c = false) :
    (step s off cfg ny nx inf sup amb flags).inf r c = medianFilter s cfg.fs ny nx inf r c ∧
    (step s off cfg ny nx inf sup amb flags).sup r c = medianFilter s cfg.fs ny nx sup r c := by
  rw [step_reg s off cfg ny nx inf sup amb flags h]
  -- reduce the record projections here: left to the final `exact`, the unifier evaluates `intervalRegularization` (10 M heartbeats)
  dsimp only
  obtain ⟨h1, h2⟩ := regularization_frame (toGrid ny nx (medianFilter s cfg.fs ny nx inf))
    (toGrid ny nx (medianFilter s cfg.fs ny nx sup)) (toGrid ny nx amb) cfg.thr cfg.kernel cfg.depth cfg.quantile r c hout
  rw [cell?_toGrid ny nx _ r c hr hc] at h1 h2
  exact ⟨ofGrid_of_cell? h1, ofGrid_of_cell? h2⟩

/-- **every pixel whose bound the regularisation changed is in `mask_regularization`** — and therefore
    carries bit 11 (`intervals_bit11_iff`) -/
theorem changed_implies_flagged (h : cfg.regularization = true) (r c : Nat) (hr : r < ny) (hc : c < nx)
    (hch : (step s off cfg ny nx inf sup amb flags).inf r c ≠ medianFilter s cfg.fs ny nx inf r c ∨
           (step s off cfg ny nx inf sup amb flags).sup r c ≠ medianFilter s cfg.fs ny nx sup r c) :
    (step s off cfg ny nx inf sup amb flags).regMask r c = true := by
  rw [intervals_regMask s off cfg ny nx inf sup amb flags h]
  cases hs : inSegments (segs cfg ny nx amb) r c with
  | true => rfl
  | false =>
    obtain ⟨h1, h2⟩ := intervals_frame s off cfg ny nx inf sup amb flags h r c hr hc hs
    exact hch.elim (absurd h1) (absurd h2)

theorem changed_implies_bit11 (h : cfg.regularization = true) (r c : Nat) (hr : r < ny) (hc : c < nx)
    (hb : off = 0 ∨ FlagSteps.inBorder ny nx off r c = false)
    (hch : (step s off cfg ny nx inf sup amb flags).inf r c ≠ medianFilter s cfg.fs ny nx inf r c ∨
           (step s off cfg ny nx inf sup amb flags).sup r c ≠ medianFilter s cfg.fs ny nx sup r c) :
    ((step s off cfg ny nx inf sup amb flags).flags r c).testBit 11 = true := by
  have hm := changed_implies_flagged s off cfg ny nx inf sup amb flags h r c hr hc hch
  rw [intervals_regMask s off cfg ny nx inf sup amb flags h] at hm
  rw [intervals_bit11_iff s off cfg ny nx inf sup amb flags h r c hb, hm, Bool.or_true]

/-- **C12's `quantile1_widens` carried to the filter step**: with `quantile_regularization = 1` (or without
    regularisation) every finite median-filtered lower bound stays finite and does not increase, every
    finite median-filtered upper bound stays finite and does not decrease — the final interval of a pixel
    contains the median-filtered one -/
theorem intervals_widen (hq : cfg.regularization = true → cfg.quantile = 1) (r c : Nat) (hr : r < ny) (hc : c < nx) :
    (∀ a, medianFilter s cfg.fs ny nx inf r c = .num a →
      ∃ a', (step s off cfg ny nx inf sup amb flags).inf r c = .num a' ∧ a' ≤ a) ∧
    (∀ a, medianFilter s cfg.fs ny nx sup r c = .num a →
      ∃ a', (step s off cfg ny nx inf sup amb flags).sup r c = .num a' ∧ a ≤ a') := by
  cases h : cfg.regularization with
  | false =>
    rw [step_noreg s off cfg ny nx inf sup amb flags h]
    exact ⟨fun a ha => ⟨a, ha, le_refl _⟩, fun a ha => ⟨a, ha, le_refl _⟩⟩
  | true =>
    rw [step_reg s off cfg ny nx inf sup amb flags h, hq h]
    dsimp only
    obtain ⟨w1, w2⟩ := C12.intervalRegularization_widens (toGrid ny nx (medianFilter s cfg.fs ny nx inf))
      (toGrid ny nx (medianFilter s cfg.fs ny nx sup)) (toGrid ny nx amb) cfg.thr cfg.kernel cfg.depth
    constructor
    · intro a ha
      obtain ⟨a', h1, hle⟩ := w1 r c a (by rw [cell?_toGrid ny nx _ r c hr hc, ha])
      exact ⟨a', ofGrid_of_cell? h1, hle⟩
    · intro a ha
      obtain ⟨a', h1, hle⟩ := w2 r c a (by rw [cell?_toGrid ny nx _ r c hr hc, ha])
      exact ⟨a', ofGrid_of_cell? h1, hle⟩

/-- **applying the step twice leaves the mask of one application**: the second application sees the same
    ambiguity band, hence the same segments; `|=` is idempotent (C10's `regularize_idempotent`) and so is
    `mask_border` -/
theorem intervals_twice_flags :
    (medianForIntervals s Flags.intervalRegularized off cfg ny nx
        (step s off cfg ny nx inf sup amb flags).inf (step s off cfg ny nx inf sup amb flags).sup amb
        (step s off cfg ny nx inf sup amb flags).flags).flags =
      (step s off cfg ny nx inf sup amb flags).flags := by
  funext r c
  cases h : cfg.regularization with
  | false => exact congrFun (congrFun (intervals_noreg s off cfg ny nx _ _ amb _ h).2.2 r) c
  | true =>
    by_cases hb : off > 0 ∧ FlagSteps.inBorder ny nx off r c = true
    · exact (intervals_border s off cfg ny nx _ _ amb _ h r c hb.1 hb.2).trans
        (intervals_border s off cfg ny nx inf sup amb flags h r c hb.1 hb.2).symm
    · have hb' : off = 0 ∨ FlagSteps.inBorder ny nx off r c = false := by
        by_cases ho : off > 0
        · exact Or.inr (by simpa [ho] using hb)
        · exact Or.inl (by omega)
      -- off the rewritten border both applications or bit 11 in on the same segments
      have e := intervals_flags s off cfg ny nx inf sup amb flags h r c hb'
      refine (intervals_flags s off cfg ny nx _ _ amb _ h r c hb').trans ?_
      rw [e]
      show (if inSegments (segs cfg ny nx amb) r c = true
        then (step s off cfg ny nx inf sup amb flags).flags r c ||| Flags.intervalRegularized
        else (step s off cfg ny nx inf sup amb flags).flags r c) = _
      rw [e]
      exact congrFun (congrFun (C10.regularize_idempotent _ _ flags) r) c

end Step

def gridImg (g : List (List Rat)) : Img := fun r c => .num ((g.getD r []).getD c 0)

def demoInf : Img := gridImg [[-3, -2, -4, -1, -3, -2], [-2, -2, -2, -5, -1, -2], [-1, -3, -2, -2, -6, -1]]
def demoSup : Img := gridImg [[1, 2, 4, 1, 3, 2], [2, 2, 2, 5, 1, 2], [1, 3, 2, 2, 6, 1]]
/-- confidence from ambiguity: three low-confidence runs (threshold 1/2) -/
def demoAmb : Img := gridImg [[1, 1/4, 1/4, 1, 1, 1], [1, 1, 1, 1/4, 1/4, 1], [1/4, 1, 1, 1, 1, 1]]
/-- a pixel that already carries bit 11 (and bit 3), an occluded pixel inside a segment -/
def demoFlags : Nat → Nat → Nat :=
  fun r c => if r = 0 ∧ c = 1 then 2048 + 8 else if r = 1 ∧ c = 3 then 256 else 0
def demoCfg : Cfg := { fs := 1, regularization := true, thr := 1 / 2, kernel := 1, depth := 0, quantile := 1 }

/-- the segments of C12's model on the scene, and the mask after the step: bit 11 or-ed in on the three
    segments (2056 stays 2056, the occluded pixel becomes 2304), nothing else -/
example :
    segs demoCfg 3 6 demoAmb = [((0, 1), (0, 2)), ((1, 3), (1, 4)), ((2, 0), (2, 0))] ∧
    Blocks.tabulate 3 6 (step (Generated.Blocks.median 1) 0 demoCfg 3 6 demoInf demoSup demoAmb demoFlags).flags =
      [[0, 2056, 2048, 0, 0, 0], [0, 0, 0, 2304, 2048, 0], [2048, 0, 0, 0, 0, 0]] := by
  decide +kernel

/-- the hypotheses of `intervals_bit11_lowConfidence` on the scene: threshold 1/2 ≤ 1; the confidence flags of
    row 0 (kernel 1: the pixel's own confidence) are `false` exactly on the run of 1/4 -/
example :
    demoCfg.thr ≤ 1 ∧
    confidentFlags demoCfg.thr demoCfg.kernel (ambRow 6 demoAmb 0) = [true, false, false, true, true, true] ∧
    confidentFlags demoCfg.thr 3 (ambRow 6 demoAmb 0) = [false, false, false, false, true, true] := by
  decide +kernel

/-- the hypotheses of `changed_implies_bit11` are satisfiable: at (0, 1) the lower bound moved from −2 to −4 -/
example :
    (step (Generated.Blocks.median 1) 0 demoCfg 3 6 demoInf demoSup demoAmb demoFlags).inf 0 1 = .num (-4) ∧
    medianFilter (Generated.Blocks.median 1) demoCfg.fs 3 6 demoInf 0 1 = .num (-2) ∧
    (step (Generated.Blocks.median 1) 0 demoCfg 3 6 demoInf demoSup demoAmb demoFlags).sup 0 1 = .num 4 := by
  decide +kernel

/-- **the converse of `changed_implies_flagged` is false**: pixel (2, 0) is a segment of its own, its bounds
    are their own minimum and maximum — unchanged — and it is flagged.  Bit 11 marks the low-confidence
    segments, which contain the pixels whose bounds changed; it does not mark exactly those. -/
theorem flagged_unchanged_example :
    (step (Generated.Blocks.median 1) 0 demoCfg 3 6 demoInf demoSup demoAmb demoFlags).inf 2 0 =
      medianFilter (Generated.Blocks.median 1) demoCfg.fs 3 6 demoInf 2 0 ∧
    (step (Generated.Blocks.median 1) 0 demoCfg 3 6 demoInf demoSup demoAmb demoFlags).sup 2 0 =
      medianFilter (Generated.Blocks.median 1) demoCfg.fs 3 6 demoSup 2 0 ∧
    (step (Generated.Blocks.median 1) 0 demoCfg 3 6 demoInf demoSup demoAmb demoFlags).regMask 2 0 = true ∧
    (step (Generated.Blocks.median 1) 0 demoCfg 3 6 demoInf demoSup demoAmb demoFlags).flags 2 0 = 2048 ∧
    demoFlags 2 0 = 0 := by
  decide +kernel

/-- filter size 3, depth 1, `offset_row_col = 1`: the interior segment pixels get bit 11, the border is 1 -/
example :
    Blocks.tabulate 3 6 (step (Generated.Blocks.median 3) 1 { demoCfg with fs := 3, depth := 1 } 3 6
      demoInf demoSup demoAmb demoFlags).flags =
      [[1, 1, 1, 1, 1, 1], [1, 0, 0, 2304, 2048, 1], [1, 1, 1, 1, 1, 1]] := by
  decide +kernel

end Pandora.C10C12
