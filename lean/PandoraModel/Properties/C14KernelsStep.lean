/-
  C14 — the whole `interpolated_disparity` step (both classes) regenerated from the source as an array program over
  two stores that calls the regenerated kernels (`Generated/KernelsInterpStep.lean`, `translator/gen_kernels_interp_step.py`),
  equals the model step `Interp.interpolate` on every pixel of the map — for every map, mask, size, border offset and
  store — and writes no array that existed before the call (the dataset ends up holding two fresh arrays).

  Arrays have no cells outside the map, the model's index functions do: the statements are about the cells inside
  (`Interp.Agree`), and the second pass of the model only reads cells inside (`*_congr`).
-/
import PandoraModel.Properties.C14Kernels
import PandoraModel.Properties.C14
import PandoraModel.Lemmas.StorePush
import PandoraModel.Generated.KernelsInterpStep

namespace Pandora.C14KernelsStep
open Pandora.Interp Pandora.Flags Pandora.PyArr Pandora.PyLoops Pandora.C14Kernels
open Pandora.Generated.KernelsInterpStep

def dmapOf (rows cols : Nat) (d : Arr Val) (f : Arr Nat) : DMap := ⟨rows, cols, d, f⟩

theorem mismMcPixel_congr {m m' : DMap} (h : Agree m m') (v : Variant) (r c : Nat) (hr : r < m.rows) (hc : c < m.cols) :
    mismMcPixel v m r c = mismMcPixel v m' r c := by
  unfold mismMcPixel
  simp only [h.flag r c hr hc, h.disp r c hr hc, ← h.rows, ← h.cols, scanLoop_congr h]

theorem occlSgmPixel_congr {m m' : DMap} (h : Agree m m') (v : Variant) (r c : Nat) (hr : r < m.rows) (hc : c < m.cols) :
    occlSgmPixel v m r c = occlSgmPixel v m' r c := by
  unfold occlSgmPixel
  simp only [findValidNeighbors_scanLoop, h.flag r c hr hc, h.disp r c hr hc, ← h.rows, ← h.cols, scanLoop_congr h]

theorem runKernel_agree
    (k : (Int → Int → Val) → Int → Int → (Int → Int → Int) → Int → Int → Int → Int → Res (Val × Int))
    (pix : DMap → Nat → Nat → Val × Nat)
    (hk : ∀ (m : DMap) (r c : Nat), r < m.rows → c < m.cols →
      k (embedDisp m) m.rows m.cols (embedFlag m) m.rows m.cols r c = .ok ((pix m r c).1, (((pix m r c).2 : Nat) : Int)))
    (rows cols : Nat) (d : Arr Val) (f : Arr Nat) :
    Agree (dmapOf rows cols (runKernel k rows cols d f).1 (runKernel k rows cols d f).2)
      (lift pix (dmapOf rows cols d f)) := by
  have key : ∀ r c, r < rows → c < cols →
      ((runKernel k rows cols d f).1 r c, (runKernel k rows cols d f).2 r c) = pix (dmapOf rows cols d f) r c := by
    intro r c hr hc
    have h := hk (dmapOf rows cols d f) r c hr hc
    unfold embedDisp embedFlag dmapOf at h
    simp only [runKernel, hr, hc, and_self, if_true, h, Int.toNat_natCast]
    rfl
  exact ⟨rfl, rfl, fun r c hr hc => congrArg Prod.fst (key r c hr hc), fun r c hr hc => congrArg Prod.snd (key r c hr hc)⟩

/-- two kernel runs in a row are the two passes of the model, as soon as the second pass only reads cells inside the map -/
theorem runKernel2_agree
    (k1 k2 : (Int → Int → Val) → Int → Int → (Int → Int → Int) → Int → Int → Int → Int → Res (Val × Int))
    (pix1 pix2 : DMap → Nat → Nat → Val × Nat)
    (hk1 : ∀ (m : DMap) (r c : Nat), r < m.rows → c < m.cols →
      k1 (embedDisp m) m.rows m.cols (embedFlag m) m.rows m.cols r c = .ok ((pix1 m r c).1, (((pix1 m r c).2 : Nat) : Int)))
    (hk2 : ∀ (m : DMap) (r c : Nat), r < m.rows → c < m.cols →
      k2 (embedDisp m) m.rows m.cols (embedFlag m) m.rows m.cols r c = .ok ((pix2 m r c).1, (((pix2 m r c).2 : Nat) : Int)))
    (hc2 : ∀ m m', Agree m m' → ∀ r c, r < m.rows → c < m.cols → pix2 m r c = pix2 m' r c)
    (rows cols : Nat) (d : Arr Val) (f : Arr Nat) :
    Agree (dmapOf rows cols
        (runKernel k2 rows cols (runKernel k1 rows cols d f).1 (runKernel k1 rows cols d f).2).1
        (runKernel k2 rows cols (runKernel k1 rows cols d f).1 (runKernel k1 rows cols d f).2).2)
      (lift pix2 (lift pix1 (dmapOf rows cols d f))) :=
  (runKernel_agree k2 pix2 hk2 rows cols _ _).trans (lift_agree pix2 hc2 (runKernel_agree k1 pix1 hk1 rows cols d f))

theorem border_const : Generated.Constants.PANDORA_MSK_PIXEL_LEFT_NODATA_OR_BORDER = leftNodataOrBorder :=
  C14.source_constants.2.2.2.2.2

theorem maskBorder_flag (off : Nat) (M : DMap) (g : Arr Nat) (r c : Nat) (hg : g r c = M.flag r c) (ho : off > 0) :
    maskBorderArr off M.rows M.cols g r c = (maskBorder off M).flag r c := by
  simp only [maskBorderArr, maskBorder, isBorder, border_const, hg, ho, decide_true, Bool.true_and]

/-- `McCnnInterpolation.interpolated_disparity` regenerated = model step, with its frame: the dataset ends up holding
    two fresh arrays; no array that existed before the call is written. -/
theorem mccnn_step_generated (off rows cols dm vm : Nat) (m0 : Store Val) (f0 : Store Nat) :
    Agree (dmapOf rows cols
        ((interpolatedDisparityMcCnn off rows cols dm vm m0 f0).1.arr (interpolatedDisparityMcCnn off rows cols dm vm m0 f0).2.2.1)
        ((interpolatedDisparityMcCnn off rows cols dm vm m0 f0).2.1.arr (interpolatedDisparityMcCnn off rows cols dm vm m0 f0).2.2.2))
      (interpolate ⟨true, .or⟩ .mccnn off (dmapOf rows cols (m0.arr dm) (f0.arr vm)))
    ∧ (∀ k, k < m0.next → (interpolatedDisparityMcCnn off rows cols dm vm m0 f0).1.arr k = m0.arr k)
    ∧ (∀ k, k < f0.next → (interpolatedDisparityMcCnn off rows cols dm vm m0 f0).2.1.arr k = f0.arr k)
    ∧ m0.next ≤ (interpolatedDisparityMcCnn off rows cols dm vm m0 f0).2.2.1
    ∧ f0.next ≤ (interpolatedDisparityMcCnn off rows cols dm vm m0 f0).2.2.2 := by
  have a2 : Agree _ (mismMc ⟨true, .or⟩ (occlMc ⟨true, .or⟩ (dmapOf rows cols (m0.arr dm) (f0.arr vm)))) :=
    runKernel2_agree Generated.KernelsInterp.occlusionMcCnnPx Generated.KernelsInterp.mismatchMcCnnPx
      (occlMcPixel ⟨true, .or⟩) (mismMcPixel ⟨true, .or⟩) occlusionMcCnn_generated_eq mismatchMcCnn_generated_eq
      (fun m m' h r c hr hc => mismMcPixel_congr h _ r c hr hc) rows cols (m0.arr dm) (f0.arr vm)
  simp only [interpolatedDisparityMcCnn, alloc_snd, alloc_arr_new]
  generalize runKernel Generated.KernelsInterp.occlusionMcCnnPx rows cols (m0.arr dm) (f0.arr vm) = k1 at a2 ⊢
  generalize runKernel Generated.KernelsInterp.mismatchMcCnnPx rows cols k1.1 k1.2 = k2 at a2 ⊢
  refine ⟨⟨a2.rows, a2.cols, a2.disp, fun r c hr hc => ?_⟩, fun k hk => push_arr_old m0 [_, _] hk, fun k hk => ?_,
    Nat.le_succ _, Nat.le_succ _⟩
  · have hf := a2.flag r c hr hc
    by_cases ho : off > 0
    · simp only [if_pos ho, set_arr_self]
      exact maskBorder_flag off _ k2.2 r c hf ho
    · simp only [if_neg ho, alloc_arr_new]
      simpa [interpolate, mccnn, maskBorder, ho] using hf
  · by_cases ho : off > 0
    · rw [if_pos ho]
      exact (set_arr_ne _ (Nat.ne_of_lt (Nat.lt_succ_of_lt hk)) _).trans (push_arr_old f0 [_, _] hk)
    · rw [if_neg ho]
      exact push_arr_old f0 [_, _] hk

/-- `SgmInterpolation.interpolated_disparity` (mismatch pass, then occlusion pass; no `mask_border`), same frame. -/
theorem sgm_step_generated (off rows cols dm vm : Nat) (m0 : Store Val) (f0 : Store Nat) :
    Agree (dmapOf rows cols
        ((interpolatedDisparitySgm off rows cols dm vm m0 f0).1.arr (interpolatedDisparitySgm off rows cols dm vm m0 f0).2.2.1)
        ((interpolatedDisparitySgm off rows cols dm vm m0 f0).2.1.arr (interpolatedDisparitySgm off rows cols dm vm m0 f0).2.2.2))
      (interpolate ⟨true, .or⟩ .sgm off (dmapOf rows cols (m0.arr dm) (f0.arr vm)))
    ∧ (∀ k, k < m0.next → (interpolatedDisparitySgm off rows cols dm vm m0 f0).1.arr k = m0.arr k)
    ∧ (∀ k, k < f0.next → (interpolatedDisparitySgm off rows cols dm vm m0 f0).2.1.arr k = f0.arr k)
    ∧ m0.next ≤ (interpolatedDisparitySgm off rows cols dm vm m0 f0).2.2.1
    ∧ f0.next ≤ (interpolatedDisparitySgm off rows cols dm vm m0 f0).2.2.2 := by
  have a2 : Agree _ (occlSgm ⟨true, .or⟩ (mismSgm ⟨true, .or⟩ (dmapOf rows cols (m0.arr dm) (f0.arr vm)))) :=
    runKernel2_agree Generated.KernelsInterp.mismatchSgmPx Generated.KernelsInterp.occlusionSgmPx
      (mismSgmPixel ⟨true, .or⟩) (occlSgmPixel ⟨true, .or⟩) mismatchSgm_generated_eq occlusionSgm_generated_eq
      (fun m m' h r c hr hc => occlSgmPixel_congr h _ r c hr hc) rows cols (m0.arr dm) (f0.arr vm)
  simp only [interpolatedDisparitySgm, alloc_snd, alloc_arr_new]
  exact ⟨a2, fun k hk => push_arr_old m0 [_, _] hk, fun k hk => push_arr_old f0 [_, _] hk, Nat.le_succ _, Nat.le_succ _⟩

/- the second map of a clause is only read at cells inside the first: what follows holds for two second maps that agree there -/
section congr
variable (a : DMap) {b b' : DMap} (h : Agree b b') (hR : b.rows = a.rows) (hC : b.cols = a.cols)
include h hR hC

theorem midOf_agree (meth : Method) : Agree (midOf meth a b) (midOf meth a b') := by
  cases meth <;> refine ⟨rfl, rfl, fun r c hr hc => ?_, fun r c hr hc => ?_⟩ <;>
    simp only [midOf] at hr hc ⊢ <;>
    simp only [h.disp r c (hR ▸ hr) (hC ▸ hc), h.flag r c (hR ▸ hr) (hC ▸ hc)]

theorem sourcesOf_congr (meth : Method) (r c : Nat) : sourcesOf meth a b r c = sourcesOf meth a b' r c := by
  unfold sourcesOf
  rw [sourcesMc_congr (midOf_agree a h hR hC .mccnn), sourcesSgm_congr (midOf_agree a h hR hC .sgm)]

theorem pixelOK_congr (meth : Method) (off r c : Nat) (hr : r < a.rows) (hc : c < a.cols) :
    pixelOK meth off a b r c = pixelOK meth off a b' r c := by
  unfold pixelOK clausesAt viewAt
  rw [sourcesOf_congr a h hR hC meth, h.flag r c (hR ▸ hr) (hC ▸ hc), h.disp r c (hR ▸ hr) (hC ▸ hc)]

end congr

/-- the specification of C14 sees its second map only through `Agree`: it tests the two sizes itself, and a map of another
    size than `a` fails it on both sides -/
theorem spec_agree (meth : Method) (off : Nat) (a : DMap) {b b' : DMap} (h : Agree b b') :
    spec meth off a b = spec meth off a b' := by
  unfold spec
  rw [← h.rows, ← h.cols]
  by_cases hR : b.rows = a.rows
  · by_cases hC : b.cols = a.cols
    · congr 1
      rw [Bool.eq_iff_iff]
      simp only [List.all_eq_true, List.mem_range]
      exact ⟨fun H r hr c hc => pixelOK_congr a h hR hC meth off r c hr hc ▸ H r hr c hc,
        fun H r hr c hc => (pixelOK_congr a h hR hC meth off r c hr hc).symm ▸ H r hr c hc⟩
    · simp only [decide_eq_false hC, Bool.and_false, Bool.false_and]
  · simp only [decide_eq_false hR, Bool.false_and]

/-- the specification of C14 does not see cells outside the map -/
theorem spec_congr (meth : Method) (off : Nat) (a : DMap) {b b' : DMap} (h : Agree b b') (hR : b.rows = a.rows)
    (hC : b.cols = a.cols) : spec meth off a b = spec meth off a b' :=
  spec_agree meth off a h

/-- C14 for the generated mc-cnn step: all nine clauses between the arrays the dataset held before the call and the
    arrays `interpolatedDisparityMcCnn` leaves in it. -/
theorem mccnn_step_spec (off rows cols dm vm : Nat) (m0 : Store Val) (f0 : Store Nat)
    (hwf : wf .or .mccnn off (dmapOf rows cols (m0.arr dm) (f0.arr vm)) = true) :
    spec .mccnn off (dmapOf rows cols (m0.arr dm) (f0.arr vm))
      (dmapOf rows cols
        ((interpolatedDisparityMcCnn off rows cols dm vm m0 f0).1.arr (interpolatedDisparityMcCnn off rows cols dm vm m0 f0).2.2.1)
        ((interpolatedDisparityMcCnn off rows cols dm vm m0 f0).2.1.arr (interpolatedDisparityMcCnn off rows cols dm vm m0 f0).2.2.2))
      = true := by
  rw [spec_agree .mccnn off (dmapOf rows cols (m0.arr dm) (f0.arr vm)) (mccnn_step_generated off rows cols dm vm m0 f0).1]
  exact C14.spec_holds ⟨true, .or⟩ rfl .mccnn off _ hwf

/-- … and for the generated sgm step -/
theorem sgm_step_spec (off rows cols dm vm : Nat) (m0 : Store Val) (f0 : Store Nat)
    (hwf : wf .or .sgm off (dmapOf rows cols (m0.arr dm) (f0.arr vm)) = true) :
    spec .sgm off (dmapOf rows cols (m0.arr dm) (f0.arr vm))
      (dmapOf rows cols
        ((interpolatedDisparitySgm off rows cols dm vm m0 f0).1.arr (interpolatedDisparitySgm off rows cols dm vm m0 f0).2.2.1)
        ((interpolatedDisparitySgm off rows cols dm vm m0 f0).2.1.arr (interpolatedDisparitySgm off rows cols dm vm m0 f0).2.2.2))
      = true := by
  rw [spec_agree .sgm off (dmapOf rows cols (m0.arr dm) (f0.arr vm)) (sgm_step_generated off rows cols dm vm m0 f0).1]
  exact C14.spec_holds ⟨true, .or⟩ rfl .sgm off _ hwf

/-- the attribute each class leaves, as read in the source -/
theorem attrs_source : Generated.KernelsInterpStep.attrs
    = [("McCnnInterpolation", "mc-cnn"), ("SgmInterpolation", "sgm")] := by decide +kernel

end Pandora.C14KernelsStep
