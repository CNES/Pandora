/-
  C13 — the composed run of the step models WITH cross-based aggregation:
      matching cost (`MC.costVolume`) → `Cbca.aggregate` (C11) → `Wta.toDisp` → (refinement) → (median filter)
      → the same chain on the swapped pair → cross-checking,
  with the criteria flags computed from the matching cost's own volume (before aggregation, as `cv_masked` does).
  `costRows_cbca`: the aggregated cost rows of the model are what the cost stage `[matching cost; cbcaStep]` of the
  composed function computes; hence (`C13Run.lean`, `runR_crop_eq_whole`) **`runCbca_crop_eq_whole`**: for the models'
  arrays the run on a crop equals the run on the whole pair on every pixel whose clipped cone lies in the crop.
-/
import PandoraModel.Properties.C13Run
import PandoraModel.Properties.C13PipelineCbca
import Mathlib.Data.Rat.Floor

namespace Pandora.C13
open Pandora.Locality Pandora.MC

def cbcaQ (K : RunCfg) (G : AggCfg) (x : MC.Input) : CbcaParams :=
  cbcaParamsOf (cbcaInputOf K G x) (nOf x) (gminOf x) (gmaxOf x)

/-- C11's hypothesis on the input of cbca: the costs are NaN where the disparity has no facing right column -/
def NanOutsideOK (K : RunCfg) (G : AggCfg) (x : MC.Input) : Prop :=
  ∀ dsp, dsp < nOf x → Cbca.nanOutside ((cbcaInputOf K G x).plane dsp) = true

theorem disp_in_interval (K : RunCfg) (G : AggCfg) (x : MC.Input) (hx : McOK x) (dsp : Nat) (hd : dsp < nOf x) :
    ((gminOf x : Int) : ℚ) ≤ (cbcaInputOf K G x).disp dsp ∧ (cbcaInputOf K G x).disp dsp ≤ ((gmaxOf x : Int) : ℚ) := by
  have hle : gminOf x * (x.sp : Int) + dsp ≤ gmaxOf x * (x.sp : Int) := (cfgOf_samplesOK K x hx).le_gmax dsp hd
  have hs : (0 : ℚ) < ((x.sp : Int) : ℚ) := by exact_mod_cast hx.sp_pos
  unfold cbcaInputOf
  simp only
  rw [le_div_iff₀ hs, div_le_iff₀ hs]
  constructor
  · have : gminOf x * (x.sp : Int) ≤ gminOf x * (x.sp : Int) + (dsp : Int) := by omega
    exact_mod_cast this
  · exact_mod_cast hle

/-- **The aggregated cost rows of the model are those of the cost stage `[matching cost; cbcaStep]`.** -/
theorem costRows_cbca (K : RunCfg) (G : AggCfg) (x : MC.Input) (hx : McOK x) (hN : NanOutsideOK K G x) :
    CostRows K x (cbcaStep (cbcaQ K G x)) (aggRow K G x) := by
  unfold CostRows costStage
  rw [pairStep_toImg _ _ _ _ _ (mcScene x) (costRow K x) rfl (mcStage_run K x hx)]
  have h := aggregate_is_cbcaStep (cbcaInputOf K G x) (nOf x) (gminOf x) (gmaxOf x) hN
    (fun dsp hd => disp_in_interval K G x hx dsp hd)
  show _ = toImg (cbcaInputOf K G x).H (cbcaInputOf K G x).W (aggRow K G x)
  unfold aggRow
  rw [h]
  apply cbcaStep_strip
  intro q
  show (toImg x.L.rows x.L.cols _ q).map stripCell = (toImg x.L.rows x.L.cols _ q).map stripCell
  rw [map_toImg, map_toImg]
  rfl

theorem iRight_of_dvd (sp : Nat) (hs : 0 < sp) (k : Int) (h : k % (sp : Int) = 0) :
    Cbca.iRight sp ((k : ℚ) / ((sp : Int) : ℚ)) = 0 := by
  obtain ⟨m, rfl⟩ : (sp : Int) ∣ k := Int.dvd_of_emod_eq_zero h
  have hsQ : ((sp : Int) : ℚ) ≠ 0 := by exact_mod_cast hs.ne'
  have hd : (((sp : Int) * m : Int) : ℚ) / ((sp : Int) : ℚ) = (m : ℚ) := by
    push_cast
    field_simp
  unfold Cbca.iRight
  rw [hd, Rat.floor_intCast, sub_self, zero_mul]
  rfl

/-- the facing right column exists as soon as the right window(s) of the matching cost lie in the right image -/
theorem rightCol_isSome_of_rightInside (sp : Nat) (hs : 0 < sp) (k : Int) (xa o W : Nat)
    (h1 : (o : Int) ≤ ((xa + o : Nat) : Int) + k / (sp : Int))
    (h2 : ((xa + o : Nat) : Int) + k / (sp : Int) + (o : Int) + fracBit k sp < (W : Int)) :
    (Cbca.rightCol ((k : ℚ) / ((sp : Int) : ℚ))
      ((if Cbca.iRight sp ((k : ℚ) / ((sp : Int) : ℚ)) = 0 then W else W - 1) - 2 * o) xa).isSome = true := by
  have hfl : ((k : ℚ) / ((sp : Int) : ℚ)).floor = k / (sp : Int) := by
    show ⌊(k : ℚ) / ((sp : Int) : ℚ)⌋ = k / (sp : Int)
    have := Rat.floor_intCast_div_natCast k sp
    simpa using this
  -- in integers (`rightCol_eq`): the facing column is `xa + k / sp`; the right image has `W - fracBit k sp` columns
  rw [rightCol_eq, hfl]
  have hW : (xa : Int) + k / (sp : Int)
      < (((if Cbca.iRight sp ((k : ℚ) / ((sp : Int) : ℚ)) = 0 then W else W - 1) - 2 * o : Nat) : Int) := by
    by_cases hk : k % (sp : Int) = 0
    · rw [iRight_of_dvd sp hs k hk, if_pos rfl]
      unfold fracBit at h2
      rw [if_pos hk] at h2
      omega
    · unfold fracBit at h2
      rw [if_neg hk] at h2
      split <;> omega
  rw [if_pos ⟨by omega, hW⟩]
  rfl

/-- **C11's hypothesis holds of the matching-cost model's volume**: where a disparity has no facing right column the
    right window of the matching cost leaves the right image, and the cost is NaN (any measure; `ev` keeps NaN). -/
theorem nanOutsideOK_of_mc (K : RunCfg) (G : AggCfg) (x : MC.Input) (h : Shape x)
    (hg : gridMin x.dminG x.L.rows x.L.cols ≤ gridMax x.dmaxG x.L.rows x.L.cols) (hev : K.ev .nan = .nan) :
    NanOutsideOK K G x := by
  intro dsp hd
  unfold Cbca.nanOutside
  simp only [List.all_eq_true, List.mem_range, Bool.or_eq_true]
  intro y _ xa _
  by_cases hR : RightInside x ((xa + MC.half x.w : Nat) : Int) (gminOf x * (x.sp : Int) + (dsp : Int))
  · left
    obtain ⟨h1, h2⟩ := hR
    rw [h.cols_eq] at h2
    exact rightCol_isSome_of_rightInside x.sp h.sp_pos _ xa (MC.half x.w) x.L.cols h1 h2
  · right
    show (K.ev (costVolume x ((y + MC.half x.w : Nat) : Int) ((xa + MC.half x.w : Nat) : Int) dsp)).isNan = true
    rw [C02.costVolume_cell x h hg _ _ dsp hd, specCellWith,
      if_neg (fun hc => hR ((cause_computable_iff x _ _ _).1 hc).2.2.1), hev]
    rfl

theorem nanOutsideOK_of_mcOK (K : RunCfg) (G : AggCfg) {x : MC.Input} (h : McOK x) (hev : K.ev .nan = .nan) :
    NanOutsideOK K G x :=
  nanOutsideOK_of_mc K G x h.shape (C02.gridOK_of_wf _ h.wf) hev

theorem costRows_cbca_of_mc (K : RunCfg) (G : AggCfg) (x : MC.Input) (hx : McOK x) (hev : K.ev .nan = .nan) :
    CostRows K x (cbcaStep (cbcaQ K G x)) (aggRow K G x) :=
  costRows_cbca K G x hx (nanOutsideOK_of_mcOK K G hx hev)

theorem cbcaQ_congr (K : RunCfg) (G : AggCfg) {x x' : MC.Input} (hp : paramsOf x' = paramsOf x)
    (h1 : gminOf x' = gminOf x) (h2 : gmaxOf x' = gmaxOf x) : cbcaQ K G x' = cbcaQ K G x := by
  simp only [paramsOf, McParams.mk.injEq] at hp
  obtain ⟨_, p2, p3, p4, p5, _, p7, p8, _⟩ := hp
  unfold gminOf at h1
  unfold gmaxOf at h2
  unfold cbcaQ cbcaParamsOf cbcaInputOf nOf gminOf gmaxOf
  simp only [p2, p3, p4, p5, p7, p8, h1, h2]

def runCbcaCone (K K' : RunCfg) (G : AggCfg) (CP : CrossCheck.Params) (x : MC.Input) : Cone :=
  pipeConeOf (cfgOf K x) (cbcaCostCone (cfgOf K x) (cbcaQ K G x))
    (mcCone (cfgOf K x).mc (cfgOf K x).gmin (cfgOf K x).gmax)
    (filterConeOf (cfgOf K' (swapInput x)) (cbcaCostCone (cfgOf K' (swapInput x)) (cbcaQ K' G (swapInput x)))
      (mcCone (cfgOf K' (swapInput x)).mc (cfgOf K' (swapInput x)).gmin (cfgOf K' (swapInput x)).gmax) K'.doMedian)
    K.doMedian CP

/-- **Crop run = whole run for the arrays of the models, with cross-based aggregation.**  Hypotheses of
    `run_crop_eq_whole`; C11's `nanOutside` is discharged by `nanOutsideOK_of_mc` (the float reading `ev` of a cost cell
    keeps NaN). -/
theorem runCbca_crop_eq_whole (K K' : RunCfg) (G : AggCfg) (V : CrossCheck.Variant) (CP : CrossCheck.Params)
    (x x' : MC.Input) (r0 c0 : Nat) (hc : CropRun x x' r0 c0) (ok : RunOK K K' x) (ok' : RunOK K K' x')
    (hev : K.ev .nan = .nan) (hev' : K'.ev .nan = .nan)
    (out out' : Nat → Nat → CrossCheck.PixOut)
    (hout : fullRunCbca K K' G V CP x = some out) (hout' : fullRunCbca K K' G V CP x' = some out')
    (hin : ∀ A, afterFilterR K x (aggRow K G x) = some A → LeftInInterval CP x.L.rows x.L.cols A)
    (hin' : ∀ A, afterFilterR K x' (aggRow K G x') = some A → LeftInInterval CP x'.L.rows x'.L.cols A)
    (r c : Nat) (hr : r < x'.L.rows) (hcl : c < x'.L.cols)
    (hcone : ∀ q, inCone (runCbcaCone K K' G CP x) ((r : Int) + r0, (c : Int) + c0) q →
      InRect r0 c0 x'.L.rows x'.L.cols q ∨ ¬ InImage x.L.rows x.L.cols q) :
    out' r c = out (r + r0) (c + c0) := by
  have hRx := costRows_cbca_of_mc K G x' ok'.mc hev
  have hRx' := costRows_cbca_of_mc K' G (swapInput x') ok'.mcR hev'
  rw [cbcaQ_congr K G hc.params hc.gmin hc.gmax] at hRx
  rw [cbcaQ_congr K' G (paramsOf_swap_congr hc.params) hc.gminR hc.gmaxR] at hRx'
  exact runR_crop_eq_whole K K' V CP x x' r0 c0 hc
    (costStage_cbca_local (cfgOf K x) (cfgOf_samplesOK K x ok.mc) (cbcaQ K G x))
    (cbcaStep_equivariant _)
    (costStage_cbca_local (cfgOf K' (swapInput x)) (cfgOf_samplesOK K' _ ok.mcR) (cbcaQ K' G (swapInput x)))
    (cbcaStep_equivariant _)
    ⟨ok, costRows_cbca_of_mc K G x ok.mc hev, costRows_cbca_of_mc K' G (swapInput x) ok.mcR hev', hout, hin⟩
    ⟨ok', hRx, hRx', hout', hin'⟩ r c hr hcl hcone

end Pandora.C13
