/-
  C12 — the per-pixel bodies of the confidence kernels REGENERATED from the Python source
  (`Generated/KernelsConf.lean`, written by translator/gen_kernels_conf.py with the vector sub-language of T14,
  translator/pyvec.py) are equal, for every cost curve, every eta grid and every pair of global extremes with
  `max_cost ≠ min_cost`, to the hand model of `Model/Confidence.lean` — and never meet a numpy shape error (`Res.ok`).

  `prange` is read as `range`: the per-pixel function is what is translated; that the parallel schedule cannot change the
  result (disjoint write sets) is the subject of C18 (translator T9), not of these theorems.
-/
import PandoraModel.Lemmas.PyVecMap
import PandoraModel.Generated.KernelsConf
import PandoraModel.Lemmas.C12Risk
import Mathlib.Tactic.FieldSimp


namespace Pandora.C12Kernels
open Pandora.Confidence Pandora.PyLoops Pandora.PyVec Pandora.C12

def optNan : Option ℚ → Fl
  | none => .nan
  | some q => .fin q

/-- an optional rational as a float: `none` is −∞ (the kernels mask NaN costs to `-np.inf`) -/
def optNinf : Option ℚ → Fl
  | none => .ninf
  | some q => .fin q

def embedCurve (c : Curve) : List Fl := c.map Fl.ofVal
def embedQ (l : List ℚ) : List Fl := l.map Fl.fin

theorem len_embedCurve (c : Curve) : PyVec.len (embedCurve c) = (c.length : Int) := by simp [PyVec.len, embedCurve]
theorem len_embedQ (l : List ℚ) : PyVec.len (embedQ l) = (l.length : Int) := by simp [PyVec.len, embedQ]

theorem nonEmpty_embedCurve (c : Curve) (hc : c ≠ []) : nonEmpty (embedCurve c) = true := by
  cases c with
  | nil => exact absurd rfl hc
  | cons a l => rfl

attribute [simp] sameLen nonEmpty reshapeRowsOk reshapeOk

@[simp] theorem length_embedCurve (c : Curve) : (embedCurve c).length = c.length := List.length_map _
@[simp] theorem length_embedQ (l : List ℚ) : (embedQ l).length = l.length := List.length_map _

@[simp] theorem add_fin (a b : ℚ) : Fl.add (.fin a) (.fin b) = .fin (a + b) := rfl

@[simp] theorem toNat_mul_cast (a b : Nat) : ((a : Int) * (b : Int)).toNat = a * b := by
  rw [← Nat.cast_mul, Int.toNat_natCast]

theorem lt_fin (a b : ℚ) : Fl.lt (.fin a) (.fin b) = decide (a < b) := rfl

theorem nanminAux_optNan {α : Type} (p : α → Option ℚ) (l : List α) :
    nanminAux (l.map (fun x => optNan (p x))) = (lmin (l.filterMap p)).map Fl.fin := by
  induction l with
  | nil => rfl
  | cons v l ih =>
    rw [List.map_cons, nanminAux, ih, List.filterMap_cons]
    cases p v with
    | none => cases lmin (l.filterMap p) <;> rfl
    | some q =>
      simp only [optNan, lmin_cons]
      cases lmin (l.filterMap p) with
      | none => rfl
      | some m => simp only [Option.map_some, Fl.isNan, Fl.le_fin, Bool.false_eq_true, if_false]; by_cases h : q ≤ m <;> simp [h]

theorem nanmaxAux_optNan {α : Type} (p : α → Option ℚ) (l : List α) :
    nanmaxAux (l.map (fun x => optNan (p x))) = (lmax (l.filterMap p)).map Fl.fin := by
  induction l with
  | nil => rfl
  | cons v l ih =>
    rw [List.map_cons, nanmaxAux, ih, List.filterMap_cons]
    cases p v with
    | none => cases lmax (l.filterMap p) <;> rfl
    | some q =>
      simp only [optNan, lmax_cons]
      cases lmax (l.filterMap p) with
      | none => rfl
      | some m => simp only [Option.map_some, Fl.isNan, Fl.le_fin, Bool.false_eq_true, if_false]; by_cases h : m ≤ q <;> simp [h]

theorem ofVal_eq_optNan : Fl.ofVal = fun v => optNan (match v with | .num q => some q | .nan => none) := by
  funext v; cases v <;> rfl

/-- `np.nanmin` of the curve is the specification's best of a `min` measure (NaN on an all-NaN curve) -/
theorem nanmin_embed (c : Curve) : nanmin (embedCurve c) = optNan (Spec.best false c) := by
  rw [nanmin, embedCurve, ofVal_eq_optNan, nanminAux_optNan]
  change ((lmin (numsOf c)).map Fl.fin).getD Fl.nan = optNan (lmin (numsOf c))
  cases lmin (numsOf c) <;> rfl

theorem nanmax_ofVal (l : List Val) : nanmax (l.map Fl.ofVal) = optNan (lmax (numsOf l)) := by
  rw [nanmax, ofVal_eq_optNan, nanmaxAux_optNan]
  change ((lmax (numsOf l)).map Fl.fin).getD Fl.nan = _
  cases lmax (numsOf l) <;> rfl

theorem chunks_eq {α : Type} (k n : Nat) (l : List α) : PyVec.chunks k n l = Confidence.chunks k n l := by
  induction n generalizing l with
  | zero => rfl
  | succ n ih => simp [PyVec.chunks, Confidence.chunks, ih]

theorem repeatEach_eq {α : Type} (l : List α) (n : Nat) : repeatEach l (n : Int) = npRepeat l n := by
  simp [repeatEach, npRepeat]

@[simp] theorem length_repeatEach {α : Type} (l : List α) (n : Nat) : (repeatEach l (n : Int)).length = l.length * n := by
  rw [repeatEach_eq, length_npRepeat]

/-- `np.repeat(l, n).reshape((-1, n)).T.flatten()` in the translated vector language is `l` tiled `n` times, for any cell
    type and any default cell of `.T` (numba has no `np.tile`): `PyVec`'s `reshapeRows` and `transpose` are the model's functions -/
theorem tile_eq {α : Type} (d : α) (l : List α) (n : Nat) :
    PyVec.flatten (PyVec.transpose d (n : Int) (PyVec.reshapeRows (repeatEach l (n : Int)) (n : Int)))
      = (List.replicate n l).flatten := by
  rw [repeatEach_eq, PyVec.reshapeRows, Int.toNat_natCast, chunks_eq]
  simp only [PyVec.transpose, PyVec.column, Int.toNat_natCast]
  exact C12.tile_eq d l n

/-- the generated `two_dim_etas` is the hand model's: the grid tiled once per disparity -/
theorem twoDim_embed (etas : List ℚ) (nd : Nat) :
    PyVec.flatten (PyVec.transpose Fl.nan (nd : Int) (PyVec.reshapeRows (repeatEach (embedQ etas) (nd : Int)) (nd : Int)))
      = embedQ (twoDimEtas etas nd) := by
  rw [tile_eq, twoDimEtas_eq etas nd]
  simp [embedQ, List.map_flatten, List.map_replicate]

@[simp] theorem length_twoDimEtas (etas : List ℚ) (nd : Nat) : (twoDimEtas etas nd).length = nd * etas.length := by
  rw [twoDimEtas_eq etas nd, length_flatten_replicate]

/-- `normalized_cv` after `normalized_cv[np.isnan(normalized_cv)] = -np.inf` -/
theorem normalizedCv_embed (mn mx : ℚ) (c : Curve) (hr : mx ≠ mn) :
    maskSet (mapR fdiv (mapR Fl.sub (embedCurve c) (Fl.fin mn)) (Fl.fin (mx - mn)))
        (List.map Fl.isNan (mapR fdiv (mapR Fl.sub (embedCurve c) (Fl.fin mn)) (Fl.fin (mx - mn)))) Fl.ninf
      = (c.map (normNeg mn mx)).map optNinf := by
  simp only [mapR, embedCurve, List.map_map, maskSet_map]
  apply List.map_congr_left
  intro v _
  have h0 : mx - mn ≠ 0 := sub_ne_zero.mpr hr
  cases v with
  | nan => simp [Fl.ofVal, normNeg, optNinf, Fl.isNan]
  | num q => simp [Fl.ofVal, normNeg, optNinf, Fl.isNan, fdiv_fin _ _ h0]

theorem full_fin (q : ℚ) (n : Nat) : full (Fl.fin q) (n : Int) = embedQ (List.replicate n q) := by
  simp [full, embedQ]

theorem zip2_add_embed (a b : List ℚ) : zip2 Fl.add (embedQ a) (embedQ b) = embedQ (List.zipWith (· + ·) a b) := by
  simp [zip2, embedQ, List.zipWith_map, List.map_zipWith]

theorem zip2_le_embed (a : List (Option ℚ)) (b : List ℚ) :
    zip2 Fl.le (a.map optNinf) (embedQ b) = List.zipWith leExt a b := by
  simp only [zip2, embedQ, List.zipWith_map]
  congr 1
  funext o t
  cases o with
  | none => rfl
  | some v => simp [optNinf, leExt, Fl.le_fin]

open Pandora.Generated.KernelsConf

/-- the comparison vector `normalized_cv <= normalized_min_cost + two_dim_etas` of the generated code is `pixelCmp` -/
theorem cmp_embed (mn mx : ℚ) (etas : List ℚ) (c : Curve) (m : ℚ) :
    zip2 Fl.le
        (repeatEach ((c.map (normNeg mn mx)).map optNinf) (etas.length : Int))
        (zip2 Fl.add (full (Fl.fin ((m - mn) / (mx - mn))) (((c.length * etas.length : Nat)) : Int))
          (embedQ (twoDimEtas etas c.length)))
      = pixelCmp mn mx etas c m := by
  rw [repeatEach_map, repeatEach_eq, full_fin, zip2_add_embed, zip2_le_embed]
  rfl

@[simp] theorem length_pixelCmp (mn mx : ℚ) (etas : List ℚ) (c : Curve) (m : ℚ) :
    (pixelCmp mn mx etas c m).length = c.length * etas.length := by
  rw [pixelCmp_eq mn mx etas c m]
  simp [List.length_flatMap]

/-- `compute_ambiguity`: the generated per-pixel function returns `pixelAmbiguity`, and `Res.ok` (no numpy operation
    meets operands of the wrong shape); `max_cost ≠ min_cost` is the property's quantifier (two distinct finite costs) -/
theorem computeAmbiguity_generated_eq (mn mx : ℚ) (etas : List ℚ) (c : Curve) (hr : mx ≠ mn) (hc : c ≠ []) :
    computeAmbiguityPx (embedCurve c) (Fl.fin mn) (Fl.fin mx) (embedQ etas)
      = .ok (Fl.fin ((pixelAmbiguity mn mx etas c : Nat) : ℚ)) := by
  have hlen : 0 < c.length := List.length_pos_iff.mpr hc
  have h0 : mx - mn ≠ 0 := sub_ne_zero.mpr hr
  simp only [computeAmbiguityPx, len_embedCurve, len_embedQ, twoDim_embed etas c.length, nanmin_embed,
    ← pixelBest_eq mn mx c hr, Fl.sub_fin, nonEmpty_embedCurve c hc]
  simp only [pixelAmbiguity]
  cases hb : pixelBest mn mx c with
  | none =>
    simp [optNan, Fl.isNan, hlen, ofInt]
  | some m =>
    simp only [optNan, Fl.sub_fin, fdiv_fin _ _ h0, Fl.isNan, Bool.false_eq_true, if_false, normalizedCv_embed mn mx c hr,
      ← Nat.cast_mul, cmp_embed mn mx etas c m]
    simp [hlen, ofInt, countTrue, Nat.mul_comm]


def natFl (d : Nat) : Fl := .fin (d : ℚ)

/-- a cell of `disp_cv`: a disparity index, or NaN once discarded -/
def optNatFl : Option Nat → Fl
  | none => .nan
  | some d => .fin (d : ℚ)

theorem optNatFl_eq : optNatFl = fun o => optNan (o.map (fun (d : Nat) => (d : ℚ))) := by
  funext o; cases o <;> rfl

/-- `max_disp[i] - min_disp[i]` of one column of `disp_cv` -/
theorem spread_embed (l : List (Option Nat)) :
    Fl.sub (nanmax (l.map optNatFl)) (nanmin (l.map optNatFl)) = optNan (spreadOpt (l.filterMap id)) := by
  have hcast : l.filterMap (fun o => o.map (fun (d : Nat) => (d : ℚ))) = (l.filterMap id).map (fun (d : Nat) => (d : ℚ)) := by
    rw [List.map_filterMap]; rfl
  unfold nanmax nanmin spreadOpt
  rw [optNatFl_eq, nanminAux_optNan, nanmaxAux_optNan, hcast, lmin_eq_lext, lmax_eq_lext,
    lext_map (· ≤ ·) (· ≤ ·) _ (fun _ _ => Nat.cast_le), lext_map (· ≥ ·) (· ≥ ·) _ (fun _ _ => Nat.cast_le),
    ← lminNat_eq_lext, ← lmaxNat_eq_lext]
  cases lminNat (l.filterMap id) <;> cases lmaxNat (l.filterMap id) <;>
    simp [optNan, Fl.sub, Fl.neg, Fl.add, sub_eq_add_neg]

theorem sumFl_fin (xs : List ℚ) : sumFl (xs.map Fl.fin) = .fin (sumRat xs) := by
  induction xs with
  | nil => rfl
  | cons x xs ih => simp only [sumFl, sumRat, List.map_cons, List.foldr_cons] at ih ⊢; rw [ih]; rfl

theorem filter_optNan (l : List (Option ℚ)) :
    (l.map optNan).filter (fun x => !x.isNan) = (l.filterMap id).map Fl.fin := by
  induction l with
  | nil => rfl
  | cons v l ih =>
    rw [List.map_cons, List.filter_cons, ih]
    cases v <;> rfl

theorem nanmean_embed (l : List (Option ℚ)) : nanmean (l.map optNan) = Fl.ofVal (nanMean l) := by
  unfold nanmean nanMean
  simp only [filter_optNan]
  cases h : l.filterMap id with
  | nil => rfl
  | cons x xs =>
    have hne : (((x :: xs).length : Nat) : ℚ) ≠ 0 := by simp; positivity
    simp only [List.isEmpty_cons, Bool.false_eq_true, if_false, sumFl_fin, ofInt, PyVec.len, List.length_map,
      Int.cast_natCast, List.isEmpty_map]
    rw [fdiv_fin _ _ hne]
    rfl

theorem lt_fin_optNinf (o : Option ℚ) (t : ℚ) : Fl.lt (.fin t) (optNinf o) = !leExt o t := by
  cases o with
  | none => rfl
  | some v =>
    simp only [optNinf, leExt, lt_fin]
    by_cases h : v ≤ t
    · simp [h, not_lt.mpr h]
    · simp [h, lt_of_not_ge h]

theorem zip2_lt_embed (a : List (Option ℚ)) (b : List ℚ) :
    zip2 Fl.lt (embedQ b) (a.map optNinf) = (List.zipWith leExt a b).map (fun x => !x) := by
  simp only [zip2, embedQ, List.zipWith_map, List.map_zipWith, lt_fin_optNinf]
  exact List.zipWith_comm ..

/-- the mask `normalized_cv > normalized_min_cost + two_dim_etas` is the negation of `pixelCmp` -/
theorem gt_embed (mn mx : ℚ) (etas : List ℚ) (c : Curve) (m : ℚ) :
    zip2 Fl.lt
        (zip2 Fl.add (full (Fl.fin ((m - mn) / (mx - mn))) (((c.length * etas.length : Nat)) : Int))
          (embedQ (twoDimEtas etas c.length)))
        (repeatEach ((c.map (normNeg mn mx)).map optNinf) (etas.length : Int))
      = (pixelCmp mn mx etas c m).map (fun b => !b) := by
  rw [repeatEach_map, repeatEach_eq, full_fin, zip2_add_embed, zip2_lt_embed]
  rfl

/-- `np.arange(nb_disps) * 1.0` -/
theorem disp0_embed (nd : Nat) :
    mapR Fl.mul (intsToFl (PyVec.arange (nd : Int))) (Fl.fin 1) = (List.range nd).map natFl := by
  simp [mapR, intsToFl, PyVec.arange, ofInt, natFl, Fl.mul]

theorem disp2_embed (mn mx : ℚ) (etas : List ℚ) (c : Curve) (m : ℚ) :
    maskSet (repeatEach ((List.range c.length).map natFl) (etas.length : Int))
        ((pixelCmp mn mx etas c m).map (fun b => !b)) Fl.nan
      = (dispCv mn mx etas c m).map optNatFl := by
  rw [repeatEach_map, repeatEach_eq]
  simp only [maskSet, dispCv, List.zipWith_map, List.map_zipWith]
  congr 1
  funext d keep
  cases keep <;> rfl

theorem chunks_map {α β : Type} (f : α → β) (k n : Nat) (l : List α) :
    PyVec.chunks k n (l.map f) = (Confidence.chunks k n l).map (List.map f) := by
  induction n generalizing l with
  | zero => rfl
  | succ n ih => simp only [PyVec.chunks, Confidence.chunks, List.map_cons, ← List.map_drop, ← List.map_take, ih]

theorem column_map (M : List (List (Option Nat))) (i : Nat) :
    PyVec.column Fl.nan (M.map (List.map optNatFl)) (i : Int) = (Confidence.column none M i).map optNatFl := by
  simp only [PyVec.column, Confidence.column, List.map_map, Int.toNat_natCast]
  apply List.map_congr_left
  intro r _
  simp only [Function.comp, List.getD_eq_getElem?_getD, List.getElem?_map]
  cases r[i]? <;> rfl

theorem reshape2_map {α β : Type} (f : α → β) (l : List α) (n k : Nat) :
    reshape2 (l.map f) (n : Int) (k : Int) = (Confidence.chunks k n l).map (List.map f) := by
  simp [reshape2, chunks_map]

/-- every column `m[:, i]` of a matrix with at least one row is non-empty (what `np.nanmin` needs) -/
theorem column_chunks_ne_nil (k n : Nat) (l : List (Option Nat)) (hn : 0 < n) (i : Nat) :
    PyVec.column Fl.nan ((Confidence.chunks k n l).map (List.map optNatFl)) (i : Int) ≠ [] := by
  cases n with
  | zero => cases hn
  | succ n => exact List.cons_ne_nil _ _

/-- `max_disp - min_disp` over the columns of the reshaped `disp_cv` -/
theorem spreads_embed (mn mx : ℚ) (etas : List ℚ) (c : Curve) (m : ℚ) :
    zip2 Fl.sub
        (tabulate (etas.length : Int) (fun i => nanmax (PyVec.column Fl.nan
          ((Confidence.chunks etas.length c.length (dispCv mn mx etas c m)).map (List.map optNatFl)) i)))
        (tabulate (etas.length : Int) (fun i => nanmin (PyVec.column Fl.nan
          ((Confidence.chunks etas.length c.length (dispCv mn mx etas c m)).map (List.map optNatFl)) i)))
      = (spreads mn mx etas c m).map optNan := by
  rw [tabulate_eq, tabulate_eq, zip2, zipWith_map_map, spreads, List.map_map, List.map_map]
  apply List.map_congr_left
  intro i _
  simp only [Function.comp, column_map, spread_embed]

@[simp] theorem length_spreads (mn mx : ℚ) (etas : List ℚ) (c : Curve) (m : ℚ) :
    (spreads mn mx etas c m).length = etas.length := by
  simp [spreads]

theorem riskMin_embed (spread : List (Option ℚ)) (sampled : List Nat) :
    zip2 Fl.sub (mapL Fl.add (Fl.fin 1) (spread.map optNan)) (embedQ (sampled.map (fun (a : Nat) => (a : ℚ))))
      = (List.zipWith (fun s a => s.map (fun s => (1 + s) - ((a : Nat) : ℚ))) spread sampled).map optNan := by
  simp only [zip2, mapL, embedQ, List.map_map, List.zipWith_map, List.map_zipWith]
  congr 1
  funext s a
  cases s <;> simp [optNan, Fl.sub, Fl.neg, Fl.add, sub_eq_add_neg]

@[simp] theorem length_dispCv (mn mx : ℚ) (etas : List ℚ) (c : Curve) (m : ℚ) :
    (dispCv mn mx etas c m).length = c.length * etas.length := by
  simp [dispCv, length_npRepeat]

/-- `compute_risk`: the generated per-pixel function returns `(risk_max, risk_min) = pixelRisk`, and `Res.ok`, for a
    sampled-ambiguity vector of the grid's length -/
theorem computeRisk_generated_eq (mn mx : ℚ) (etas : List ℚ) (c : Curve) (sampled : List Nat)
    (hr : mx ≠ mn) (hc : c ≠ []) (hs : sampled.length = etas.length) :
    computeRiskPx (embedCurve c) (embedQ (sampled.map (fun (a : Nat) => (a : ℚ)))) (Fl.fin mn) (Fl.fin mx) (embedQ etas)
      = .ok (Fl.ofVal (pixelRisk mn mx etas c sampled).1, Fl.ofVal (pixelRisk mn mx etas c sampled).2) := by
  have hlen : 0 < c.length := List.length_pos_iff.mpr hc
  have h0 : mx - mn ≠ 0 := sub_ne_zero.mpr hr
  simp only [computeRiskPx, len_embedCurve, len_embedQ, twoDim_embed etas c.length, nanmin_embed,
    ← pixelBest_eq mn mx c hr, Fl.sub_fin, nonEmpty_embedCurve c hc]
  cases hb : pixelBest mn mx c with
  | none =>
    simp [pixelRisk, hb, optNan, Fl.isNan, hlen, Fl.ofVal]
  | some m =>
    rw [pixelRisk_of_best mn mx etas c sampled m hb]
    simp only [optNan, Fl.sub_fin, fdiv_fin _ _ h0, Fl.isNan, Bool.false_eq_true, if_false, normalizedCv_embed mn mx c hr,
      ← Nat.cast_mul, gt_embed mn mx etas c m, disp0_embed, disp2_embed, reshape2_map, spreads_embed, riskMin_embed,
      nanmean_embed]
    have hcol := column_chunks_ne_nil etas.length c.length (dispCv mn mx etas c m) hlen
    simp [hlen, hs, hcol, allRange, inRange_natCast, Nat.mul_comm]

end Pandora.C12Kernels
