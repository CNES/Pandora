/-
  C13 — vertical flip of the matching-cost step (sad, ssd, census, zncc).
  The cell is carried along the row negation by `coreCell_iso` (`C13MatchingCost.lean`: the window folds meet the rows of
  the flipped image bottom-up; sums and conjunctions do not depend on that order).  The step also tests two opposite
  corners of the left window: on the flipped image these are the two other corners, the same test exactly on a product
  domain.
-/
import PandoraModel.Properties.C13Flip

namespace Pandora.C13
open Pandora.Locality Pandora.MC

theorem allZ_reverse (f : Int → Bool) (lo : Int) (n : Nat) :
    allZ f lo n = allZ (fun i => f (-i)) (-(lo + n) + 1) n := by
  rw [allZ_eq_sumZ, allZ_eq_sumZ]
  exact @sumZ_reverse Bool ⟨and⟩ Bool.and_right_comm true f lo n

/-- **The window tests on the flipped image**: the two corners probed are the two other corners of the
    window; on a product domain the four corners are in the image as soon as two opposite ones are. -/
theorem windowsIn_vflip (P : McParams) (k : Int) (a : Locality.Img McCell) (ha : RectDom a) (p : Px) :
    windowsIn P k (vflip a) p ↔ windowsIn P k a (-p.1, p.2) := by
  unfold windowsIn vflip
  simp only [Int.sub_eq_add_neg, Int.neg_add, Int.neg_neg]
  exact and_congr_head (ha.corners _ _ _ _)

/-- **Matching cost (any measure), one disparity, commutes with the flip** on images whose domain is a
    product rows × columns (every array). -/
theorem mcCellStep_vflip (P : McParams) (k : Int) : VFlipOn (mcCellStep P k) := by
  intro a ha
  funext p
  have h := mcCellStep_iso rowIso_neg P k 0 (vflip a) a p (fun q _ => by rw [Int.sub_zero]; rfl)
    (by rw [Int.sub_zero]; exact windowsIn_vflip P k a ha p)
  rwa [Int.sub_zero] at h

theorem mcRowStep_vflip (P : McParams) (gmin : Int) (n : Nat) : VFlipOn (mcRowStep P gmin n) :=
  mcRowStep_commutes P gmin n fun k => mcCellStep_vflip P k

theorem mcRow_flip_run (P : McParams) (gmin : Int) (n : Nat) (ny nx : Nat) (scene : Nat → Nat → McCell) (p : Px) :
    mcRowStep P gmin n (toImg ny nx (flipArr ny scene)) p
      = mcRowStep P gmin n (toImg ny nx scene) ((ny : Int) - 1 - p.1, p.2) :=
  flip_run_eq (mcRowStep_equivariant P gmin n) (mcRowStep_vflip P gmin n) ny nx scene p

/-- the example pair of C02 (3 × 4, window 3, subpix 2), each measure: every hypothesis is met -/
example (m : Measure) (p : Px) :
    mcRowStep (paramsOf (C02.Example.exIn m)) (-1) 5 (toImg 3 4 (flipArr 3 (mcScene (C02.Example.exIn m)))) p
      = mcRowStep (paramsOf (C02.Example.exIn m)) (-1) 5 (toImg 3 4 (mcScene (C02.Example.exIn m)))
          (((3 : Nat) : Int) - 1 - p.1, p.2) :=
  mcRow_flip_run _ _ _ _ _ _ _

/-- the window sum is really re-ordered: a 3 × 3 window whose rows differ -/
example : winSum 1 (fun a _ => (a : Rat)) 5 0 = 45 ∧ winSum 1 (fun a _ => ((-a : Int) : Rat)) (-5) 0 = 45 := by
  constructor <;> decide +kernel

end Pandora.C13
