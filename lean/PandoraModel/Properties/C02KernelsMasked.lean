/-
  C02, C04, C09 — the per-cell decisions "this cost becomes NaN" of `AbstractMatchingCost.cv_masked` and
  `masks_dilatation`, REGENERATED from the Python source (`Generated/KernelsCvMasked.lean`, written by
  translator/gen_kernels_cv_masked.py), are the pieces of the matching-cost model: (a) the test of the second loop
  `np.logical_or(disp[dsp] < disp_min, disp[dsp] > disp_max)`, (b) one iteration of the first loop (the guards
  `p_mask.size > 0`, `q_mask.size > 0`, the left cell at `c`, the right cell at column `q0 + (c − p0)`), (c) which image's
  `valid_pixels` / `no_data_mask` `masks_dilatation` reads for which mask.  Their fold over the disparities is in
  Properties/C02KernelsMaskedComp.lean.
-/
import PandoraModel.Generated.KernelsCvMasked
import PandoraModel.Lemmas.PyExprRules
import PandoraModel.Properties.C09

-- `gridOutside_iff` closes for either order of the two comparisons (documented rewrite H1_commuted of DESIGN_NOTES/C02.md), and
-- `leftDilInput_eq` / `rightDilInput_eq` for either side of their equality test; on the source as it is the linters call the
-- second alternative of each `first` unused
set_option linter.unusedTactic false
set_option linter.unreachableTactic false

namespace Pandora.C02KernelsMasked
open Pandora.MC Pandora.PyExpr
open Pandora.Generated.KernelsCvMasked

/-- for any rational sample and bounds (fractional bounds included): strictly below the lower or strictly above the upper -/
theorem gridOutside_iff (d lo hi : ℚ) : gridOutside d lo hi = true ↔ (d < lo ∨ hi < d) := by
  unfold gridOutside
  simp only [Bool.or_eq_true, decide_eq_true_eq, gt_iff_lt]
  first | done | exact or_comm

theorem gridOutside_eq (k a b : Int) (sp : Nat) (hs : 0 < sp) :
    gridOutside ((k : ℚ) / (sp : ℚ)) (a : ℚ) (b : ℚ) = decide (k < a * (sp : Int) ∨ k > b * (sp : Int)) := by
  have hs' : (0 : ℚ) < (sp : ℚ) := by exact_mod_cast hs
  rw [Bool.eq_iff_iff, gridOutside_iff, decide_eq_true_eq, div_lt_iff₀ hs', lt_div_iff₀ hs', ← Int.cast_natCast sp,
    ← Int.cast_mul, ← Int.cast_mul, Int.cast_lt, Int.cast_lt]

theorem intervalMask_isNan (x : Input) (gmin : Int) (cv : Volume) (r c : Int) (j : Nat) (hs : 0 < x.sp) :
    (intervalMask x gmin cv r c j).isNan
      = intervalNanCell (((gmin * (x.sp : Int) + j : Int) : ℚ) / (x.sp : ℚ)) (x.dminG r c : ℚ) (x.dmaxG r c : ℚ) (cv r c j).isNan := by
  show _ = ((cv r c j).isNan || gridOutside _ _ _)
  rw [gridOutside_eq _ _ _ _ hs, intervalMask]
  split_ifs with hc <;> simp [hc, Cell.isNan]

/-- **`grid_outside_nan` on the generated decision**: where the generated test of the source says "outside the pixel's own
    interval", the cost of the model's volume is NaN, for every measure, window, mask and grid -/
theorem costVolume_nan_of_gridOutside (x : Input) (r c : Int) (j : Nat) (hs : 0 < x.sp)
    (h : gridOutside (((gridMin x.dminG x.L.rows x.L.cols * (x.sp : Int) + j : Int) : ℚ) / (x.sp : ℚ))
          (x.dminG r c : ℚ) (x.dmaxG r c : ℚ) = true) :
    costVolume x r c j = .nan := by
  rw [gridOutside_eq _ _ _ _ hs, decide_eq_true_eq] at h
  exact C09.outside_pixel_interval_nan x r c j (by unfold C09.InPixelInterval; omega)

theorem intervalMask_of_not_gridOutside (x : Input) (gmin : Int) (cv : Volume) (r c : Int) (j : Nat) (hs : 0 < x.sp)
    (h : gridOutside (((gmin * (x.sp : Int) + j : Int) : ℚ) / (x.sp : ℚ)) (x.dminG r c : ℚ) (x.dmaxG r c : ℚ) = false) :
    intervalMask x gmin cv r c j = cv r c j := by
  rw [gridOutside_eq _ _ _ _ hs, decide_eq_false_iff_not] at h
  unfold intervalMask
  simp only
  rw [if_neg h]

theorem addMask_isNan (c : Cell) (m : Val) : (c.addMask m).isNan = (c.isNan || m.isNan) := by
  cases m <;> cases c <;> rfl

theorem iMaskRight_eq (i : Nat) : iMaskRight (i : Int) = ((min 1 i : Nat) : Int) := by
  rw [iMaskRight, imin_eq_min]
  omega

/-- the generated decision in the shape of the model's iteration `cvMaskedStep` -/
theorem cvMaskedNanCell_fst (c p0 p1 q0 q1 : Int) (n l r : Bool) :
    (cvMaskedNanCell c p0 p1 q0 q1 n l r).1
      = if p0 < p1 ∧ p0 ≤ c ∧ c < p1 then (if q0 < q1 then (n || l) || r else n || l) else n := by
  unfold cvMaskedNanCell
  simp only [gt_iff_lt, imax_pos, sub_pos]
  by_cases h1 : p0 < p1 <;> by_cases h2 : p0 ≤ c <;> by_cases h3 : c < p1 <;> by_cases h4 : q0 < q1 <;>
    simp [h1, h2, h3, h4]

/-- **one iteration of the first loop, at the plane of its disparity**: NaN-ness after = the generated decision, fed with
    the NaN-ness of the left mask at `c` and of the right mask at the generated column -/
theorem cvMaskedStep_isNan (x : Input) (gmin : Int) (cv : Volume) (k r c : Int) :
    ((cvMaskedStep x gmin cv k) r c (k - gmin * (x.sp : Int)).toNat).isNan
      = (cvMaskedNanCell c
          (pointInterval x.L.cols (shiftRight x.R x.sp (iRight k x.sp)).cols k x.sp).p0
          (pointInterval x.L.cols (shiftRight x.R x.sp (iRight k x.sp)).cols k x.sp).p1
          (pointInterval x.L.cols (shiftRight x.R x.sp (iRight k x.sp)).cols k x.sp).q0
          (pointInterval x.L.cols (shiftRight x.R x.sp (iRight k x.sp)).cols k x.sp).q1
          (cv r c (k - gmin * (x.sp : Int)).toNat).isNan
          (maskRaster x.w x.L.rows x.L.cols x.mL r c).isNan
          (maskShift x.w x.R.rows x.R.cols x.mR (min 1 (iRight k x.sp)) r
            (cvMaskedNanCell c
              (pointInterval x.L.cols (shiftRight x.R x.sp (iRight k x.sp)).cols k x.sp).p0
              (pointInterval x.L.cols (shiftRight x.R x.sp (iRight k x.sp)).cols k x.sp).p1
              (pointInterval x.L.cols (shiftRight x.R x.sp (iRight k x.sp)).cols k x.sp).q0
              (pointInterval x.L.cols (shiftRight x.R x.sp (iRight k x.sp)).cols k x.sp).q1 false false false).2).isNan).1 := by
  have snd (n l r : Bool) : ∀ pq : PQ, (cvMaskedNanCell c pq.p0 pq.p1 pq.q0 pq.q1 n l r).2 = pq.q0 + (c - pq.p0) := fun _ => rfl
  simp only [cvMaskedStep, cvMaskedNanCell_fst, snd, true_and, apply_ite Cell.isNan, addMask_isNan]

theorem cvMaskedStep_other (x : Input) (gmin : Int) (cv : Volume) (k r c : Int) (j : Nat)
    (hj : j ≠ (k - gmin * (x.sp : Int)).toNat) : (cvMaskedStep x gmin cv k) r c j = cv r c j :=
  MC.cvMaskedStep_other x gmin cv k r c j hj

theorem leftDilInput_eq (m vL ndL vR ndR : Int) : leftDilInput m vL ndL vR ndR = decide (m = ndL) := by
  unfold leftDilInput
  first | rfl | (rw [Bool.eq_iff_iff]; simp only [decide_eq_true_eq]; omega)

theorem rightDilInput_eq (m vL ndL vR ndR : Int) : rightDilInput m vL ndL vR ndR = decide (m = ndR) := by
  unfold rightDilInput
  first | rfl | (rw [Bool.eq_iff_iff]; simp only [decide_eq_true_eq]; omega)

theorem maskRaster_isNan (w rows cols : Nat) (m : Mask) (hp : m.present = true) (r c : Int) :
    (maskRaster w rows cols m r c).isNan
      = (((!decide (m.code r c = m.valid)) && (!decide (m.code r c = m.nodata))) || dilated w rows cols m r c) := by
  rw [maskRaster, if_pos hp]
  cases hd : dilated w rows cols m r c <;>
    by_cases h1 : m.code r c = m.valid <;> by_cases h2 : m.code r c = m.nodata <;>
    simp [h1, h2, Val.isNan]

/-- the left mask is read with the LEFT image's convention — whatever the right image's -/
theorem leftMaskNan_eq (w rows cols : Nat) (m : Mask) (hp : m.present = true) (r c : Int) (vR ndR : Int) :
    (maskRaster w rows cols m r c).isNan
      = leftMaskNan (m.code r c) m.valid m.nodata vR ndR (dilated w rows cols m r c) :=
  maskRaster_isNan w rows cols m hp r c

/-- the right mask, with the RIGHT image's convention — whatever the left image's -/
theorem rightMaskNan_eq (w rows cols : Nat) (m : Mask) (hp : m.present = true) (r c : Int) (vL ndL : Int) :
    (maskRaster w rows cols m r c).isNan
      = rightMaskNan (m.code r c) vL ndL m.valid m.nodata (dilated w rows cols m r c) :=
  maskRaster_isNan w rows cols m hp r c

example : gridOutside ((3 : ℚ) / 2) 1 1 = true ∧ gridOutside ((3 : ℚ) / 2) 1 ((3 : ℚ) / 2) = false := by decide +kernel
example : cvMaskedNanCell 2 0 5 1 6 false false true = (true, 3) := by decide +kernel
example : leftMaskNan 9 0 1 5 7 false = true ∧ rightMaskNan 5 0 1 5 7 false = false ∧ rightMaskNan 0 0 1 5 7 false = true := by decide

end Pandora.C02KernelsMasked
