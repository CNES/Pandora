/-
  C12 — `Risk.compute_risk_and_sampled_risk` REGENERATED from the Python source
  (`Generated/KernelsConf.lean: computeRiskSampledPx`) is equal, for every cost curve, eta grid, sampled-ambiguity vector of
  the grid's length and pair of global extremes with `max_cost ≠ min_cost`, to the hand model's
  `(pixelRisk, pixelSampledRisk)`: the two means and the two per-eta vectors.
-/
import PandoraModel.Properties.C12Kernels


namespace Pandora.C12Kernels
open Pandora.Confidence Pandora.PyLoops Pandora.PyVec Pandora.C12
open Pandora.Generated.KernelsConf

theorem optNan_ofVal (o : Option ℚ) : optNan o = Fl.ofVal (optVal o) := by cases o <;> rfl

theorem optNan_eq (l : List (Option ℚ)) : l.map optNan = (l.map optVal).map Fl.ofVal := by
  rw [List.map_map]
  exact List.map_congr_left fun o _ => optNan_ofVal o

/-- `np.zeros(n)[...] += v` -/
theorem zeros_add_embed (l : List (Option ℚ)) (n : Nat) (h : n = l.length) :
    zip2 Fl.add (full (Fl.fin 0) (n : Int)) (l.map optNan) = l.map optNan := by
  subst h
  simp only [zip2, full, Int.toNat_natCast]
  induction l with
  | nil => rfl
  | cons o l ih =>
    simp only [List.length_cons, List.replicate_succ, List.map_cons, List.zipWith_cons_cons, ih]
    cases o <;> simp [optNan, Fl.add]

/-- the mean of the per-eta vectors is the risk: `pixelRisk` is `nanmean` of `pixelSampledRisk` (model level) -/
theorem pixelRisk_eq_mean (mn mx : ℚ) (etas : List ℚ) (c : Curve) (sampled : List Nat) (m : ℚ)
    (hm : pixelBest mn mx c = some m) :
    ∃ spread : List (Option ℚ),
      (pixelSampledRisk mn mx etas c sampled).1 = spread.map optVal ∧
      (pixelRisk mn mx etas c sampled).1 = nanMean spread := by
  rw [pixelSampledRisk_of_best mn mx etas c sampled m hm, pixelRisk_of_best mn mx etas c sampled m hm]
  exact ⟨_, rfl, rfl⟩

/-- `compute_risk_and_sampled_risk`: the generated per-pixel function returns `pixelRisk` and `pixelSampledRisk` -/
theorem computeRiskSampled_generated_eq (mn mx : ℚ) (etas : List ℚ) (c : Curve) (sampled : List Nat)
    (hr : mx ≠ mn) (hc : c ≠ []) (hs : sampled.length = etas.length) :
    computeRiskSampledPx (embedCurve c) (embedQ (sampled.map (fun (a : Nat) => (a : ℚ)))) (Fl.fin mn) (Fl.fin mx) (embedQ etas)
      = .ok (Fl.ofVal (pixelRisk mn mx etas c sampled).1, Fl.ofVal (pixelRisk mn mx etas c sampled).2,
             (pixelSampledRisk mn mx etas c sampled).1.map Fl.ofVal, (pixelSampledRisk mn mx etas c sampled).2.map Fl.ofVal) := by
  have hlen : 0 < c.length := List.length_pos_iff.mpr hc
  have h0 : mx - mn ≠ 0 := sub_ne_zero.mpr hr
  have hfull : ∀ x : Fl, PyVec.len (full x (etas.length : Int)) = (etas.length : Int) := fun x => by simp [PyVec.len]
  simp only [computeRiskSampledPx, len_embedCurve, len_embedQ, hfull, twoDim_embed etas c.length, nanmin_embed,
    ← pixelBest_eq mn mx c hr, Fl.sub_fin, nonEmpty_embedCurve c hc]
  cases hb : pixelBest mn mx c with
  | none =>
    simp [pixelRisk, pixelSampledRisk, hb, optNan, Fl.isNan, embedQ, hlen, Fl.ofVal, full]
  | some m =>
    rw [pixelRisk_of_best mn mx etas c sampled m hb, pixelSampledRisk_of_best mn mx etas c sampled m hb]
    simp only [optNan, Fl.sub_fin, fdiv_fin _ _ h0, Fl.isNan, Bool.false_eq_true, if_false, normalizedCv_embed mn mx c hr,
      ← Nat.cast_mul, gt_embed mn mx etas c m, disp0_embed, disp2_embed, reshape2_map, spreads_embed, riskMin_embed,
      nanmean_embed]
    have hcol := column_chunks_ne_nil etas.length c.length (dispCv mn mx etas c m) hlen
    rw [zeros_add_embed _ _ (by simp), zeros_add_embed _ _ (by simp [hs])]
    simp [hlen, hs, hcol, allRange, inRange_natCast, Nat.mul_comm, optNan_ofVal]

end Pandora.C12Kernels
