/-
  C11 — Cross-based aggregation averages costs over the combined support region.

  Model and specification: `Model/Cbca.lean`.  What the translator read in `cbca.py` on this run: `Generated/Cbca.lean`
  (translator/gen_cbca.py: the "minimum 1" rule of `cross_support`, the statements of steps 1–4).

  Image sizes, masks, cost volume and disparity list are arbitrary throughout.  The arm loops as coded are the declarative
  arm `armRef` (rule `neighbour`: every distance; rule `loopVar`: every `cbca_distance ≥ 2`), the unique arm length
  satisfying the five sub-clauses.  Steps 2 and 4 are differences of a running sum stored behind a zero sentinel, hence
  sums over the horizontal / vertical arm; step 4 is the sum over the region list, `sum4` its length.

  The two main theorems, `C13.aggOut_eq_aggSpec` (one plane) and `C13.aggregate_eq_specAgg` (the whole step), give the
  output as a value; they carry the namespace of `aggSpec` / `specAgg` (`Lemmas/CbcaSteps.lean`), by which the locality
  theorems of C13 call them.  `aggOut_spec`, `aggregate_spec_coded`, `cbca_spec` read them through the tests `specCell` /
  `specAt`.

  Modelled, not verified: IEEE rounding (the theorems are over ℚ), `np.nanmedian`, scipy `zoom` (linear
  interpolation), numpy slicing.  Hypothesis `nanOutside`: input costs are NaN where the disparity has no
  facing right column (true of every cost volume the matching-cost step produces; sampled by the harness).
-/
import PandoraModel.Generated.Cbca
import PandoraModel.Lemmas.CbcaSteps
import PandoraModel.Lemmas.Median
import Mathlib.Tactic.Ring

namespace Pandora.C11
open Pandora.Cbca

def cnt (I : Rat) (px : Nat → Val) (fuel k : Nat) : Nat :=
  (List.range fuel).findIdx fun j => jump I (px 0) (px (k + j + 1))

theorem cnt_le (I px) (fuel k : Nat) : cnt I px fuel k ≤ fuel :=
  Nat.le_trans List.findIdx_le_length (Nat.le_of_eq List.length_range)

theorem cnt_eq_iff (I px) (fuel k m : Nat) : cnt I px fuel k = m ↔
    m ≤ fuel ∧ (∀ j, j < m → jump I (px 0) (px (k + j + 1)) = false) ∧
      (m < fuel → jump I (px 0) (px (k + m + 1)) = true) := by
  have hle := cnt_le I px fuel k
  unfold cnt at *
  rcases Nat.lt_trichotomy m fuel with h | rfl | h
  · rw [List.findIdx_eq (by rwa [List.length_range])]
    simp only [List.getElem_range]
    exact ⟨fun ⟨h1, h2⟩ => ⟨Nat.le_of_lt h, h2, fun _ => h1⟩, fun ⟨_, h2, h3⟩ => ⟨h3 h, h2⟩⟩
  · have e := List.findIdx_eq_length (p := fun j => jump I (px 0) (px (k + j + 1))) (xs := List.range m)
    rw [List.length_range] at e
    simp only [e, List.mem_range, Nat.le_refl, Nat.lt_irrefl, false_imp_iff, and_true, true_and]
  · exact ⟨fun e => by omega, fun e => by omega⟩

theorem cnt_succ (I px) (fuel k : Nat) :
    cnt I px (fuel + 1) k = if jump I (px 0) (px (k + 1)) then 0 else 1 + cnt I px fuel (k + 1) := by
  unfold cnt
  rw [List.range_succ_eq_map, List.findIdx_cons, List.findIdx_map, Nat.add_comm 1]
  simp only [Function.comp_def, Nat.add_zero, cond_eq_ite, Nat.add_right_comm k 1, Nat.succ_eq_add_one, Nat.add_assoc]

theorem armLoop_eq (I px) : ∀ fuel k, armLoop I px fuel k =
    (k + cnt I px fuel k, if cnt I px fuel k < fuel then k + cnt I px fuel k + 1 else k + cnt I px fuel k) := by
  intro fuel
  induction fuel with
  | zero => intro k; simp [armLoop, cnt]
  | succ n ih =>
    intro k
    rw [cnt_succ]
    unfold armLoop
    split
    · simp
    · rw [ih (k + 1)]
      have := cnt_le I px n (k + 1)
      ext
      · simp; omega
      · simp only
        split <;> split <;> omega

theorem runLen_eq_cnt (I px n) : runLen I px n = cnt I px n 0 := by
  unfold runLen cnt
  rw [List.takeWhile_eq_take_findIdx_not, List.length_take, Nat.min_eq_left List.findIdx_le_length]
  simp only [Bool.not_not, Nat.zero_add]

theorem jump_nan_right (I : Rat) (a b : Val) (h : b.isNum = false) : jump I a b = true := by
  cases a <;> cases b <;> simp_all [jump, Val.isNum, Val.isNan]

/-- the minimum rule adds nothing to a run of at least one pixel, or when there is no neighbour to add -/
theorem max_minOne {c : Nat} (b : Bool) (h : b = false ∨ 1 ≤ c) : max c (if b = true then 1 else 0) = c := by
  rcases h with rfl | hc
  · exact Nat.max_eq_left (Nat.zero_le c)
  · exact Nat.max_eq_left (by split <;> omega)

theorem armCoded_eq_armRef (mr : MinRule) (I : Rat) (px : Nat → Val) (dist room : Nat)
    (h : mr = .neighbour ∨ 2 ≤ dist) (h0 : (px 0).isNum = true) :
    armCoded mr I px dist room = armRef I px dist room := by
  unfold armCoded armRef iters
  rw [armLoop_eq, runLen_eq_cnt]
  simp only [h0, ↓reduceIte, Nat.zero_add]
  generalize hn : min (dist - 1) room = n
  have hle := cnt_le I px n 0
  rcases h with h | h
  · subst h; rfl
  · cases mr with
    | neighbour => rfl
    | loopVar =>
      simp only
      by_cases hr : 1 ≤ room
      · have hn1 : 1 ≤ n := by omega
        by_cases hc : cnt I px n 0 = 0
        · -- the loop broke at the first neighbour: the loop variable is the neighbour
          simp [hc, show 0 < n by omega]
        · -- at least one pixel was accepted: the minimum rule adds nothing on either side
          have hc1 : 1 ≤ cnt I px n 0 := by omega
          rw [max_minOne _ (Or.inr hc1), max_minOne _ (Or.inr hc1)]
      · simp [hr]

theorem crossSupport_eq_crossRef (mr : MinRule) (H W dist : Nat) (I : Rat) (img : Img)
    (h : mr = .neighbour ∨ 2 ≤ dist) (y x : Nat) :
    crossSupport mr H W dist I img y x = crossRef H W dist I img y x := by
  unfold crossSupport crossRef
  by_cases h0 : (img y x).isNum = true
  · rw [if_pos h0, Arms.mk.injEq]
    exact ⟨armCoded_eq_armRef mr I _ dist _ h h0, armCoded_eq_armRef mr I _ dist _ h h0,
      armCoded_eq_armRef mr I _ dist _ h h0, armCoded_eq_armRef mr I _ dist _ h h0⟩
  · rw [if_neg h0, Arms.mk.injEq]
    exact ⟨(if_neg h0).symm, (if_neg h0).symm, (if_neg h0).symm, (if_neg h0).symm⟩

/-- With `cbca_distance = 1` the arm loops never run and the rule `loopVar` tests the anchor
    itself: row `[1, 1, masked, 1, 1]`, anchor at column 1, right arm: 1 as coded, 0 as specified. -/
def f9Row : Img := fun _ x => if x = 2 then .nan else .num 1

theorem arms_counterexample_distance_one :
    (crossSupport .loopVar 1 5 1 5 f9Row 0 1).right = 1 ∧ (crossRef 1 5 1 5 f9Row 0 1).right = 0
    ∧ (crossSupport .neighbour 1 5 1 5 f9Row 0 1).right = 0 := by decide

theorem nojump_isNum (I : Rat) (a b : Val) (h : jump I a b = false) : b.isNum = true := by
  cases a <;> cases b <;> simp_all [jump, Val.isNum, Val.isNan]

theorem armOk_iff_clauses (I : Rat) (px : Nat → Val) (dist room L : Nat) (h0 : (px 0).isNum = true) :
    armOk I px dist room L = true ↔
      (L ≤ room ∧ ∀ j, j < L → (px (j + 1)).isNum = true) ∧ L ≤ max (dist - 1) 1 ∧
      (L ≤ 1 ∨ ∀ j, j < L → jump I (px 0) (px (j + 1)) = false) ∧
      ((decide (1 ≤ room) && (px 1).isNum) = false ∨ 1 ≤ L) ∧
      (min (dist - 1) room ≤ L ∨
        (if L = 0 then jump I (px 0) (px 1)
          else if L = 1 then jump I (px 0) (px 1) || jump I (px 0) (px 2) else jump I (px 0) (px (L + 1))) = true) := by
  simp only [armOk, armStopMasked, armStopDistance, armStopIntensity, armMinOne, armMaximal, h0, ↓reduceIte,
    Bool.and_eq_true, Bool.or_eq_true, decide_eq_true_eq, List.all_eq_true, List.mem_range, Bool.not_eq_true',
    Bool.not_true, Bool.false_eq_true, false_or, Bool.true_and, decide_eq_false_iff_not, Nat.not_lt, and_assoc]

theorem armOk_masked (I : Rat) (px : Nat → Val) (dist room L : Nat) (h0 : (px 0).isNum = false) :
    armOk I px dist room L = true ↔ L = 0 := by
  simp only [armOk, armStopMasked, armStopDistance, armStopIntensity, armMinOne, armMaximal, h0, Bool.false_eq_true,
    ↓reduceIte, Bool.and_eq_true, decide_eq_true_eq, beq_iff_eq, Bool.false_and, Bool.not_false, Bool.true_or, and_true,
    Bool.or_eq_true]
  constructor
  · exact fun h => h.1.1.2
  · rintro rfl; simp

theorem armRef_ok (I : Rat) (px : Nat → Val) (dist room : Nat) :
    armOk I px dist room (armRef I px dist room) = true := by
  unfold armRef
  by_cases h0 : (px 0).isNum = true
  · rw [if_pos h0, armOk_iff_clauses I px dist room _ h0, runLen_eq_cnt]
    obtain ⟨hle, hno, hstop⟩ := (cnt_eq_iff I px (min (dist - 1) room) 0 _).mp rfl
    simp only [Nat.zero_add] at hno hstop
    generalize cnt I px (min (dist - 1) room) 0 = c at hle hno hstop
    generalize hb : (decide (1 ≤ room) && (px 1).isNum) = b
    by_cases hL : b = false ∨ 1 ≤ c
    · -- the minimum rule adds nothing: the arm is the run
      rw [max_minOne b hL]
      refine ⟨⟨Nat.le_trans hle (Nat.min_le_right _ _), fun j hj => nojump_isNum I _ _ (hno j hj)⟩,
        Nat.le_trans hle (Nat.le_trans (Nat.min_le_left _ _) (Nat.le_max_left _ _)), ?_, hL, ?_⟩
      · exact (Nat.lt_or_ge 1 c).elim (fun _ => Or.inr hno) Or.inl
      · refine (Nat.lt_or_ge c (min (dist - 1) room)).elim (fun hlt => Or.inr ?_) Or.inl
        have hs := hstop hlt
        by_cases hc0 : c = 0
        · subst hc0; simpa using hs
        · by_cases hc1 : c = 1
          · subst hc1; simp only [hc0, ↓reduceIte, Bool.or_eq_true]; exact Or.inr hs
          · simp only [hc0, hc1, ↓reduceIte]; exact hs
    · -- no pixel accepted by the loop, but the adjacent pixel exists and is not masked: one pixel
      have hb1 : b = true := by
        cases b
        · exact absurd (Or.inl rfl) hL
        · rfl
      have hc0 : c = 0 := Nat.eq_zero_of_not_pos fun h => hL (Or.inr h)
      subst hb1 hc0
      have hb' : 1 ≤ room ∧ (px 1).isNum = true := by simpa using hb
      have e : max 0 (if true = true then 1 else 0) = 1 := rfl
      rw [e]
      refine ⟨⟨hb'.1, fun j hj => ?_⟩, Nat.le_max_right _ _, Or.inl (Nat.le_refl 1), Or.inr (Nat.le_refl 1), ?_⟩
      · obtain rfl : j = 0 := by omega
        exact hb'.2
      · refine (Nat.lt_or_ge 0 (min (dist - 1) room)).elim (fun hlt => Or.inr ?_) (fun h => Or.inl (by omega))
        have hs := hstop hlt
        simp only [Nat.zero_add] at hs
        simp [hs]
  · have h0' : (px 0).isNum = false := by simpa using h0
    rw [if_neg h0, armOk_masked I px dist room 0 h0']

/-- of two admissible lengths the shorter one is not maximal -/
theorem armOk_not_lt (I : Rat) (px : Nat → Val) (dist room L L' : Nat) (h0 : (px 0).isNum = true)
    (h : armOk I px dist room L = true) (h' : armOk I px dist room L' = true) : ¬ L < L' := by
  intro hlt
  obtain ⟨_, _, _, hmin, hmax⟩ := (armOk_iff_clauses I px dist room L h0).mp h
  obtain ⟨⟨hroom, hnum⟩, hdist, hint, _, _⟩ := (armOk_iff_clauses I px dist room L' h0).mp h'
  by_cases h1 : L' = 1
  · -- `L = 0`, `L' = 1`: the adjacent pixel exists and is not masked, so the minimum rule forbids `0`
    have := hnum 0 (by omega)
    simp only [Nat.zero_add] at this
    have hb : (decide (1 ≤ room) && (px 1).isNum) = true := by simp [this]; omega
    rw [hb] at hmin
    rcases hmin with hmin | hmin
    · cases hmin
    · omega
  · -- `L' ≥ 2`: no jump up to `L'`, and `L' ≤ min (dist - 1) room`, so the stop test of `L` fails
    have hno := hint.resolve_left (by omega)
    have hstop := hmax.resolve_left (by omega)
    have j0 := hno 0 (by omega)
    have j1 := hno 1 (by omega)
    have jL := hno L hlt
    split at hstop
    · simp [j0] at hstop
    · split at hstop
      · simp [j0, j1] at hstop
      · simp [jL] at hstop

theorem armOk_iff (I : Rat) (px : Nat → Val) (dist room L : Nat) :
    armOk I px dist room L = true ↔ L = armRef I px dist room := by
  have hr := armRef_ok I px dist room
  refine ⟨fun h => ?_, fun h => h ▸ hr⟩
  by_cases h0 : (px 0).isNum = true
  · exact Nat.le_antisymm (Nat.le_of_not_lt (armOk_not_lt I px dist room _ _ h0 hr h))
      (Nat.le_of_not_lt (armOk_not_lt I px dist room _ _ h0 h hr))
  · have h0' : (px 0).isNum = false := by simpa using h0
    unfold armRef
    rw [if_neg h0]
    exact (armOk_masked I px dist room L h0').mp h

def sumRange (f : Nat → Rat) (a : Nat) : Nat → Rat
  | 0 => 0
  | n + 1 => sumRange f a n + f (a + n)

/-! `sumRange` and the model's `sumRangeN` are `List.sum` over `List.range`; what both need of a finite sum is said once,
    for any additive monoid. -/

theorem sumRange_eq_sum (f : Nat → Rat) (a : Nat) : ∀ n, sumRange f a n = ((List.range n).map (fun j => f (a + j))).sum := by
  intro n
  induction n with
  | zero => rfl
  | succ n ih => rw [List.range_succ, List.map_append, List.sum_append, ← ih]; simp [sumRange]

theorem sumRangeN_eq_sum (f : Nat → Nat) (a : Nat) :
    ∀ n, sumRangeN f a n = ((List.range n).map (fun j => f (a + j))).sum := by
  intro n
  induction n with
  | zero => rfl
  | succ n ih => rw [List.range_succ, List.map_append, List.sum_append, ← ih]; simp [sumRangeN]

theorem sum_range_split {M : Type} [AddCommMonoid M] (g : Nat → M) (m n : Nat) :
    ((List.range (m + n)).map g).sum = ((List.range m).map g).sum + ((List.range n).map (fun j => g (m + j))).sum := by
  rw [List.range_add, List.map_append, List.sum_append, List.map_map]
  rfl

theorem sum_range_congr {M : Type} [AddCommMonoid M] (g g' : Nat → M) (n : Nat) (h : ∀ i, i < n → g i = g' i) :
    ((List.range n).map g).sum = ((List.range n).map g').sum :=
  congrArg List.sum (List.map_congr_left fun i hi => h i (List.mem_range.1 hi))

theorem sum_range_reverse {M : Type} [AddCommMonoid M] (g : Nat → M) (n : Nat) :
    ((List.range n).map (fun i => g (n - 1 - i))).sum = ((List.range n).map g).sum := by
  have := List.reverse_range' (s := 0) (n := n)
  rw [Nat.zero_add, ← List.range_eq_range'] at this
  rw [← List.sum_reverse ((List.range n).map g), ← List.map_reverse, this, List.map_map]
  rfl

theorem sumRange_split (f : Nat → Rat) (a m n : Nat) : sumRange f a (m + n) = sumRange f a m + sumRange f (a + m) n := by
  rw [sumRange_eq_sum, sumRange_eq_sum, sumRange_eq_sum, sum_range_split]
  simp only [Nat.add_assoc]

theorem sumRangeN_split (f : Nat → Nat) (a m n : Nat) :
    sumRangeN f a (m + n) = sumRangeN f a m + sumRangeN f (a + m) n := by
  rw [sumRangeN_eq_sum, sumRangeN_eq_sum, sumRangeN_eq_sum, sum_range_split]
  simp only [Nat.add_assoc]

theorem sumRange_congr (f g : Nat → Rat) (a a' n : Nat) (h : ∀ i, i < n → f (a + i) = g (a' + i)) :
    sumRange f a n = sumRange g a' n := by
  rw [sumRange_eq_sum, sumRange_eq_sum]
  exact sum_range_congr _ _ n h

theorem sumRangeN_congr (f g : Nat → Nat) (a a' n : Nat) (h : ∀ i, i < n → f (a + i) = g (a' + i)) :
    sumRangeN f a n = sumRangeN g a' n := by
  rw [sumRangeN_eq_sum, sumRangeN_eq_sum]
  exact sum_range_congr _ _ n h

theorem sumRange_reverse (f g : Nat → Rat) (n a b : Nat) (h : ∀ i, i < n → f (a + i) = g (b + (n - 1 - i))) :
    sumRange f a n = sumRange g b n := by
  rw [sumRange_eq_sum, sumRange_eq_sum, ← sum_range_reverse (fun j => g (b + j))]
  exact sum_range_congr _ _ n h

theorem sumRangeN_reverse (f g : Nat → Nat) (n a b : Nat) (h : ∀ i, i < n → f (a + i) = g (b + (n - 1 - i))) :
    sumRangeN f a n = sumRangeN g b n := by
  rw [sumRangeN_eq_sum, sumRangeN_eq_sum, ← sum_range_reverse (fun j => g (b + j))]
  exact sum_range_congr _ _ n h

theorem sumRange_of_rec (S f : Nat → Rat) (h0 : S 0 = f 0) (hs : ∀ k, S (k + 1) = S k + f (k + 1)) :
    ∀ k, S k = sumRange f 0 (k + 1) := by
  intro k
  induction k with
  | zero => simp [sumRange, h0]
  | succ k ih => rw [hs, ih]; simp only [sumRange, Nat.zero_add]

theorem step1_eq (row : Nat → Val) : ∀ k, step1 row k = sumRange (fun x => c0 (row x)) 0 (k + 1) :=
  sumRange_of_rec _ _ (Rat.zero_add _) (fun _ => rfl)

/-- the prefix-sum identity behind steps 2 and 4, for any running sum `S` of `f` stored behind a zero sentinel:
    `S(x + r) − S(x − l − 1) = Σ_{x' = x − l}^{x + r} f x'`; for `l = x` the index `-1` reads the sentinel -/
theorem sentinelAt_diff (n : Nat) (S f : Nat → Rat) (hS : ∀ k, S k = sumRange f 0 (k + 1))
    (x l r : Nat) (hl : l ≤ x) (hr : x + r < n) :
    sentinelAt n S ((x : Int) + (r : Int)) - sentinelAt n S ((x : Int) - (l : Int) - 1)
      = sumRange f (x - l) (l + r + 1) := by
  rw [show (x : Int) + (r : Int) = ((x + r : Nat) : Int) from (Int.natCast_add x r).symm, sentinelAt_nat, if_pos hr, hS]
  by_cases h : l = x
  · subst h
    rw [show (l : Int) - (l : Int) - 1 = -1 by omega, sentinelAt_neg_one, Nat.sub_self, sub_zero]
  · rw [show (x : Int) - (l : Int) - 1 = ((x - l - 1 : Nat) : Int) by omega, sentinelAt_nat, if_pos (by omega), hS,
      show x + r + 1 = (x - l - 1 + 1) + (l + r + 1) by omega, sumRange_split,
      show 0 + (x - l - 1 + 1) = x - l by omega]
    ring

theorem s1At_diff (W : Nat) (row : Nat → Val) (x l r : Nat) (hl : l ≤ x) (hr : x + r < W) :
    s1At W row ((x : Int) + (r : Int)) - s1At W row ((x : Int) - (l : Int) - 1)
      = sumRange (fun x' => c0 (row x')) (x - l) (l + r + 1) :=
  sentinelAt_diff W _ _ (step1_eq row) x l r hl hr

theorem step2_eq_rowsum (P : Plane) (y x : Nat) (a : Arms) (h : comb P y x = some a)
    (hl : a.left ≤ x) (hr : x + a.right < P.W) :
    step2 P y x = sumRange (fun x' => c0 (P.cv y x')) (x - a.left) (a.left + a.right + 1) := by
  rw [step2_of_comb h]
  exact s1At_diff P.W (P.cv y) x a.left a.right hl hr

theorem step3_eq (P : Plane) (x : Nat) : ∀ y, step3 P x y = sumRange (fun y' => step2 P y' x) 0 (y + 1) :=
  sumRange_of_rec _ _ rfl (fun _ => rfl)

theorem step4_eq_colsum (P : Plane) (y x : Nat) (a : Arms) (h : comb P y x = some a)
    (ht : a.top ≤ y) (hb : y + a.bot < P.H) :
    step4 P y x = sumRange (fun y' => step2 P y' x) (y - a.top) (a.top + a.bot + 1) := by
  rw [step4_of_comb h]
  exact sentinelAt_diff P.H _ _ (step3_eq P x) y a.top a.bot ht hb

theorem sum_flatMap_range {α : Type} (F : Nat → List α) (g : α → Rat) (n : Nat) :
    (((List.range n).flatMap F).map g).sum = sumRange (fun i => ((F i).map g).sum) 0 n := by
  rw [List.map_flatMap, List.flatMap_def, List.sum_flatten, List.map_map, sumRange_eq_sum]
  simp only [Nat.zero_add, Function.comp_def]

theorem length_flatMap_range {α : Type} (F : Nat → List α) (n : Nat) :
    ((List.range n).flatMap F).length = sumRangeN (fun i => (F i).length) 0 n := by
  rw [List.length_flatMap, sumRangeN_eq_sum]
  simp only [Nat.zero_add]

theorem sum_region (g : Nat × Nat → Rat) (top bot : Nat) (l r : Nat → Nat) (y x : Nat) :
    ((region top bot l r y x).map g).sum
      = sumRange (fun y' => sumRange (fun x' => g (y', x')) (x - l y') (l y' + r y' + 1)) (y - top) (top + bot + 1) := by
  unfold region
  rw [sum_flatMap_range]
  apply sumRange_congr
  intro i _
  rw [Nat.zero_add, List.map_map, sumRange_eq_sum]
  rfl

theorem length_region (top bot : Nat) (l r : Nat → Nat) (y x : Nat) :
    (region top bot l r y x).length = sumRangeN (fun y' => l y' + r y' + 1) (y - top) (top + bot + 1) := by
  unfold region
  rw [length_flatMap_range]
  apply sumRangeN_congr
  intro i _
  simp

theorem mem_region (top bot : Nat) (l r : Nat → Nat) (y x : Nat) (ht : top ≤ y) (hl : ∀ y', l y' ≤ x) (q : Nat × Nat) :
    q ∈ region top bot l r y x ↔
      (y - top ≤ q.1 ∧ q.1 ≤ y + bot) ∧ (x - l q.1 ≤ q.2 ∧ q.2 ≤ x + r q.1) := by
  unfold region
  simp only [List.mem_flatMap, List.mem_range, List.mem_map]
  constructor
  · rintro ⟨i, hi, j, hj, rfl⟩
    have := hl (y - top + i)
    simp only
    omega
  · rintro ⟨⟨h1, h2⟩, h3, h4⟩
    obtain ⟨q1, q2⟩ := q
    simp only at h1 h2 h3 h4
    have hq := hl q1
    refine ⟨q1 - (y - top), by omega, q2 - (x - l q1), ?_, ?_⟩
    · have : y - top + (q1 - (y - top)) = q1 := by omega
      rw [this]; omega
    · have : y - top + (q1 - (y - top)) = q1 := by omega
      rw [this]
      congr 1
      omega

theorem nodup_region (top bot : Nat) (l r : Nat → Nat) (y x : Nat) : (region top bot l r y x).Nodup := by
  unfold region
  rw [List.nodup_flatMap]
  constructor
  · intro i _
    apply List.Nodup.map
    · intro a b hab
      simp only [Prod.mk.injEq, true_and] at hab
      omega
    · exact List.nodup_range
  · apply List.Pairwise.imp _ (List.nodup_range (n := top + bot + 1))
    intro i j hij
    simp only [Function.onFun, List.disjoint_left, List.mem_map, List.mem_range]
    rintro q ⟨a, _, rfl⟩ ⟨b, _, hb⟩
    simp only [Prod.mk.injEq] at hb
    omega

/-- C11 `sum_over_region`, on the model -/
theorem step4_eq_regionsum (P : Plane) (hA : armsInImage P.H P.W P.armsL = true) (y x : Nat) (hy : y < P.H) (hx : x < P.W)
    (a : Arms) (h : comb P y x = some a) : step4 P y x = specSum P y x := by
  obtain ⟨_, _, ht, hb⟩ := comb_in h (armsInImage_spec hA hy hx)
  delta specSum regionOf
  rw [h]
  show _ = ((region a.top a.bot (hLeft P x) (hRight P x) y x).map (fun q => c0 (P.cv q.1 q.2))).sum
  rw [sum_region (fun q => c0 (P.cv q.1 q.2)), step4_eq_colsum P y x a h ht hb]
  apply sumRange_congr
  intro i hi
  have hy' : y - a.top + i < P.H := by omega
  obtain ⟨xr, hxr, _⟩ := exists_rightCol_of_comb h
  have ha' := comb_of_rightCol P (y - a.top + i) x hxr
  have hin' := comb_in ha' (armsInImage_spec hA hy' hx)
  rw [step2_eq_rowsum P _ x _ ha' hin'.1 hin'.2.1, hLeft_of_comb ha', hRight_of_comb ha']

theorem sumRangeN_add_one (f : Nat → Nat) (a : Nat) : ∀ n, sumRangeN (fun i => f i + 1) a n = sumRangeN f a n + n := by
  intro n
  induction n with
  | zero => rfl
  | succ n ih => simp only [sumRangeN, ih]; omega

/-- `np.sum` of an empty slice is `0`: the guard `if top != 0` of `sum4` changes nothing -/
theorem sumRangeN_guard (f : Nat → Nat) (a n : Nat) : (if n ≠ 0 then sumRangeN f a n else 0) = sumRangeN f a n := by
  cases n <;> rfl

/-- C11 `divided_by_region_size`, on the model: the divisor is the length of the region list, which lists no pixel twice
    (`nodup_region`) -/
theorem sum4_eq_card (P : Plane) (hA : armsInImage P.H P.W P.armsL = true) (y x : Nat) (hy : y < P.H) (hx : x < P.W)
    (a : Arms) (h : comb P y x = some a) : sum4 P y x = specCount P y x := by
  obtain ⟨_, _, ht, _⟩ := comb_in h (armsInImage_spec hA hy hx)
  delta specCount regionOf
  rw [h]
  show _ = (region a.top a.bot (hLeft P x) (hRight P x) y x).length
  -- rows `y - top … y + bot` split into the rows above, row `y`, the rows below
  have e : (fun y' => hLeft P x y' + hRight P x y' + 1) = (fun y' => sum2 P y' x + 1) := by
    funext y'; rw [sum2_eq_hRight_add_hLeft]; omega
  rw [length_region, e, sumRangeN_add_one, show a.top + a.bot + 1 = a.top + (1 + a.bot) by omega, sumRangeN_split,
    sumRangeN_split, show y - a.top + a.top = y by omega, sum4_of_comb h, sumRangeN_guard, sumRangeN_guard]
  simp only [sumRangeN, Nat.add_zero, Nat.zero_add]
  omega

theorem sum4_pos (P : Plane) (y x : Nat) : sum4 P y x ≠ 0 := by
  cases h : comb P y x with
  | none => rw [sum4_of_none h]; omega
  | some a => rw [sum4_of_comb h]; omega

theorem aggOut_isNan (P : Plane) (y x : Nat) : (aggOut P y x).isNan = (P.cv y x).isNan := by
  unfold aggOut
  cases hcv : P.cv y x with
  | nan => rfl
  | num q => simp [fdiv, sum4_pos, Val.isNan]

theorem comb_isSome_of_num (P : Plane) (hN : nanOutside P = true) {y x : Nat} (hy : y < P.H) (hx : x < P.W) {q : Rat}
    (hcv : P.cv y x = .num q) : ∃ a, comb P y x = some a := by
  unfold nanOutside at hN
  simp only [List.all_eq_true, List.mem_range, Bool.or_eq_true] at hN
  rcases hN y hy x hx with h1 | h1
  · cases hr : rightCol P.d P.Wr x with
    | none => simp [hr] at h1
    | some xr => exact ⟨_, comb_of_rightCol P y x hr⟩
  · simp [hcv, Val.isNan] at h1

/-- **Main theorem for one disparity plane.**  If the left arms stay inside the image and costs are NaN where
    the disparity has no facing right column, then every cell of the aggregated plane is the prescribed one:
    NaN stays NaN, any other cost becomes (sum of the non-NaN costs over the region) / (size of the region). -/
theorem _root_.Pandora.C13.aggOut_eq_aggSpec (P : Plane) (hA : armsInImage P.H P.W P.armsL = true)
    (hN : nanOutside P = true) (y x : Nat) (hy : y < P.H) (hx : x < P.W) : aggOut P y x = C13.aggSpec P y x := by
  unfold aggOut
  cases hcv : P.cv y x with
  | nan => rw [C13.aggSpec_of_nan hcv]
  | num q =>
    obtain ⟨a, hc⟩ := comb_isSome_of_num P hN hy hx hcv
    rw [C13.aggSpec_of_num hcv]
    simp only
    rw [← step4_eq_regionsum P hA y x hy hx a hc, ← sum4_eq_card P hA y x hy hx a hc, Rat.zero_add]
    unfold fdiv
    rw [if_neg (sum4_pos P y x)]

/-- the same as a test of the cell (`specCell`) -/
theorem aggOut_spec (P : Plane) (hA : armsInImage P.H P.W P.armsL = true) (hN : nanOutside P = true)
    (y x : Nat) (hy : y < P.H) (hx : x < P.W) : specCell P y x (aggOut P y x) = true := by
  rw [C13.aggOut_eq_aggSpec P hA hN y x hy hx]
  exact C13.specCell_aggSpec P y x

/-- a coded arm stays in its room and below the longest arm -/
theorem armCoded_le (mr : MinRule) (I : Rat) (px : Nat → Val) (dist room : Nat) :
    armCoded mr I px dist room ≤ min (C13.armBound dist) room := by
  unfold armCoded iters C13.armBound
  rw [armLoop_eq]
  have hc := cnt_le I px (min (dist - 1) room) 0
  -- the minimum rule adds a pixel only when there is room for one, whichever pixel it probes
  have hmin : ∀ b : Bool, (if (decide (1 ≤ room) && b) = true then 1 else 0) ≤ min (max (dist - 1) 1) room := by
    intro b
    split
    · rename_i h
      have := of_decide_eq_true (Bool.and_eq_true_iff.mp h).1
      omega
    · exact Nat.zero_le _
  simp only [Nat.zero_add]
  exact Nat.max_le.mpr ⟨by omega, hmin _⟩

theorem crossSupport_in_image (mr : MinRule) (H W dist : Nat) (I : Rat) (img : Img) :
    armsInImage H W (crossSupport mr H W dist I img) = true := by
  unfold armsInImage
  simp only [List.all_eq_true, List.mem_range, Bool.and_eq_true, decide_eq_true_eq]
  intro y hy x hx
  unfold crossSupport
  split
  · have hr := fun px room => Nat.le_trans (armCoded_le mr I px dist room) (Nat.min_le_right _ _)
    exact ⟨⟨⟨hr _ _, (Nat.add_le_add_left (hr _ _) x).trans_lt (by omega)⟩, hr _ _⟩,
      (Nat.add_le_add_left (hr _ _) y).trans_lt (by omega)⟩
  · exact ⟨⟨⟨Nat.zero_le x, hx⟩, Nat.zero_le y⟩, hy⟩

/-- **The model computes the prescribed volume `specAgg`**, with the arms as coded — for every input, every
    `cbca_distance`, both variants of the minimum rule. -/
theorem _root_.Pandora.C13.aggregate_eq_specAgg (inp : Input) (dsp : Nat) (hN : nanOutside (inp.plane dsp) = true)
    (y x : Nat) : aggregate inp y x dsp = C13.specAgg inp y x dsp := by
  unfold aggregate aggregateWith C13.specAgg
  by_cases hA : inArea inp y x = true
  · rw [if_pos hA, if_pos hA]
    obtain ⟨hy, hx⟩ := inArea_spec hA
    exact C13.aggOut_eq_aggSpec (inp.plane dsp) (crossSupport_in_image inp.mr inp.h inp.w inp.dist inp.I _) hN _ _ hy hx
  · rw [if_neg hA, if_neg hA]

/-- the same as a test of the cells of the aggregated area -/
theorem aggregate_spec_coded (inp : Input) (dsp : Nat) (hN : nanOutside (inp.plane dsp) = true) (y x : Nat)
    (hA : inArea inp y x = true) :
    specCell (inp.plane dsp) (y - inp.off) (x - inp.off) (aggregate inp y x dsp) = true := by
  rw [C13.aggregate_eq_specAgg inp dsp hN]
  unfold C13.specAgg
  rw [if_pos hA]
  exact C13.specCell_aggSpec _ _ _

theorem plane_eq_planeRef (inp : Input) (h : inp.mr = .neighbour ∨ 2 ≤ inp.dist) (dsp : Nat) :
    inp.plane dsp = inp.planeRef dsp := by
  unfold Input.plane Input.planeRef
  have eL : inp.crossL = inp.crossLRef := by
    funext y x; exact crossSupport_eq_crossRef inp.mr inp.h inp.w inp.dist inp.I _ h y x
  have eR : inp.crossR = inp.crossRRef := by
    funext k y x; exact crossSupport_eq_crossRef inp.mr inp.h (inp.wr k) inp.dist inp.I _ h y x
  rw [eL, eR]

/-- **C11, the whole step.**  For every image pair, masks, cost volume, offset, sub-pixel precision, intensity
    and every `cbca_distance ≥ 2` (every `cbca_distance ≥ 1` when the minimum rule tests the adjacent pixel):
    every cell of the cost volume after aggregation satisfies the property for the combined support region
    built from the declarative arms (`armRef`) — provided the input costs are NaN where the disparity has no
    facing right column, which is what the matching-cost step produces. -/
theorem cbca_spec (inp : Input) (h : inp.mr = .neighbour ∨ 2 ≤ inp.dist) (dsp : Nat)
    (hN : nanOutside (inp.planeRef dsp) = true) (y x : Nat) :
    specAt inp y x dsp (aggregate inp y x dsp) = true := by
  have e := plane_eq_planeRef inp h dsp
  rw [C13.aggregate_eq_specAgg inp dsp (e ▸ hN)]
  exact C13.specAt_specAgg inp dsp e y x

/-- the same statement about the rule the translator read in `cbca.py` on this run -/
theorem cbca_spec_source (inp : Input) (hs : inp.mr = Generated.Cbca.minRule)
    (h : Generated.Cbca.minRule = .neighbour ∨ 2 ≤ inp.dist) (dsp : Nat)
    (hN : nanOutside (inp.planeRef dsp) = true) (y x : Nat) :
    specAt inp y x dsp (aggregate inp y x dsp) = true :=
  cbca_spec inp (hs ▸ h) dsp hN y x

theorem aggregate_isNan (inp : Input) (y x dsp : Nat) : (aggregate inp y x dsp).isNan = (inp.cv y x dsp).isNan := by
  unfold aggregate aggregateWith
  by_cases hA : inArea inp y x = true
  · rw [if_pos hA, aggOut_isNan]
    have := (inArea_iff inp y x).mp hA
    show (inp.cv (y - inp.off + inp.off) (x - inp.off + inp.off) dsp).isNan = _
    rw [show y - inp.off + inp.off = y by omega, show x - inp.off + inp.off = x by omega]
  · rw [if_neg hA]

/-- C11 `nan_stays` (and `no_new_nan` below): the two values of `aggregate_isNan`, no hypothesis on the input -/
theorem nan_stays (inp : Input) (y x dsp : Nat) (h : (inp.cv y x dsp).isNan = true) :
    (aggregate inp y x dsp).isNan = true := by
  rw [aggregate_isNan, h]

theorem no_new_nan (inp : Input) (y x dsp : Nat) (h : (inp.cv y x dsp).isNan = false) :
    (aggregate inp y x dsp).isNan = false := by
  rw [aggregate_isNan, h]

/-- C11 `plane_independent`: plane `dsp` of the result depends on plane `dsp` of the input volume only -/
theorem plane_independent (inp : Input) (cv' : Nat → Nat → Nat → Val) (dsp : Nat)
    (h : ∀ y x, cv' y x dsp = inp.cv y x dsp) (y x : Nat) :
    aggregate { inp with cv := cv' } y x dsp = aggregate inp y x dsp := by
  unfold aggregate aggregateWith
  have e : ({ inp with cv := cv' } : Input).planeWith ({ inp with cv := cv' } : Input).crossL ({ inp with cv := cv' } : Input).crossR dsp
      = inp.planeWith inp.crossL inp.crossR dsp := by
    unfold Input.planeWith
    simp only [h]
    rfl
  rw [e]
  show (if inArea inp y x = true then _ else cv' y x dsp) = _
  rw [h]

theorem finites_eq (l : List Val) : finites l = Filter.nums l :=
  Filter.eq_nums rfl (fun _ => rfl) (fun _ _ => rfl) l

theorem sortR_eq (t : List Rat) : sortR t = Filter.sortRat t := by
  have hi : ∀ (x : Rat) (t : List Rat), insertSorted x t = Filter.insertSorted x t := by
    intro x t
    induction t with
    | nil => rfl
    | cons y ys ih => simp only [insertSorted, Filter.insertSorted, ih]
  induction t with
  | nil => rfl
  | cons x xs ih => simp only [sortR, Filter.sortRat, ih, hi]

/-- the model of the 3×3 pre-filter carries its own copy of the sort-based `np.nanmedian`: it is C10's -/
theorem nanmedian_eq (l : List Val) : nanmedian l = Filter.nanmedian l := by
  unfold nanmedian Filter.nanmedian Filter.medianSorted
  rw [sortR_eq, finites_eq]

theorem nanmedian_isNum (l : List Val) (v : Val) (hv : v ∈ l) (hnum : v.isNum = true) : (nanmedian l).isNum = true := by
  cases v with
  | nan => cases hnum
  | num q =>
    obtain ⟨m, hm, _⟩ := Filter.median_isMedian (Filter.nums l) (List.ne_nil_of_mem (Filter.mem_nums.2 hv))
    rw [nanmedian_eq, Filter.nanmedian, hm]; rfl

theorem median3_isNan (H W : Nat) (g : Img) (y x : Nat) : (median3 H W g y x).isNan = (g y x).isNan := by
  unfold median3
  cases hg : g y x with
  | nan => simp [Val.isNan]
  | num q =>
    simp only [Val.isNan, Bool.false_eq_true, ↓reduceIte]
    by_cases hc : 1 ≤ y ∧ y + 1 < H ∧ 1 ≤ x ∧ x + 1 < W
    · simp only [hc, and_self, ↓reduceIte]
      have := nanmedian_isNum (window3 g y x) (g y x) (by simp [window3]) (by simp [hg, Val.isNum, Val.isNan])
      cases hm : nanmedian (window3 g y x) with
      | nan => simp [hm, Val.isNum, Val.isNan] at this
      | num _ => rfl
    · simp only [hc, ↓reduceIte]

theorem maskedImg_isNan (im : Nat → Nat → Rat) (hasMsk : Bool) (msk : Nat → Nat → Int) (validPx : Int) (y x : Nat) :
    (maskedImg im hasMsk msk validPx y x).isNan = (hasMsk && msk y x != validPx) := by
  unfold maskedImg
  split <;> simp_all [Val.isNan]

theorem shiftedImg_isNan (s k : Nat) (im : Nat → Nat → Rat) (hasMsk : Bool) (msk : Nat → Nat → Int) (validPx : Int)
    (y x : Nat) :
    (shiftedImg s k im hasMsk msk validPx y x).isNan = (hasMsk && (msk y x != validPx || msk y (x + 1) != validPx)) := by
  unfold shiftedImg
  split <;> simp_all [Val.isNan]

theorem filteredL_isNan (inp : Input) (y x : Nat) :
    (inp.filteredL y x).isNan = (inp.hasMskL && inp.mskL y x != inp.validL) := by
  unfold Input.filteredL
  rw [median3_isNan, maskedImg_isNan]

theorem filteredR_isNan (inp : Input) (k y x : Nat) :
    (inp.filteredR k y x).isNan =
      if k = 0 then (inp.hasMskR && inp.mskR y x != inp.validR)
      else (inp.hasMskR && (inp.mskR y x != inp.validR || inp.mskR y (x + 1) != inp.validR)) := by
  unfold Input.filteredR
  split
  · rw [median3_isNan, maskedImg_isNan]
  · rw [median3_isNan, shiftedImg_isNan]

namespace Example

/-- 3 × 4 image pair with an intensity step, a masked left pixel, two disparities -/
def img : Nat → Nat → Rat := fun y x => if x < 2 then 10 else (if y = 1 then 31 else 30)

def inp : Input :=
  { H := 3, W := 4, off := 0
    imL := img, hasMskL := true, mskL := fun y x => if y = 2 ∧ x = 3 then 1 else 0, validL := 0
    imR := img, hasMskR := false, mskR := fun _ _ => 0, validR := 0
    dist := 3, I := 5, subpix := 1
    disp := fun k => if k = 0 then -1 else 0
    cv := fun y x k => if k = 0 ∧ x = 0 then .nan else if y = 2 ∧ x = 3 then .nan else .num (y + 2 * x + k : Nat)
    mr := Generated.Cbca.minRule }

example : (2 : Nat) ≤ inp.dist := by decide
example : nanOutside (inp.planeRef 0) = true := by decide +kernel
example : nanOutside (inp.planeRef 1) = true := by decide +kernel

/-- cell (1, 2) at disparity 0: the region has 8 pixels — the one-pixel minimum crosses the intensity step on
    the left, the masked pixel (2, 3) is left out — and the aggregated cost is their mean 45/8 -/
theorem cell_1_2 : specCount (inp.planeRef 1) 1 2 = 8 ∧ specSum (inp.planeRef 1) 1 2 = 45
    ∧ aggregate inp 1 2 1 = .num ((45 : Rat) / 8) := by decide +kernel

example : aggregate inp 1 2 1 = .num (specSum (inp.planeRef 1) 1 2 / specCount (inp.planeRef 1) 1 2) := by
  rw [cell_1_2.1, cell_1_2.2.1, cell_1_2.2.2]; rfl
example : specCount (inp.planeRef 1) 1 2 = 8 ∧ specSum (inp.planeRef 1) 1 2 = 45
    ∧ aggregate inp 1 2 1 = .num ((45 : Rat) / 8) := cell_1_2
example : regionOf (inp.planeRef 1) 1 2 = [(0, 1), (0, 2), (0, 3), (1, 1), (1, 2), (1, 3), (2, 1), (2, 2)] := by decide +kernel

end Example

end Pandora.C11
