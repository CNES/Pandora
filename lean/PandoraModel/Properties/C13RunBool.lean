/-
  C13 — the hypotheses of `run_crop_eq_whole` in decidable form, and the link from the extended run the driver executes
  to `fullRunR` (`afterTail_tailOf`: the tail "optional refinement, optional median" is `afterFilterR`;
  `extRunR_left_flag`: on that tail the left flag words are those of `fullRunR`).

  `Model/PipelineRun.lean` defines Bool versions of the hypotheses (`runOKB`, `cropRunB`, `leftInIntervalB`,
  `docConeOKB`, `coneInCropB`) which the driver evaluates on the inputs of the real whole-vs-crop differential
  (`C13.hyps`); each implies the hypothesis it stands for.  The count of real cases on which the driver finds them all
  `true` is the count of implementation inputs on which `run_crop_eq_whole_of_B` applies.
-/
import PandoraModel.Properties.C13Run

namespace Pandora.C13
open Pandora.Locality

theorem mcOK_of_B (x : MC.Input) (h : mcOKB x = true) : McOK x := by
  unfold mcOKB at h
  rw [Bool.and_eq_true] at h
  refine ⟨h.1, ?_⟩
  intro hz
  have h2 := h.2
  rw [hz] at h2
  exact absurd h2 (by decide)

theorem medianOK_of_B (K : RunCfg) (x : MC.Input) (h : medianOKB K x = true) : MedianOK K x := by
  unfold medianOKB at h
  simp only [Bool.and_eq_true, decide_eq_true_eq] at h
  obtain ⟨⟨⟨⟨a, b⟩, c⟩, d⟩, e⟩ := h
  exact ⟨a, b, c, d, e⟩

theorem runOK_of_B (K K' : RunCfg) (x : MC.Input) (h : runOKB K K' x = true) : RunOK K K' x := by
  unfold runOKB at h
  simp only [Bool.and_eq_true, decide_eq_true_eq, Bool.or_eq_true, Bool.not_eq_true'] at h
  obtain ⟨⟨⟨⟨⟨⟨⟨a, b⟩, c⟩, d⟩, e⟩, f⟩, g⟩, i⟩ := h
  refine ⟨mcOK_of_B x a, mcOK_of_B _ b, ⟨c, d⟩, ⟨e, f⟩, ?_, ?_⟩
  · intro hm
    cases g with
    | inl g => rw [hm] at g; cases g
    | inr g => exact medianOK_of_B K x g
  · intro hm
    cases i with
    | inl i => rw [hm] at i; cases i
    | inr i => exact medianOK_of_B K' _ i

theorem params_of_B (p q : McParams) (h : paramsEqB p q = true) : p = q := by
  unfold paramsEqB at h
  simp only [Bool.and_eq_true, decide_eq_true_eq, beq_iff_eq] at h
  obtain ⟨⟨⟨⟨⟨⟨⟨⟨a, b⟩, c⟩, d⟩, e⟩, f⟩, g⟩, i⟩, j⟩ := h
  cases p; cases q
  simp only [McParams.mk.injEq]
  exact ⟨a, b, c, d, e, f, g, i, j⟩

theorem cell_of_B (a b : McCell) (h : cellEqB a b = true) : a = b := by
  unfold cellEqB at h
  simp only [Bool.and_eq_true, decide_eq_true_eq] at h
  obtain ⟨⟨⟨⟨⟨h1, h2⟩, h3⟩, h4⟩, h5⟩, h6⟩ := h
  cases a; cases b
  simp only [McCell.mk.injEq]
  exact ⟨h1, h2, h3, h4, h5, h6⟩

theorem cropRun_of_B (x x' : MC.Input) (r0 c0 : Nat) (h : cropRunB x x' r0 c0 = true) : CropRun x x' r0 c0 := by
  unfold cropRunB at h
  simp only [Bool.and_eq_true, decide_eq_true_eq, List.all_eq_true, List.mem_range] at h
  obtain ⟨⟨⟨⟨⟨⟨⟨a, b⟩, c⟩, d⟩, e⟩, f⟩, g⟩, i⟩ := h
  exact ⟨params_of_B _ _ a, fun r c' hr hc => cell_of_B _ _ (b r hr c' hc), ⟨c, d⟩, e, f, g, i⟩

theorem docCone_bounds (K K' : RunCfg) (CP : CrossCheck.Params) (x : MC.Input) (h : docConeOKB K K' x = true) :
    Cone.le (runCone K K' CP x) (docCone K CP x) := by
  unfold docConeOKB at h
  simp only [Bool.and_eq_true, decide_eq_true_eq, beq_iff_eq] at h
  obtain ⟨⟨⟨⟨hm, hw⟩, hfs⟩, hmin⟩, hmax⟩ := h
  exact runCone_le_docCone K K' CP x (fun h => hm ▸ h) hw hfs hmin hmax

/-- the clipped-cone test in one coordinate -/
theorem clipped_interval (u d u0 d0 n n' k0 i : Nat) (q : Int) (hu : u0 ≤ u) (hd : d0 ≤ d)
    (h1 : k0 ≤ i + k0 - u) (h2 : min (i + k0 + d) (n - 1) < k0 + n')
    (q1 : (i : Int) + k0 - u0 ≤ q) (q2 : q ≤ (i : Int) + k0 + d0) :
    ((k0 : Int) ≤ q ∧ q < k0 + n') ∨ ¬ (0 ≤ q ∧ q < n) := by
  omega

/-- the clipped-cone test of the driver implies the cone hypothesis of the theorems, for any cone below `R` -/
theorem cone_of_B (R0 R : Cone) (hle : Cone.le R0 R) (rows cols r0 c0 rows' cols' r c : Nat)
    (h : coneInCropB R rows cols r0 c0 rows' cols' r c = true) :
    ∀ q, inCone R0 ((r : Int) + r0, (c : Int) + c0) q → InRect r0 c0 rows' cols' q ∨ ¬ InImage rows cols q := by
  unfold coneInCropB at h
  simp only [Bool.and_eq_true, decide_eq_true_eq] at h
  obtain ⟨⟨⟨h1, h2⟩, h3⟩, h4⟩ := h
  intro q hq
  obtain ⟨u1, u2, u3, u4⟩ := hq
  rcases clipped_interval _ _ _ _ rows rows' r0 r q.1 hle.1 hle.2.1 h1 h2 u1 u2 with hr | hr
  · rcases clipped_interval _ _ _ _ cols cols' c0 c q.2 hle.2.2.1 hle.2.2.2 h3 h4 u3 u4 with hc | hc
    · exact Or.inl ⟨hr.1, hr.2, hc.1, hc.2⟩
    · exact Or.inr fun hi => hc ⟨hi.2.2.1, hi.2.2.2⟩
  · exact Or.inr fun hi => hr ⟨hi.1, hi.2.1⟩

/-- **`run_crop_eq_whole` from the decidable hypotheses the driver evaluates** (`C13.hyps`): `runOKB` for both runs,
    `cropRunB`, `leftInIntervalB` for both left maps, `docConeOKB`, and the clipped documented cone of the pixel inside the
    crop (`coneInCropB`). -/
theorem run_crop_eq_whole_of_B (K K' : RunCfg) (V : CrossCheck.Variant) (CP : CrossCheck.Params) (x x' : MC.Input)
    (r0 c0 : Nat) (hc : cropRunB x x' r0 c0 = true) (ok : runOKB K K' x = true) (ok' : runOKB K K' x' = true)
    (out out' : Nat → Nat → CrossCheck.PixOut)
    (hout : fullRun K K' V CP x = some out) (hout' : fullRun K K' V CP x' = some out')
    (hin : (afterFilter K x).all (leftInIntervalB CP x.L.rows x.L.cols) = true)
    (hin' : (afterFilter K x').all (leftInIntervalB CP x'.L.rows x'.L.cols) = true)
    (hdoc : docConeOKB K K' x = true)
    (r c : Nat) (hr : r < x'.L.rows) (hcl : c < x'.L.cols)
    (hcone : coneInCropB (docCone K CP x) x.L.rows x.L.cols r0 c0 x'.L.rows x'.L.cols r c = true) :
    out' r c = out (r + r0) (c + c0) :=
  run_crop_eq_whole K K' V CP x x' r0 c0 (cropRun_of_B x x' r0 c0 hc) (runOK_of_B K K' x ok) (runOK_of_B K K' x' ok')
    out out' hout hout'
    (leftInInterval_of_all hin) (leftInInterval_of_all hin')
    r c hr hcl
    (cone_of_B _ _ (docCone_bounds K K' CP x hdoc) _ _ _ _ _ _ r c hcone)

/-- the tail "optional refinement, optional median" of the extended run gives the maps of `afterFilterR` -/
theorem afterTail_tailOf (K : RunCfg) (x : MC.Input) (R : Nat → Nat → List Val) :
    afterTail K x R (tailOf K) = afterFilterR K x R := by
  -- `tailOf K` is `[refine?] ++ [median?]`: on each of the four tails both sides unfold to the same term, once the
  -- result of the refinement loop (a `match` on both sides) is split
  unfold afterTail tailOf afterFilterR afterRefineR
  cases hr : K.doRefine <;> cases hm : K.doMedian
  · simp [afterTailFrom]
  · simp [afterTailFrom, tailStep]
  · simp only [if_true, Bool.false_eq_true, if_false, List.append_nil, afterTailFrom, tailStep, refineGridR]
    cases Refinement.loopRefinement K.refine _ <;> simp
  · simp only [if_true, List.cons_append, List.nil_append, afterTailFrom, tailStep, refineGridR]
    cases Refinement.loopRefinement K.refine _ <;> simp

/-- **the left flag words of the extended run without filling, on the chain of `fullRunR`, are those of `fullRunR`**
    (the theorems `run_crop_eq_whole`, `run_flip` therefore speak about the extended run the driver executes) -/
theorem extRunR_left_flag (K K' : RunCfg) (V : CrossCheck.Variant) (CP CP' : CrossCheck.Params) (v : Interp.Variant)
    (off : Nat) (x : MC.Input) (R R' : Nat → Nat → List Val) (l r : Interp.DMap)
    (out : Nat → Nat → CrossCheck.PixOut)
    (he : extRunR K K' (tailOf K) (tailOf K') V CP CP' ⟨none, v, off⟩ x R R' = some (l, r))
    (hf : fullRunR K K' V CP x R R' = some out) (i j : Nat) : l.flag i j = (out i j).flag := by
  obtain ⟨A, B, hA, hB, rfl⟩ := fullRunR_eq_some_iff.1 hf
  unfold extRunR at he
  rw [afterTail_tailOf, afterTail_tailOf, hA, hB] at he
  simp only [Option.some.injEq, Prod.mk.injEq] at he
  obtain ⟨rfl, _⟩ := he
  rfl

/-! ### Non-vacuity: the pair of `RunExample` (3 × 9 sad pair, its 3 × 8 crop starting at column 1) satisfies the Bool
    hypotheses at crop pixel (1, 4) -/

open RunExample in
example : cropRunB exWhole exCrop 0 1 = true ∧ runOKB exK exK' exWhole = true ∧ runOKB exK exK' exCrop = true
    ∧ docConeOKB exK exK' exWhole = true
    ∧ coneInCropB (docCone exK exCP exWhole) 3 9 0 1 3 8 1 4 = true := by
  refine ⟨?_, ?_, ?_, ?_, ?_⟩ <;> decide +kernel

end Pandora.C13
