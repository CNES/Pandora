/-
  C13 — the memoised evaluation of the composed run (every stage tabulated on the image once and read back:
  `Maps.memo`, `afterTailMemo`, `extRunMemo` of `Model/PipelineRun.lean`, what the driver executes) IS the literal run
  (`afterTail`, `extRunR`, hence `fullRunR` on its chain).

  Every step of the tail maps inputs that agree on the image to outputs that do (`StepReadsInside`): proved for the
  refinement, for the median and bilateral filters whose window fits and whose block loops start at the radius; for
  other parameters of the two filters it is a named hypothesis.  The cross-checks read the maps through
  `Blocks.tabulate` only, so that after the tail the two runs are EQUAL (not only equal on the image).
-/
import PandoraModel.Properties.C13RunBool

namespace Pandora.C13
open Pandora.Locality

def MapsEqIn (rows cols : Nat) (a b : Maps) : Prop :=
  ∀ r c, r < rows → c < cols → a.disp r c = b.disp r c ∧ a.flag r c = b.flag r c

theorem MapsEqIn.refl (rows cols : Nat) (a : Maps) : MapsEqIn rows cols a a := fun _ _ _ _ => ⟨rfl, rfl⟩

theorem memo_eqIn (rows cols : Nat) (m : Maps) : MapsEqIn rows cols (Maps.memo rows cols m) m := by
  intro r c hr hc
  exact ⟨tabulate_getD rows cols m.disp .nan r c hr hc, tabulate_getD rows cols m.flag 0 r c hr hc⟩

theorem MapsEqIn.trans {rows cols : Nat} {a b c : Maps} (h1 : MapsEqIn rows cols a b) (h2 : MapsEqIn rows cols b c) :
    MapsEqIn rows cols a c := fun r k hr hk => ⟨(h1 r k hr hk).1.trans (h2 r k hr hk).1, (h1 r k hr hk).2.trans (h2 r k hr hk).2⟩

/-- two results of a step: both raise, or both return maps that agree on the image -/
def ResEqIn (rows cols : Nat) : Option Maps → Option Maps → Prop
  | some a, some b => MapsEqIn rows cols a b
  | none, none => True
  | _, _ => False

def StepReadsInside (K : RunCfg) (x : MC.Input) (R : Nat → Nat → List Val) (s : TailStep) : Prop :=
  ∀ a b, MapsEqIn x.L.rows x.L.cols a b → ResEqIn x.L.rows x.L.cols (tailStep K x R a s) (tailStep K x R b s)

theorem ResEqIn.of_eq (rows cols : Nat) (u : Option Maps) : ResEqIn rows cols u u := by
  cases u with
  | none => trivial
  | some a => exact MapsEqIn.refl rows cols a

/-- **refinement** (any parameters): it reads the maps through `Blocks.tabulate` -/
theorem refine_readsInside (K : RunCfg) (x : MC.Input) (R : Nat → Nat → List Val) (P : Refinement.Params) :
    StepReadsInside K x R (.refine P) := by
  intro a b hab
  have e : tailStep K x R a (.refine P) = tailStep K x R b (.refine P) := by
    unfold tailStep
    rw [Blocks.tabulate_congr (g := fun r c =>
      (⟨R r c, b.disp r c, b.flag r c, ((x.dminG (r : Int) (c : Int) : Int) : Rat), ((x.dmaxG (r : Int) (c : Int) : Int) : Rat)⟩ :
        Refinement.PixIn)) (fun r hr c hc => by rw [(hab r c hr hc).1, (hab r c hr hc).2])]
  rw [e]
  exact ResEqIn.of_eq _ _ _

theorem eqIn_of_step {β : Type} {ny nx : Nat} {f : Img (Val × Nat) → Img β} {a b : Maps} {u v : Nat → Nat → β}
    (ha : toImg ny nx u = f (toImg ny nx (zipArr a.disp a.flag)))
    (hb : toImg ny nx v = f (toImg ny nx (zipArr b.disp b.flag))) (hab : MapsEqIn ny nx a b)
    (r c : Nat) (hr : r < ny) (hc : c < nx) : u r c = v r c := by
  have hz : toImg ny nx (zipArr a.disp a.flag) = toImg ny nx (zipArr b.disp b.flag) :=
    toImg_congr _ _ _ _ (fun r c hr hc => by unfold zipArr; rw [(hab r c hr hc).1, (hab r c hr hc).2])
  rw [hz, ← hb] at ha
  have := congrFun ha ((r : Int), (c : Int))
  rw [toImg_some _ _ _ r c hr hc, toImg_some _ _ _ r c hr hc] at this
  exact Option.some.inj this

theorem median_readsInside (K : RunCfg) (x : MC.Input) (R : Nat → Nat → List Val) (fs : Nat) (s : Blocks.Split)
    (hy : s.beginY = fs / 2) (hx : s.beginX = fs / 2) (hodd : fs % 2 = 1) (hny : fs ≤ x.L.rows) (hnx : fs ≤ x.L.cols) :
    StepReadsInside K x R (.median fs s) := fun a b hab r c hr hc =>
  ⟨eqIn_of_step
      (medianFilterDisparity_is_medianStep s K.invalidMask fs x.L.rows x.L.cols a.flag a.disp hy hx hodd hny hnx)
      (medianFilterDisparity_is_medianStep s K.invalidMask fs x.L.rows x.L.cols b.flag b.disp hy hx hodd hny hnx)
      hab r c hr hc, (hab r c hr hc).2⟩

theorem bilateral_readsInside (K : RunCfg) (x : MC.Input) (R : Nat → Nat → List Val) (wts : Filter.Weights) (w : Nat)
    (s : Blocks.Split) (hy : s.beginY = w / 2) (hx : s.beginX = w / 2) (hw : 0 < w) (hny : w ≤ x.L.rows)
    (hnx : w ≤ x.L.cols) : StepReadsInside K x R (.bilateral wts w s) := fun a b hab r c hr hc =>
  ⟨eqIn_of_step
      (bilateralFilterDisparity_is_bilateralStep s wts K.invalidMask w x.L.rows x.L.cols a.flag a.disp hy hx hw hny hnx)
      (bilateralFilterDisparity_is_bilateralStep s wts K.invalidMask w x.L.rows x.L.cols b.flag b.disp hy hx hw hny hnx)
      hab r c hr hc, (hab r c hr hc).2⟩

theorem afterTailMemoFrom_eqIn (K : RunCfg) (x : MC.Input) (R : Nat → Nat → List Val) :
    ∀ (tail : List TailStep), (∀ s ∈ tail, StepReadsInside K x R s) → ∀ a b, MapsEqIn x.L.rows x.L.cols a b →
      ResEqIn x.L.rows x.L.cols (afterTailMemoFrom K x R tail a) (afterTailFrom K x R tail b) := by
  intro tail
  induction tail with
  | nil => intro _ a b hab; exact hab
  | cons s rest ih =>
    intro hs a b hab
    have h1 := hs s (List.mem_cons_self ..) a b hab
    unfold afterTailMemoFrom afterTailFrom
    cases ha : tailStep K x R a s with
    | none =>
      cases hb : tailStep K x R b s with
      | none => trivial
      | some b' => rw [ha, hb] at h1; exact h1.elim
    | some a' =>
      cases hb : tailStep K x R b s with
      | none => rw [ha, hb] at h1; exact h1.elim
      | some b' =>
        rw [ha, hb] at h1
        simp only [Option.map_some, Option.bind_some]
        exact ih (fun t ht => hs t (List.mem_cons_of_mem _ ht)) _ _ ((memo_eqIn _ _ a').trans h1)

theorem afterTailMemo_eqIn (K : RunCfg) (x : MC.Input) (R : Nat → Nat → List Val) (tail : List TailStep)
    (hs : ∀ s ∈ tail, StepReadsInside K x R s) :
    ResEqIn x.L.rows x.L.cols (afterTailMemo K x R tail) (afterTail K x R tail) :=
  afterTailMemoFrom_eqIn K x R tail hs _ _ (memo_eqIn _ _ _)

theorem ResEqIn.cases {rows cols : Nat} {u v : Option Maps} (h : ResEqIn rows cols u v) :
    (u = none ∧ v = none) ∨
      ∃ a b, u = some a ∧ v = some b ∧ leftDataset rows cols a = leftDataset rows cols b := by
  match u, v, h with
  | none, none, _ => exact Or.inl ⟨rfl, rfl⟩
  | some a, some b, h =>
    refine Or.inr ⟨a, b, rfl, rfl, ?_⟩
    unfold leftDataset
    rw [Blocks.tabulate_congr (f := a.disp) (g := b.disp) (fun r hr c hc => (h r c hr hc).1),
      Blocks.tabulate_congr (f := a.flag) (g := b.flag) (fun r hr c hc => (h r c hr hc).2)]

/-- **The memoised run is the literal run** when every step of the two tails reads its input maps inside the image. -/
theorem extRunMemo_eq (K K' : RunCfg) (tail tail' : List TailStep) (V : CrossCheck.Variant) (CP CP' : CrossCheck.Params)
    (F : FillCfg) (x : MC.Input) (R R' : Nat → Nat → List Val)
    (hs : ∀ s ∈ tail, StepReadsInside K x R s) (hs' : ∀ s ∈ tail', StepReadsInside K' (swapInput x) R' s)
    (hsh : (swapInput x).L.rows = x.L.rows ∧ (swapInput x).L.cols = x.L.cols) :
    extRunMemo K K' tail tail' V CP CP' F x R R' = extRunR K K' tail tail' V CP CP' F x R R' := by
  have h2 := afterTailMemo_eqIn K' (swapInput x) R' tail' hs'
  rw [hsh.1, hsh.2] at h2
  unfold extRunMemo extRunR
  rcases (afterTailMemo_eqIn K x R tail hs).cases with ⟨h1, h1'⟩ | ⟨A, A', h1, h1', hA⟩
  · rw [h1, h1']
  · rcases h2.cases with ⟨h2, h2'⟩ | ⟨B, B', h2, h2', hB⟩
    · rw [h1, h1', h2, h2']
    · rw [h1, h1', h2, h2']
      simp only
      rw [hA, hB]

theorem tailOf_readsInside (K : RunCfg) (x : MC.Input) (R : Nat → Nat → List Val) (hmed : K.doMedian = true → MedianOK K x) :
    ∀ s ∈ tailOf K, StepReadsInside K x R s := by
  intro s hs
  unfold tailOf at hs
  simp only [List.mem_append] at hs
  cases hs with
  | inl h =>
    cases hr : K.doRefine <;> rw [hr] at h <;> simp at h
    subst h
    exact refine_readsInside K x R _
  | inr h =>
    cases hm : K.doMedian <;> rw [hm] at h <;> simp at h
    subst h
    have ok := hmed hm
    exact median_readsInside K x R _ _ ok.beginY ok.beginX ok.odd ok.rows ok.cols

end Pandora.C13
