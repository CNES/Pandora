/-
  C05 — whole-function theorems for `check_pipeline_section` (composition of the two `update_conf`
  calls with `PandoraMachine.check_conf`), for the model `Model/Config.lean` instantiated with the
  tables regenerated from the source (`Generated/Schemas.lean`).

  The idea: `PandoraMachine.check_conf` is the function `pipelineOut` (`Properties/C05Machine.lean`), and a class of
  the source returns, for a step in the form `update_conf` delivers, that step followed by the defaults it lacks
  (`classCheck_eq`); so both `update_conf` calls are transparent and `check_pipeline_section` is `pipelineOut` on the
  user's pipeline with its magic strings rewritten (`checkPipelineSection_iff`).  Everything is for a machine that
  does not carry steps over (`FreshFor`) and a user pipeline without duplicate keys.
-/
import PandoraModel.Properties.C05Machine
import PandoraModel.Properties.C05Class

namespace Pandora.C05W
open Pandora.Config Pandora.ConfigSpec Pandora.C05 Pandora.Generated.Schemas

theorem registry_noOptimization : NoOptimization registry := by
  intro kd h
  have : kindDesc? registry "optimization" = some kind_optimization := by rfl
  rw [this] at h; cases h; rfl

theorem mem_allClasses {kd : KindDesc} {c : ClassDesc} (hkd : kd ∈ registry) (hc : c ∈ kd.classes) :
    (kd.kind, c) ∈ allClasses := by
  unfold allClasses
  rw [List.mem_flatMap]
  exact ⟨kd, hkd, List.mem_map.2 ⟨c, hc, rfl⟩⟩

theorem generated_defaults_fixed : ∀ kc ∈ allClasses, ∀ a ∈ kc.2.actions, defaultIsFixed a = true :=
  fun _ h => (generated_classFacts _ h).fixed

theorem fixedLeaf_facts {v : JVal} (h : fixedLeaf v = true) : Merge.wfVal v = true ∧ Merge.fixedVal v := by
  simp only [fixedLeaf, Bool.and_eq_true, Bool.not_eq_true', decide_eq_true_eq] at h
  exact ⟨Merge.wfVal_leaf v h.1, Merge.fixedVal_of_leaf v h.1 h.2⟩

def defaultItems : List Action → Dict
  | [] => []
  | .default k v :: r => (k, v) :: defaultItems r
  | .defaultElifNaN k v :: r => (k, v) :: defaultItems r
  | _ :: r => defaultItems r

theorem keys_defaultItems : ∀ acts, Dict.keys (defaultItems acts) = defaultKeys acts
  | [] => rfl
  | a :: r => by cases a <;> simp [defaultItems, defaultKeys, Dict.keys, ← keys_defaultItems r]

theorem lookup_defaultItems (k : String) : ∀ acts, Dict.lookup (defaultItems acts) k = defaultOf acts k
  | [] => rfl
  | a :: r => by cases a <;> simp [defaultItems, defaultOf, Dict.lookup, lookup_defaultItems k r]

theorem mem_defaultItems_fixed : ∀ {acts : List Action}, (∀ a ∈ acts, defaultIsFixed a = true) →
    ∀ kv ∈ defaultItems acts, fixedLeaf kv.2 = true
  | [], _, _, hm => by cases hm
  | a :: r, h, kv, hm => by
    rw [List.forall_mem_cons] at h
    have ih := mem_defaultItems_fixed (acts := r) h.2 kv
    cases a with
    | default k0 v0 | defaultElifNaN k0 v0 =>
      rcases List.mem_cons.1 hm with rfl | hm
      · exact h.1
      · exact ih hm
    | guardNe _ _ _ | refuseGrids => exact ih hm

def missing (acts : List Action) (cfg : Dict) : Dict :=
  (defaultItems acts).filter fun kv => !(Dict.keys cfg).contains kv.1

theorem keys_missing (acts : List Action) (cfg : Dict) :
    Dict.keys (missing acts cfg) = (defaultKeys acts).filter fun k => !(Dict.keys cfg).contains k := by
  rw [missing, Merge.keys_filter (defaultItems acts) fun k => !(Dict.keys cfg).contains k, keys_defaultItems]

theorem mem_missing {acts : List Action} {cfg : Dict} {kv : String × JVal} (h : kv ∈ missing acts cfg) :
    kv ∈ defaultItems acts ∧ kv.1 ∉ Dict.keys cfg := by
  obtain ⟨h1, h2⟩ := List.mem_filter.1 h
  exact ⟨h1, by simpa using h2⟩

theorem lookup_missing {acts : List Action} {cfg : Dict} {k : String} (h : k ∉ Dict.keys cfg) :
    Dict.lookup (missing acts cfg) k = defaultOf acts k := by
  rw [missing, Merge.lookup_filter (fun k => !(Dict.keys cfg).contains k) k (by simpa using h), lookup_defaultItems]

/-- **what a class check returns** for a step in the form `update_conf` delivers (no duplicate keys, magic strings
    already rewritten), for any class whose default sequence is well-formed: the step, then the defaults it lacks -/
theorem classCheck_eq {o : Oracle} {c : ClassDesc} {l r : ImgInfo} {cfg out : Dict}
    (hwf : wfActions c.actions = true) (hcw : Merge.wfDict cfg = true) (hcf : Merge.deepRwD cfg = cfg)
    (h : classCheck o c l r cfg = .ok out) : out = cfg ++ missing c.actions cfg := by
  have hrun := (classCheck_ok h).1
  have hk : Dict.keys (cfg ++ missing c.actions cfg) = Dict.keys out := by
    rw [runActions_keys l r c.actions cfg out hwf hrun, ← keys_missing]
    simp [Dict.keys]
  refine Merge.dict_ext _ _ hk.symm (runActions_keys_nodup hwf (Merge.wfDict_keys_nodup cfg hcw) hrun) fun k => ?_
  rw [runActions_lookup l r c.actions cfg out hwf hrun k, Merge.lookup_append]
  cases hl : Dict.lookup cfg k with
  | some u =>
    -- a value `update_conf` delivered is not the string `"NaN"`
    have := pyEq_NaN_of_rewritten u (Merge.rewriteLeaf_of_fixed (Merge.fixedDict_mem hcf (Merge.mem_of_lookup cfg k u hl)))
    simp [nanFix, this]
  | none => exact (lookup_missing ((Merge.lookup_none_iff cfg k).1 hl)).symm

/-- when the defaults of the class are plain leaves, what it returns for a step in the form `update_conf` delivers is
    again in that form -/
theorem classCheck_form {o : Oracle} {c : ClassDesc} {l r : ImgInfo} {cfg out : Dict}
    (hwf : wfActions c.actions = true) (hfix : ∀ a ∈ c.actions, defaultIsFixed a = true)
    (hcw : Merge.wfDict cfg = true) (hcf : Merge.deepRwD cfg = cfg)
    (h : classCheck o c l r cfg = .ok out) : Merge.wfDict out = true ∧ Merge.deepRwD out = out := by
  have hnd := runActions_keys_nodup hwf (Merge.wfDict_keys_nodup cfg hcw) (classCheck_ok h).1
  have hvals : ∀ kv ∈ out, Merge.wfVal kv.2 = true ∧ Merge.fixedVal kv.2 := by
    intro kv hm
    rw [classCheck_eq hwf hcw hcf h, List.mem_append] at hm
    rcases hm with hm | hm
    · exact ⟨Merge.wfDict_mem hcw hm, Merge.fixedDict_mem hcf hm⟩
    · exact fixedLeaf_facts (mem_defaultItems_fixed hfix kv (mem_missing hm).1)
  exact ⟨(Merge.wfDict_iff out).2 ⟨hnd, fun kv hm => (hvals kv hm).1⟩,
    Merge.fixedDict_of_mem out fun kv hm => (hvals kv hm).2⟩

/-- `Abstract<Kind>(**cfg)` of a step kind of the source: the class and method the registry selected, and
    what that class made of `cfg` -/
theorem construct_facts {o : Oracle} {kd : KindDesc} {l r : ImgInfo} {cfg out : Dict}
    (hkd : kd ∈ registry) (hcw : Merge.wfDict cfg = true) (hcf : Merge.deepRwD cfg = cfg)
    (h : construct o kd l r cfg = .ok out) :
    ∃ m c, Dict.lookup cfg kd.methodKey = some (.str m) ∧ (kd.kind, c) ∈ allClasses ∧ m ∈ c.names ∧
      classCheck o c l r cfg = .ok out ∧ out = cfg ++ missing c.actions cfg ∧
      Merge.wfDict out = true ∧ Merge.deepRwD out = out := by
  obtain ⟨m, c, hm, hf, hcc⟩ := construct_ok_iff.1 h
  obtain ⟨hcm, hmn⟩ := findClass_some hf
  have hall := mem_allClasses hkd hcm
  have hF := generated_classFacts _ hall
  exact ⟨m, c, hm, hall, hmn, hcc, classCheck_eq hF.wf hcw hcf hcc, classCheck_form hF.wf hF.fixed hcw hcf hcc⟩

/-- `Abstract<Kind>(**out)` on the dictionary `Abstract<Kind>(**cfg)` returned: `out` again -/
theorem construct_idem {o : Oracle} {kd : KindDesc} {l r : ImgInfo} {cfg out : Dict}
    (hkd : kd ∈ registry) (hcw : Merge.wfDict cfg = true) (hcf : Merge.deepRwD cfg = cfg)
    (h : construct o kd l r cfg = .ok out) : construct o kd l r out = .ok out := by
  obtain ⟨m, c, hm, hf, hcc⟩ := construct_ok_iff.1 h
  have hwf := (generated_classFacts _ (mem_allClasses hkd (findClass_some hf).1)).wf
  refine construct_ok_iff.2 ⟨m, c, ?_, hf, classCheck_idempotent hwf hcc⟩
  rw [classCheck_eq hwf hcw hcf hcc, Merge.lookup_append, hm]

/-- first `update_conf`: the user's pipeline merged into `{"pipeline": {}}` is a deep copy of it with
    the magic strings rewritten -/
theorem first_merge (g : Bool) (P : Dict) (hwf : Merge.wfDict P = true) :
    updateConf g defaultPipeline [("pipeline", .obj P)] = .ok [("pipeline", .obj (Merge.deepRwD P))] := by
  have h := Merge.updateConf_fresh g P [] hwf (by intro k _; simp [Dict.lookup])
  rw [Merge.updateConf_cons]
  simp [defaultPipeline, Dict.lookup, Merge.updateVal_obj_obj, h, Except.map, Dict.setKey, Merge.updateConf_nil]

theorem second_merge (g : Bool) (P' M : Dict) (h : updateConf g P' M = .ok M) :
    updateConf g [("pipeline", .obj P')] [("pipeline", .obj M)] = .ok [("pipeline", .obj M)] := by
  rw [Merge.updateConf_cons]
  simp [Dict.lookup, Merge.updateVal_obj_obj, h, Except.map, Dict.setKey, Merge.updateConf_nil]

theorem step_wf {P : Dict} (hw : Merge.wfDict P = true) (hf : Merge.deepRwD P = P) {n : String} {cfg : Dict}
    (h : Dict.lookup P n = some (.obj cfg)) : Merge.wfDict cfg = true ∧ Merge.deepRwD cfg = cfg := by
  have hmem := Merge.mem_of_lookup P n _ h
  exact ⟨by simpa using Merge.wfDict_mem hw hmem, (Merge.fixedVal_obj cfg).1 (Merge.fixedDict_mem hf hmem)⟩

/-- the output of a step of the source's registry, for a step in the form `update_conf` delivers: the step, then
    defaults it lacks; it is its own output, and again in that form -/
theorem stepOut_facts {o : Oracle} {fl : MachineFlags} {l r : ImgInfo} {n : String} {cfg out : Dict}
    (h : stepOut o fl registry l r n (.obj cfg) = some out) (hcw : Merge.wfDict cfg = true)
    (hcf : Merge.deepRwD cfg = cfg) :
    (∃ X, out = cfg ++ X) ∧ stepOut o fl registry l r n (.obj out) = some out ∧
      Merge.wfDict out = true ∧ Merge.deepRwD out = out := by
  obtain ⟨kind, cfg', kd, hk, hv, hkd, hc, he⟩ := stepOut_eq_some.1 h
  cases hv
  have hkdm := (kindDesc_some hkd).1
  obtain ⟨m, c, _, _, _, _, heq, hw, hf⟩ := construct_facts hkdm hcw hcf hc
  exact ⟨⟨missing c.actions cfg, heq⟩, stepOut_eq_some.2 ⟨kind, out, kd, hk, rfl, hkd, construct_idem hkdm hcw hcf hc, he⟩, hw, hf⟩

/-- second `update_conf`: merging the machine's `pipeline_cfg` back into the configuration it was
    computed from returns `pipeline_cfg` itself — every step of it is the user's step followed by plain defaults -/
theorem merge_back (g : Bool) {o : Oracle} {fl : MachineFlags} {l r : ImgInfo} {P' M : Dict}
    (hw : Merge.wfDict P' = true) (hf : Merge.deepRwD P' = P') (hs : pipelineOut o fl registry l r P' = some M) :
    updateConf g P' M = .ok M := by
  have hkeys := (pipelineOut_lookup hs).1
  have hnd : (Dict.keys M).Nodup := by rw [hkeys]; exact Merge.wfDict_keys_nodup P' hw
  apply Merge.updateConf_replace g P' M [] hnd (by rw [hkeys]; simp)
  intro n w hl
  obtain ⟨cfg, out, hP, ho, rfl⟩ := pipelineOut_item hs hl
  obtain ⟨hcw, hcf⟩ := step_wf hw hf hP
  obtain ⟨⟨X, rfl⟩, _, hw', hf'⟩ := stepOut_facts ho hcw hcf
  rw [hP, Merge.updateVal_obj_obj, Merge.updateConf_append g cfg X hw' hf']
  rfl

/-- **`check_pipeline_section` = the machine's check between two transparent merges** (fresh machine,
    user pipeline without duplicate keys at any depth): the result is `{"pipeline": pipeline_cfg}` of
    the machine after `check_conf` on the user's pipeline with its magic strings rewritten -/
theorem checkPipelineSection_eq (o : Oracle) (fl : MachineFlags) (P : Dict) (l r : ImgInfo) (m : CState)
    (hfresh : FreshFor fl m) (hwf : Merge.wfDict P = true) :
    checkPipelineSection o fl registry [("pipeline", .obj P)] l r m =
      match machineCheck o fl registry (Merge.deepRwD P) l r m with
      | .error e => .error e
      | .ok m' => .ok ([("pipeline", .obj m'.pipelineCfg)], m') := by
  unfold checkPipelineSection
  rw [first_merge _ P hwf]
  simp only [Dict.lookup, if_true]
  cases hmc : machineCheck o fl registry (Merge.deepRwD P) l r m with
  | error e => rfl
  | ok m' =>
    simp only
    have hw' := Merge.wfDict_deepRwD P hwf
    have hmb := merge_back fl.strictMerge hw' (Merge.deepRwD_idem P)
      (machineCheck_fresh registry_noOptimization hfresh (Merge.wfDict_keys_nodup _ hw') hmc)
    rw [second_merge _ _ _ hmb]
    simp [Dict.lookup]

/-- **`check_pipeline_section` on a fresh machine is `pipelineOut`** of the user's pipeline with its magic strings
    rewritten: it returns `out` and leaves `M` in `pipeline_cfg` exactly when `pipelineOut` is `M` and `out` is
    `{"pipeline": M}` -/
theorem checkPipelineSection_iff {o : Oracle} {fl : MachineFlags} {P : Dict} {l r : ImgInfo} {m : CState}
    (hfresh : FreshFor fl m) (hwf : Merge.wfDict P = true) (out M : Dict) :
    (∃ m', checkPipelineSection o fl registry [("pipeline", .obj P)] l r m = .ok (out, m') ∧ m'.pipelineCfg = M) ↔
      pipelineOut o fl registry l r (Merge.deepRwD P) = some M ∧ out = [("pipeline", .obj M)] := by
  rw [checkPipelineSection_eq o fl P l r m hfresh hwf,
    ← machineCheck_iff registry_noOptimization hfresh (Merge.wfDict_keys_nodup _ (Merge.wfDict_deepRwD P hwf))]
  cases machineCheck o fl registry (Merge.deepRwD P) l r m with
  | error e => simp
  | ok m1 =>
    constructor
    · rintro ⟨m', h, rfl⟩; cases h; exact ⟨⟨_, rfl, rfl⟩, rfl⟩
    · rintro ⟨⟨m', h, rfl⟩, rfl⟩; cases h; exact ⟨_, rfl, rfl⟩

theorem checkPipelineSection_out {o : Oracle} {fl : MachineFlags} {P : Dict} {l r : ImgInfo}
    {m m' : CState} {out : Dict} (hfresh : FreshFor fl m) (hwf : Merge.wfDict P = true)
    (h : checkPipelineSection o fl registry [("pipeline", .obj P)] l r m = .ok (out, m')) :
    pipelineOut o fl registry l r (Merge.deepRwD P) = some m'.pipelineCfg ∧ out = [("pipeline", .obj m'.pipelineCfg)] :=
  (checkPipelineSection_iff hfresh hwf out _).1 ⟨m', h, rfl⟩

/-- "`kv` is a checked step": a dictionary in the form `update_conf` delivers that is its own output -/
def CheckedStep (o : Oracle) (fl : MachineFlags) (l r : ImgInfo) (kv : String × JVal) : Prop :=
  ∃ cfg, kv.2 = .obj cfg ∧ stepOut o fl registry l r kv.1 (.obj cfg) = some cfg ∧
    Merge.wfDict cfg = true ∧ Merge.deepRwD cfg = cfg

/-- "`Q` is a checked pipeline": in the form `update_conf` delivers, and its own check result -/
structure CheckedPipeline (o : Oracle) (fl : MachineFlags) (l r : ImgInfo) (Q : Dict) : Prop where
  wf : Merge.wfDict Q = true
  fixed : Merge.deepRwD Q = Q
  self : pipelineOut o fl registry l r Q = some Q

theorem checked_of_steps {o : Oracle} {fl : MachineFlags} {l r : ImgInfo} {Q : Dict} (hnd : (Dict.keys Q).Nodup)
    (hpath : Machine.isPath .begin (Dict.keys Q) = true) (hmirror : mirrorBad l r (Dict.keys Q) = false)
    (hsteps : ∀ kv ∈ Q, CheckedStep o fl l r kv) : CheckedPipeline o fl l r Q := by
  refine ⟨(Merge.wfDict_iff Q).2 ⟨hnd, fun kv hm => ?_⟩, Merge.fixedDict_of_mem Q fun kv hm => ?_, ?_⟩
  · obtain ⟨cfg, he, _, hw, _⟩ := hsteps kv hm
    rw [he]; simpa [Merge.wfVal] using hw
  · obtain ⟨cfg, he, _, _, hf⟩ := hsteps kv hm
    rw [he]; exact (Merge.fixedVal_obj cfg).2 hf
  · rw [pipelineOut_of_path hpath hmirror]
    exact mapValsM_self fun kv hm => by
      obtain ⟨cfg, he, ho, _⟩ := hsteps kv hm
      rw [he, ho]; rfl

theorem CheckedPipeline.steps {o : Oracle} {fl : MachineFlags} {l r : ImgInfo} {Q : Dict}
    (hQ : CheckedPipeline o fl l r Q) :
    (Dict.keys Q).Nodup ∧ Machine.isPath .begin (Dict.keys Q) = true ∧ mirrorBad l r (Dict.keys Q) = false ∧
    ∀ kv ∈ Q, CheckedStep o fl l r kv := by
  obtain ⟨hw, hf, h⟩ := hQ
  have hnd := Merge.wfDict_keys_nodup Q hw
  obtain ⟨hpath, hmirror, _⟩ := pipelineOut_eq_some.1 h
  refine ⟨hnd, hpath, hmirror, fun kv hm => ?_⟩
  -- the item is the output of the step of that name, which is the item itself
  have hl := Merge.lookup_of_mem Q kv.1 kv.2 hnd hm
  obtain ⟨cfg, out, hP, ho, he⟩ := pipelineOut_item h hl
  rw [hl, he] at hP
  have hoc : out = cfg := by simpa using hP
  rw [← hoc] at ho
  obtain ⟨hcw, hcf⟩ := step_wf hw hf (hl.trans (congrArg some he))
  exact ⟨out, he, ho, hcw, hcf⟩

theorem pipelineOut_checked {o : Oracle} {fl : MachineFlags} {l r : ImgInfo} {P' M : Dict}
    (hw : Merge.wfDict P' = true) (hf : Merge.deepRwD P' = P') (h : pipelineOut o fl registry l r P' = some M) :
    CheckedPipeline o fl l r M := by
  have hkeys := (pipelineOut_lookup h).1
  have hnd : (Dict.keys M).Nodup := hkeys ▸ Merge.wfDict_keys_nodup P' hw
  obtain ⟨hpath, hmirror, _⟩ := pipelineOut_eq_some.1 h
  refine checked_of_steps hnd (hkeys ▸ hpath) (hkeys ▸ hmirror) fun kv hm => ?_
  -- every item of `M` is the output of the step of `P'` of that name, hence its own output
  obtain ⟨cfg, out, hP, ho, he⟩ := pipelineOut_item h (Merge.lookup_of_mem M kv.1 kv.2 hnd hm)
  obtain ⟨hcw, hcf⟩ := step_wf hw hf hP
  exact ⟨out, he, (stepOut_facts ho hcw hcf).2⟩

/-- **a checked pipeline is returned unchanged by `check_pipeline_section`** (fresh machine) -/
theorem checkPipelineSection_of_checked {o : Oracle} {fl : MachineFlags} {l r : ImgInfo} {Q : Dict}
    (hQ : CheckedPipeline o fl l r Q) (m : CState) (hfresh : FreshFor fl m) :
    ∃ m', checkPipelineSection o fl registry [("pipeline", .obj Q)] l r m = .ok ([("pipeline", .obj Q)], m') :=
  have ⟨m', h, _⟩ := (checkPipelineSection_iff hfresh hQ.wf _ Q).2 ⟨by rw [hQ.fixed]; exact hQ.self, rfl⟩
  ⟨m', h⟩

theorem checked_of_checkPipelineSection {o : Oracle} {fl : MachineFlags} {P : Dict} {l r : ImgInfo}
    {m m' : CState} {out : Dict} (hfresh : FreshFor fl m) (hwf : Merge.wfDict P = true)
    (h : checkPipelineSection o fl registry [("pipeline", .obj P)] l r m = .ok (out, m')) :
    CheckedPipeline o fl l r m'.pipelineCfg :=
  pipelineOut_checked (Merge.wfDict_deepRwD P hwf) (Merge.deepRwD_idem P) (checkPipelineSection_out hfresh hwf h).1

/-- **one step of an accepted section**: the user's step is a dictionary, it has an output, and the machine holds
    that output under the step's name -/
theorem checkPipelineSection_step {o : Oracle} {fl : MachineFlags} {P : Dict} {l r : ImgInfo} {m m' : CState}
    {out : Dict} (hfresh : FreshFor fl m) (hwf : Merge.wfDict P = true)
    (h : checkPipelineSection o fl registry [("pipeline", .obj P)] l r m = .ok (out, m'))
    {n : String} {v : JVal} (hP : Dict.lookup P n = some v) :
    ∃ cfgU outn, v = .obj cfgU ∧ stepOut o fl registry l r n (.obj (Merge.deepRwD cfgU)) = some outn ∧
      Dict.lookup m'.pipelineCfg n = some (.obj outn) := by
  have hout := (checkPipelineSection_out hfresh hwf h).1
  obtain ⟨hkeys, hlook⟩ := pipelineOut_lookup hout
  -- the machine has the key, so the step has an output
  cases hM : Dict.lookup m'.pipelineCfg n with
  | none =>
    exact absurd (hkeys ▸ Merge.keys_deepRwD P ▸ Merge.mem_keys_of_lookup hP) ((Merge.lookup_none_iff _ n).1 hM)
  | some w =>
    obtain ⟨cfg, outn, hP', ho, rfl⟩ := pipelineOut_item hout hM
    rw [Merge.lookup_deepRwD, hP] at hP'
    obtain ⟨cfgU, rfl, rfl⟩ := Merge.deepRw_eq_obj (Option.some.inj hP')
    exact ⟨cfgU, outn, rfl, ho, rfl⟩

theorem deepRw_step_wf {P : Dict} (hwf : Merge.wfDict P = true) {n : String} {cfgU : Dict}
    (h : Dict.lookup P n = some (.obj cfgU)) :
    Merge.wfDict (Merge.deepRwD cfgU) = true ∧ Merge.deepRwD (Merge.deepRwD cfgU) = Merge.deepRwD cfgU := by
  have := Merge.wfDict_mem hwf (Merge.mem_of_lookup P n _ h)
  exact ⟨Merge.wfDict_deepRwD cfgU (by simpa using this), Merge.deepRwD_idem cfgU⟩

/-- **(1) steps and user values kept**: the result has the user's steps in the user's order; every
    key the user gave in a step is in the returned step with the user's value (the strings `"NaN"`,
    `"inf"`, `"-inf"` turned into floats by `update_conf`), and the user's keys are the first keys of
    the returned step, in the user's order -/
theorem checkPipelineSection_user_kept {o : Oracle} {fl : MachineFlags} {P : Dict} {l r : ImgInfo}
    {m m' : CState} {out : Dict} (hfresh : FreshFor fl m) (hwf : Merge.wfDict P = true)
    (h : checkPipelineSection o fl registry [("pipeline", .obj P)] l r m = .ok (out, m')) :
    ∃ M, out = [("pipeline", .obj M)] ∧ Dict.keys M = Dict.keys P ∧
      (∀ n ∈ Dict.keys P, ∃ cfgU, Dict.lookup P n = some (.obj cfgU)) ∧
      ∀ n cfgU, Dict.lookup P n = some (.obj cfgU) →
        ∃ outn, Dict.lookup M n = some (.obj outn) ∧
          (∀ k u, Dict.lookup cfgU k = some u → Dict.lookup outn k = some (Merge.deepRw u)) ∧
          (Dict.keys outn).take cfgU.length = Dict.keys cfgU := by
  obtain ⟨hout, hoeq⟩ := checkPipelineSection_out hfresh hwf h
  refine ⟨_, hoeq, (pipelineOut_lookup hout).1.trans (Merge.keys_deepRwD P), fun n hn => ?_, fun n cfgU hP => ?_⟩
  · cases hl : Dict.lookup P n with
    | none => exact absurd hn ((Merge.lookup_none_iff P n).1 hl)
    | some v =>
      obtain ⟨cfgU, _, rfl, _⟩ := checkPipelineSection_step hfresh hwf h hl
      exact ⟨cfgU, rfl⟩
  · obtain ⟨cfgU', outn, hv, ho, hM⟩ := checkPipelineSection_step hfresh hwf h hP
    cases hv
    obtain ⟨hcw, hcf⟩ := deepRw_step_wf hwf hP
    -- the returned step is the user's step (magic strings rewritten) followed by what its class added
    obtain ⟨⟨X, rfl⟩, _⟩ := stepOut_facts ho hcw hcf
    refine ⟨_, hM, fun k u hk => by rw [Merge.lookup_append, Merge.lookup_deepRwD, hk]; rfl, ?_⟩
    have : Dict.keys (Merge.deepRwD cfgU ++ X) = Dict.keys cfgU ++ Dict.keys X := by
      rw [← Merge.keys_deepRwD cfgU]; simp [Dict.keys]
    rw [this]
    exact List.take_left' (by simp [Dict.keys])

/-- **(2) completion**: in every returned step, every parameter the documentation lists for the
    step's method is present — with the documented default when the user omitted it (for the
    parameters whose default the documentation settles) — except the one documented as optional,
    which stays absent when omitted; and no key is added that is not a documented parameter -/
theorem checkPipelineSection_completed {o : Oracle} {fl : MachineFlags} {P : Dict} {l r : ImgInfo}
    {m m' : CState} {out : Dict} (hfresh : FreshFor fl m) (hwf : Merge.wfDict P = true)
    (h : checkPipelineSection o fl registry [("pipeline", .obj P)] l r m = .ok (out, m')) :
    ∀ n cfgU, Dict.lookup P n = some (.obj cfgU) →
      ∃ kind kd meth d outn,
        Machine.Kind.ofName? (Machine.kindOf n) = some kind ∧ kindDesc? registry kind.name = some kd ∧
        Dict.lookup (Merge.deepRwD cfgU) kd.methodKey = some (.str meth) ∧
        docClass? kind.name meth = some d ∧
        Dict.lookup m'.pipelineCfg n = some (.obj outn) ∧
        (∀ p ∈ d.params,
          match p.default with
          | .optional => Dict.lookup cfgU p.name = none → Dict.lookup outn p.name = none
          | .value v => ∃ x, Dict.lookup outn p.name = some x ∧ (Dict.lookup cfgU p.name = none → x = v)
          | .unsettled => (Dict.lookup outn p.name).isSome = true) ∧
        (∀ k ∈ Dict.keys outn, k ∈ Dict.keys cfgU ∨ ∃ p ∈ d.params, p.name = k) := by
  intro n cfgU hP
  -- the returned step is the class check of `deepRwD cfgU`: `classCheck_defaults_added`, read through the class's `DefaultsAgree`
  obtain ⟨cfgU', outn, hv, ho, hM⟩ := checkPipelineSection_step hfresh hwf h hP
  cases hv
  obtain ⟨kind, _, kd, hkind, hv, hkd, hc, _⟩ := stepOut_eq_some.1 ho
  cases hv
  obtain ⟨hcw, hcf⟩ := deepRw_step_wf hwf hP
  obtain ⟨hkdm, hkk⟩ := kindDesc_some hkd
  obtain ⟨meth, c, hmeth, hall, hmn, hcc, heq, _⟩ := construct_facts hkdm hcw hcf hc
  have hF := generated_classFacts _ hall
  obtain ⟨hdef, hkeys⟩ := classCheck_defaults_added hF.wf hcc
  obtain ⟨d, hd, ⟨hdoc2, _, _, _⟩⟩ := hF.documented meth hmn
  rw [Option.mem_def] at hd
  have hparams := hdoc2.defaults
  have hdk := hdoc2.defaultKeysDoc
  rw [hkk] at hd
  have hkept : ∀ k u, Dict.lookup cfgU k = some u → Dict.lookup outn k = some (Merge.deepRw u) := by
    intro k u hu
    rw [heq, Merge.lookup_append, Merge.lookup_deepRwD, hu]; rfl
  refine ⟨kind, kd, meth, d, outn, hkind, hkd, hmeth, hd, hM, ?_, ?_⟩
  · intro p hp
    have hpa := hparams p hp
    have homit : Dict.lookup cfgU p.name = none → Dict.lookup outn p.name = defaultOf c.actions p.name := by
      intro hn
      apply hdef
      rw [Merge.lookup_deepRwD, hn]; rfl
    cases hpd : p.default with
    | optional =>
      simp only [hpd, DefaultAgrees] at hpa
      simp only
      intro hn
      rw [homit hn, hpa.1]
    | value v =>
      simp only [hpd, DefaultAgrees] at hpa
      simp only
      cases hu : Dict.lookup cfgU p.name with
      | none =>
        exact ⟨v, by rw [homit hu, hpa], fun _ => rfl⟩
      | some u =>
        exact ⟨Merge.deepRw u, hkept _ _ hu, by intro hc; cases hc⟩
    | unsettled =>
      simp only [hpd, DefaultAgrees] at hpa
      simp only
      cases hu : Dict.lookup cfgU p.name with
      | none => rw [homit hu]; exact hpa
      | some u => rw [hkept _ _ hu]; rfl
  · intro k hk
    rw [hkeys, Merge.keys_deepRwD] at hk
    rcases List.mem_append.1 hk with h1 | h1
    · exact Or.inl h1
    · right
      obtain ⟨p, hp, hpn⟩ := hdk k (List.mem_filter.1 h1).1
      exact ⟨p, hp, hpn⟩

theorem checkPipelineSection_result_wf {o : Oracle} {fl : MachineFlags} {P : Dict} {l r : ImgInfo}
    {m m' : CState} {out : Dict} (hfresh : FreshFor fl m) (hwf : Merge.wfDict P = true)
    (h : checkPipelineSection o fl registry [("pipeline", .obj P)] l r m = .ok (out, m')) :
    Merge.wfDict m'.pipelineCfg = true ∧ Merge.deepRwD m'.pipelineCfg = m'.pipelineCfg :=
  have hQ := checked_of_checkPipelineSection hfresh hwf h
  ⟨hQ.wf, hQ.fixed⟩

/-- **(4) acceptance** (fresh machine, any images, any user pipeline without duplicate keys):
    `check_pipeline_section` returns normally **iff** `pipelineOut` is defined on the user's pipeline with its magic
    strings rewritten, that is (`pipelineOut_isSome`): the step names, in the user's order, spell a path of the
    documented automaton (`Machine.isPath`, the automaton C01 proves the source's transition tables to be) **and**
    every step has an output (`stepOut`: known kind, a dictionary, `Abstract<Kind>(**step)` returns, the callback's
    band / grid / margin test passes) **and**, when there is a validation step, the mirrored test of the right/left
    round passes (no right disparity grid without a left one). -/
theorem checkPipelineSection_ok_iff (o : Oracle) (fl : MachineFlags) (P : Dict) (l r : ImgInfo) (m : CState)
    (hfresh : FreshFor fl m) (hwf : Merge.wfDict P = true) :
    (∃ out m', checkPipelineSection o fl registry [("pipeline", .obj P)] l r m = .ok (out, m')) ↔
      ∃ M, pipelineOut o fl registry l r (Merge.deepRwD P) = some M :=
  ⟨fun ⟨_, _, h⟩ => ⟨_, (checkPipelineSection_out hfresh hwf h).1⟩,
   fun ⟨M, h⟩ => have ⟨m', h', _⟩ := (checkPipelineSection_iff hfresh hwf _ M).2 ⟨h, rfl⟩; ⟨_, m', h'⟩⟩

/-- **(3) idempotence / fix-point**: the configuration `check_pipeline_section` returned, checked
    again (on any machine that does not carry steps over), is returned unchanged -/
theorem checkPipelineSection_idempotent {o : Oracle} {fl : MachineFlags} {P : Dict} {l r : ImgInfo}
    {m m' : CState} {out : Dict} (hfresh : FreshFor fl m) (hwf : Merge.wfDict P = true)
    (h : checkPipelineSection o fl registry [("pipeline", .obj P)] l r m = .ok (out, m'))
    (m2 : CState) (hfresh2 : FreshFor fl m2) :
    ∃ m2', checkPipelineSection o fl registry out l r m2 = .ok (out, m2') := by
  rw [(checkPipelineSection_out hfresh hwf h).2]
  exact checkPipelineSection_of_checked (checked_of_checkPipelineSection hfresh hwf h) m2 hfresh2

theorem getConfigPipeline_forms (user : Dict) :
    getConfigPipeline user = [] ∨ ∃ p, getConfigPipeline user = [("pipeline", p)] := by
  unfold getConfigPipeline
  cases Dict.lookup user "pipeline" with
  | none => exact Or.inl rfl
  | some p => exact Or.inr ⟨p, rfl⟩

theorem checkPipelineSection_no_pipeline (o : Oracle) (fl : MachineFlags) (reg : List KindDesc) (l r : ImgInfo)
    (m : CState) (hfresh : FreshFor fl m) :
    ∃ m', checkPipelineSection o fl reg [] l r m = .ok ([("pipeline", .obj [])], m') := by
  unfold checkPipelineSection
  simp only [Merge.updateConf_nil, defaultPipeline, Dict.lookup, if_true, machineCheck_eq, Dict.keys, List.map_nil,
    checkLoop_nil, ite_self]
  refine ⟨firstState fl m, ?_⟩
  rw [firstState_pipelineCfg hfresh, Merge.updateConf_cons]
  simp [Dict.lookup, Merge.updateVal_obj_obj, Merge.updateConf_nil, Except.map, Dict.setKey]

theorem checkPipelineSection_not_dict (o : Oracle) (fl : MachineFlags) (reg : List KindDesc) (l r : ImgInfo)
    (m : CState) (v : JVal) (hv : v.isObj = false) :
    checkPipelineSection o fl reg [("pipeline", v)] l r m = .error .other := by
  unfold checkPipelineSection
  rw [Merge.updateConf_cons, Merge.updateVal_leaf _ _ v hv]
  have h := Merge.rewriteLeaf_isObj v
  rw [hv] at h
  simp only [defaultPipeline, Dict.setKey, if_true, Merge.updateConf_nil, Dict.lookup]
  cases hr : rewriteLeaf v <;> simp [hr, JVal.isObj] at h ⊢

/-- a user pipeline with a `"NaN"` to rewrite, defaults to add and a validation step (two rounds) -/
def userPipeline : Dict := [
  ("matching_cost", .obj [("matching_cost_method", .str "zncc"), ("window_size", .int 7)]),
  ("disparity", .obj [("invalid_disparity", .str "NaN"), ("disparity_method", .str "wta")]),
  ("filter", .obj [("filter_method", .str "median")]),
  ("validation", .obj [("validation_method", .str "cross_checking_accurate")])]

/-- the hypotheses of the `checkPipelineSection_*` theorems hold of it: fresh machine, no duplicate key, accepted -/
example :
    FreshFor {} ({} : CState) ∧ Merge.wfDict userPipeline = true ∧
    pipelineOf (checkPipelineSection noOracle {} registry [("pipeline", .obj userPipeline)] monoL monoR {}) =
      some [("pipeline", .obj [
        ("matching_cost", .obj [("matching_cost_method", .str "zncc"), ("window_size", .int 7),
          ("subpix", .int 1), ("band", .null), ("step", .int 1)]),
        ("disparity", .obj [("invalid_disparity", .float .nan), ("disparity_method", .str "wta")]),
        ("filter", .obj [("filter_method", .str "median"), ("filter_size", .int 3)]),
        ("validation", .obj [("validation_method", .str "cross_checking_accurate"),
          ("cross_checking_threshold", .float (.num 1))])])] :=
  ⟨FreshFor.of_new _, by decide +kernel, by decide +kernel⟩

/-- both sides of `checkPipelineSection_ok_iff` are false of a pipeline that is not a path
    (`filter` before `disparity`) and of a path with a refused step (`window_size` 4) -/
example :
    Machine.isPath .begin (Dict.keys [("matching_cost", JVal.obj [("matching_cost_method", .str "zncc")]),
      ("filter", .obj [("filter_method", .str "median")])]) = false ∧
    isOk (checkPipelineSection noOracle {} registry [("pipeline", .obj [
      ("matching_cost", .obj [("matching_cost_method", .str "zncc")]),
      ("filter", .obj [("filter_method", .str "median")])])] monoL monoR {}) = false ∧
    isOk (checkPipelineSection noOracle {} registry [("pipeline", .obj [
      ("matching_cost", .obj [("matching_cost_method", .str "zncc"), ("window_size", .int 4)])])]
      monoL monoR {}) = false := by decide +kernel

/-- the mirrored validation test is not redundant: a right disparity grid without a left one passes
    the left/right round and is refused by the right/left round -/
example :
    let l : ImgInfo := { bands := [none], dispSource := .null }
    let r : ImgInfo := { bands := [none], dispSource := .str "grid.tif" }
    let P : Dict := [("matching_cost", .obj [("matching_cost_method", .str "zncc")]),
      ("disparity", .obj [("disparity_method", .str "wta")]),
      ("validation", .obj [("validation_method", .str "cross_checking_accurate")])]
    Machine.hasKind .validation (Dict.keys P) = true ∧ (r.dispSource.isStr && l.dispSource.isNull) = true ∧
    isOk (checkPipelineSection noOracle {} registry [("pipeline", .obj P)] l r {}) = false ∧
    isOk (checkPipelineSection noOracle {} registry [("pipeline", .obj P)] l l {}) = true := by decide +kernel


/-- documentation table and registry name the method of a kind under the same key -/
theorem methodKey_of_kind {kd : KindDesc} {c : ClassDesc} {d : DocClass} {kind : String} (hkd : kd ∈ registry)
    (hc : (kd.kind, c) ∈ allClasses) (hkk : kd.kind = kind) (hfind : docTable.find? (fun c => c.kind == kind) = some d) :
    kd.methodKey = d.methodKey :=
  (generated_classFacts _ hc).methodKey kd hkd rfl d (List.mem_of_find?_eq_some hfind)
    (by rw [hkk]; simpa using List.find?_some hfind)

/-- `defaultsAdded` (the executable clause "every omitted documented parameter appears, with the
    documented default when it is settled; nothing else is added") of what a class check returns: what is added
    is `missing` -/
theorem classCheck_defaultsAdded {o : Oracle} {c : ClassDesc} {d : DocClass} {l r : ImgInfo} {ucfg cfg out : Dict}
    (hwf : wfActions c.actions = true) (hag : DefaultsAgree c d)
    (hcw : Merge.wfDict cfg = true) (hcf : Merge.deepRwD cfg = cfg) (hkeysU : Dict.keys cfg = Dict.keys ucfg)
    (h : classCheck o c l r cfg = .ok out) : defaultsAdded d ucfg out = true := by
  have hparams := hag.defaults
  have hdk := hag.defaultKeysDoc
  have hlen : ucfg.length = cfg.length := by simpa [Dict.keys] using (congrArg List.length hkeysU).symm
  have hadded : out.drop ucfg.length = missing c.actions cfg := by
    rw [hlen, classCheck_eq hwf hcw hcf h, List.drop_left]
  have hin : ∀ k, Dict.hasKey ucfg k = false ↔ k ∉ Dict.keys cfg := fun k => hkeysU ▸ Merge.hasKey_eq_false_iff ucfg k
  unfold defaultsAdded
  simp only [Bool.and_eq_true, List.all_eq_true, List.any_eq_true, beq_iff_eq, List.mem_filter, Bool.not_eq_true', hadded]
  refine ⟨⟨fun kv hkv => ?_, fun p ⟨hp, hnk, hno⟩ => ?_⟩,
    (Merge.nodup_iff out).2 (runActions_keys_nodup hwf (Merge.wfDict_keys_nodup cfg hcw) (classCheck_ok h).1)⟩
  · -- an added item is a default of the sequence, so a documented parameter with a default
    obtain ⟨hdi, hnc⟩ := mem_missing hkv
    have hdkm : kv.1 ∈ defaultKeys c.actions := keys_defaultItems c.actions ▸ List.mem_map_of_mem (f := (·.1)) hdi
    obtain ⟨p, hp, hpn⟩ := hdk kv.1 hdkm
    refine ⟨p, ⟨hp, hpn ▸ (hin kv.1).2 hnc, ?_⟩, hpn⟩
    have hsome := (defaultOf_isSome_iff c.actions kv.1).2 hdkm
    have hpa := hparams p hp
    cases hpd : p.default with
    | optional => rw [hpd, hpn] at hpa; rw [hpa.1] at hsome; cases hsome
    | value v => rfl
    | unsettled => rfl
  · -- a missing documented parameter is looked up in `missing`: the default of the sequence
    rw [lookup_missing ((hin p.name).1 hnk)]
    have hpa := hparams p hp
    cases hpd : p.default with
    | optional => simp [hpd] at hno
    | value v => simp only [hpd, DefaultAgrees] at hpa; rw [hpa]; simp
    | unsettled =>
      simp only [hpd, DefaultAgrees] at hpa
      cases hdo : defaultOf c.actions p.name with
      | none => simp [hdo] at hpa
      | some x => simp

/-- **the executable specification of the result holds of the model** (`ConfigSpec.resultOk`, the
    clause the harness evaluates on the implementation's result: the user's steps in the user's order,
    each with the user's items as a prefix (`userKeysKept`) and exactly the missing documented
    parameters added with the documented defaults (`defaultsAdded`)) — for step parameters that are
    not themselves dictionaries (`resultOk` rewrites one level only) -/
theorem checkPipelineSection_resultOk {o : Oracle} {fl : MachineFlags} {P : Dict} {l r : ImgInfo}
    {m m' : CState} {out : Dict} (hfresh : FreshFor fl m) (hwf : Merge.wfDict P = true)
    (hleaf : ∀ n cfgU, Dict.lookup P n = some (.obj cfgU) → ∀ kv ∈ cfgU, kv.2.isObj = false)
    (h : checkPipelineSection o fl registry [("pipeline", .obj P)] l r m = .ok (out, m')) :
    resultOk P m'.pipelineCfg = true := by
  obtain ⟨hout, _⟩ := checkPipelineSection_out hfresh hwf h
  have hkeys := (pipelineOut_lookup hout).1.trans (Merge.keys_deepRwD P)
  have hndP := Merge.wfDict_keys_nodup P hwf
  unfold resultOk
  simp only [Bool.and_eq_true, beq_iff_eq, List.all_eq_true]
  refine ⟨hkeys, ?_⟩
  intro kv hkv
  obtain ⟨n, v⟩ := kv
  have hl := Merge.lookup_of_mem P n v hndP hkv
  obtain ⟨cfgU, outn, rfl, ho, hM⟩ := checkPipelineSection_step hfresh hwf h hl
  obtain ⟨kind, _, kd, hkind, hv, hkd, hc, _⟩ := stepOut_eq_some.1 ho
  cases hv
  simp only [hM, hkind, Bool.and_eq_true]
  obtain ⟨hcw, hcf⟩ := deepRw_step_wf hwf hl
  obtain ⟨hkdm, hkk⟩ := kindDesc_some hkd
  obtain ⟨meth, c, hmeth, hall, hmn, hcc, heq, _⟩ := construct_facts hkdm hcw hcf hc
  have hlv := hleaf n cfgU hl
  have hrd : Merge.deepRwD cfgU = rewriteDict cfgU := Merge.deepRwD_leaves cfgU hlv
  have hlen : (Merge.deepRwD cfgU).length = cfgU.length := by
    have := congrArg List.length (Merge.keys_deepRwD cfgU)
    simpa [Dict.keys] using this
  constructor
  · -- the user's items are a prefix of the returned step
    unfold userKeysKept
    rw [← hlen, heq, List.take_left, hrd]
    simp
  · cases hfind : docTable.find? (fun c => c.kind == kind.name) with
    | none => rfl
    | some anyClass =>
      simp only
      cases hmk : Dict.lookup cfgU anyClass.methodKey with
      | none => rfl
      | some mv =>
        cases mv with
        | str mth =>
          simp only
          cases hdc : docClass? kind.name mth with
          | none => rfl
          | some d =>
            simp only
            -- the method key and the method are the ones the registry used
            have hmkeq := methodKey_of_kind hkdm hall hkk hfind
            rw [hmkeq, Merge.lookup_deepRwD, hmk] at hmeth
            simp only [Option.map_some, Option.some.injEq] at hmeth
            rw [Merge.deepRw_leaf _ rfl] at hmeth
            have hme : mth = meth := JVal.str.inj (Merge.rewriteLeaf_inv hmeth (fun f h => by cases h))
            subst hme
            exact classCheck_defaultsAdded (generated_classFacts _ hall).wf (table_facts hall hmn (hkk ▸ hdc)).agree
              hcw hcf (Merge.keys_deepRwD cfgU) hcc
        | _ => rfl

end Pandora.C05W
