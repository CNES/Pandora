/-
  C12 — `pandora/interval_tools.py: create_connected_graph` REGENERATED from the Python source
  (`Generated/KernelsRegul.lean`, translator/gen_kernels_regul.py: the conditions of the `continue` / `break` / store are
  translated, the control skeleton is `Model/PyScanGraph.lean`) builds, for every list of segments and every depth, the
  hand model's `Confidence.connectionGraph` and `Confidence.connectedGraph` — the matrix the regularisation aggregates over.
-/
import PandoraModel.Generated.KernelsRegul


namespace Pandora.C12KernelsRegul
open Pandora.Confidence Pandora.PyScanGraph

/-- `border_left` as `np.argwhere` hands it over: row `a` is `(row, col)` of the left end of segment `a` -/
def blOf (segs : List (Pos × Pos)) : Nat → Nat → Int :=
  fun a c => if c = 0 then (((segs.getD a ((0, 0), (0, 0))).1.1 : Nat) : Int) else (((segs.getD a ((0, 0), (0, 0))).1.2 : Nat) : Int)

/-- `border_right` (inclusive right end) -/
def brOf (segs : List (Pos × Pos)) : Nat → Nat → Int :=
  fun a c => if c = 0 then (((segs.getD a ((0, 0), (0, 0))).2.1 : Nat) : Int) else (((segs.getD a ((0, 0), (0, 0))).2.2 : Nat) : Int)

/-- what one visit of the hand model's `connScan` does -/
def actOf (si sk : Pos × Pos) : Act :=
  if sk.1.1 = si.1.1 then .skip
  else if sk.1.1 > si.1.1 + 1 then .stop
  else if sk.1.2 ≤ si.2.2 ∧ sk.2.2 ≥ si.1.2 then .mark else .skip

/-- the translated conditions are the hand model's: whatever arrays hold the ends of segments `si`, `sk` at rows `i`, `k` -/
theorem connAct_of (bl br : Nat → Nat → Int) (i k : Nat) (si sk : Pos × Pos)
    (hi0 : bl i 0 = ((si.1.1 : Nat) : Int)) (hi1 : bl i 1 = ((si.1.2 : Nat) : Int))
    (hi3 : br i 1 = ((si.2.2 : Nat) : Int))
    (hk0 : bl k 0 = ((sk.1.1 : Nat) : Int)) (hk1 : bl k 1 = ((sk.1.2 : Nat) : Int))
    (hk3 : br k 1 = ((sk.2.2 : Nat) : Int)) :
    Generated.KernelsRegul.connAct bl br i k = actOf si sk := by
  simp only [Generated.KernelsRegul.connAct, hi0, hi1, hi3, hk0, hk1, hk3, actOf, Bool.and_eq_true, decide_eq_true_eq]
  norm_cast

theorem connAct_eq (segs : List (Pos × Pos)) (i k : Nat) :
    Generated.KernelsRegul.connAct (blOf segs) (brOf segs) i k
      = actOf (segs.getD i ((0, 0), (0, 0))) (segs.getD k ((0, 0), (0, 0))) := by
  apply connAct_of <;> simp [blOf, brOf]

theorem scan_eq (si : Pos × Pos) (rest : List (Pos × Pos)) (s : Nat) (act : Nat → Act)
    (h : ∀ j (hj : j < rest.length), act (s + j) = actOf si rest[j]) :
    scanBools act (List.range' s rest.length) = connScan si.1 si.2 rest := by
  induction rest generalizing s with
  | nil => rfl
  | cons sk rest ih =>
    have h0 : act s = actOf si sk := by
      have := h 0 (by simp)
      simp only [Nat.add_zero, List.getElem_cons_zero] at this
      exact this
    have hrest : ∀ j (hj : j < rest.length), act (s + 1 + j) = actOf si rest[j] := by
      intro j hj
      have := h (j + 1) (by simpa using hj)
      simpa [Nat.add_assoc, Nat.add_comm 1 j] using this
    have ih' := ih (s + 1) hrest
    obtain ⟨lk, rk⟩ := sk
    simp only [List.length_cons, List.range'_succ, scanBools, connScan, h0, actOf]
    by_cases h1 : lk.1 = si.1.1
    · simp [h1, ih']
    · by_cases h2 : lk.1 > si.1.1 + 1
      · simp only [h1, h2, if_true, if_false]
        rw [List.map_const', List.map_const', List.length_range']
      · by_cases h3 : lk.2 ≤ si.2.2 <;> by_cases h4 : rk.2 ≥ si.1.2 <;> simp [h1, h2, h3, h4, ih']

theorem connRow_eq (segs : List (Pos × Pos)) (i : Nat) (hi : i < segs.length) :
    Generated.KernelsRegul.connRow segs.length (blOf segs) (brOf segs) i
      = connScan segs[i].1 segs[i].2 (segs.drop (i + 1)) := by
  unfold Generated.KernelsRegul.connRow rangeFrom Generated.KernelsRegul.connLo
  have hl : (segs.drop (i + 1)).length = segs.length - (i + 1) := by simp
  rw [← hl]
  apply scan_eq segs[i] (segs.drop (i + 1)) (i + 1)
  intro j hj
  rw [connAct_eq]
  have hj' : i + 1 + j < segs.length := by rw [hl] at hj; omega
  simp [List.getD_eq_getElem?_getD, List.getElem?_eq_getElem hi, List.getElem?_eq_getElem hj']

theorem upperRows_getD (l : List (Pos × Pos)) (s j : Nat) (hj : j < l.length) :
    (upperRows s l).getD j [] = List.replicate (s + j + 1) false ++ connScan l[j].1 l[j].2 (l.drop (j + 1)) := by
  induction l generalizing s j with
  | nil => simp at hj
  | cons x l ih =>
    obtain ⟨a, b⟩ := x
    cases j with
    | zero => simp [upperRows]
    | succ j =>
      have hj' : j < l.length := by simpa using hj
      have := ih (s + 1) j hj'
      simp only [upperRows, List.getD_cons_succ, List.getElem_cons_succ, List.drop_succ_cons]
      rw [this]
      congr 2
      omega

theorem matGet_upper (segs : List (Pos × Pos)) (a b : Nat) (ha : a < segs.length) (hab : a < b) :
    matGet (upperRows 0 segs) a b = (connScan segs[a].1 segs[a].2 (segs.drop (a + 1))).getD (b - (a + 1)) false := by
  unfold matGet
  rw [upperRows_getD segs 0 a ha]
  simp only [List.getD_eq_getElem?_getD, Nat.zero_add]
  rw [List.getElem?_append_right (by simp; omega)]
  simp

/-- what iteration `a` stored at `(a, b)`: the model's upper triangle above the diagonal, nothing on or below it -/
theorem marked_eq (segs : List (Pos × Pos)) (a b : Nat) (ha : a < segs.length) :
    marked Generated.KernelsRegul.connLo (Generated.KernelsRegul.connRow segs.length (blOf segs) (brOf segs)) a b
      = (decide (a < b) && matGet (upperRows 0 segs) a b) := by
  unfold marked Generated.KernelsRegul.connLo
  by_cases hab : a < b
  · rw [connRow_eq segs a ha, matGet_upper segs a b ha hab, decide_eq_true hab, decide_eq_true (Nat.succ_le_of_lt hab)]
  · rw [decide_eq_false hab, decide_eq_false (fun h => hab (Nat.lt_of_succ_le h)), Bool.false_and, Bool.false_and]

/-- the connection matrix: for every list of segments (any rows, columns, order, overlaps, length) the generated nest
    builds `Confidence.connectionGraph` -/
theorem connectionGraph_generated_eq (segs : List (Pos × Pos)) :
    Generated.KernelsRegul.connectionGraph segs.length (blOf segs) (brOf segs) = Confidence.connectionGraph segs := by
  unfold Generated.KernelsRegul.connectionGraph Confidence.connectionGraph symMatrix
  apply List.map_congr_left
  intro a ha
  apply List.map_congr_left
  intro b hb
  rw [marked_eq segs a b (List.mem_range.1 ha), marked_eq segs b a (List.mem_range.1 hb)]
  by_cases hab : a < b
  · simp [hab, Nat.lt_asymm hab]
  · simp [hab]

theorem length_connectionGraph (segs : List (Pos × Pos)) : (Confidence.connectionGraph segs).length = segs.length := by
  simp [Confidence.connectionGraph]

theorem length_row_connectionGraph (segs : List (Pos × Pos)) (i : Nat) (hi : i < segs.length) :
    ((Confidence.connectionGraph segs).getD i []).length = segs.length := by
  simp [Confidence.connectionGraph, List.getD_eq_getElem?_getD, hi]

theorem any_range_succ (n : Nat) (g : Nat → Bool) :
    (List.range (n + 1)).any g = (g 0 || (List.range n).any (fun l => g (l + 1))) := by
  rw [List.range_succ_eq_map]
  simp [List.any_map, Function.comp_def]

/-- `.any()` over the rows selected by a mask = `any` over the indices whose mask entry is set -/
theorem any_zip_eq (a : List (List Bool)) (b : List Bool) (h : a.length = b.length) (f : List Bool → Bool) :
    ((a.zip b).filterMap (fun p => if p.2 then some p.1 else none)).any f
      = (List.range b.length).any (fun l => b.getD l false && f (a.getD l [])) := by
  induction a generalizing b with
  | nil =>
    cases b with
    | nil => rfl
    | cons y b => simp at h
  | cons x a ih =>
    cases b with
    | nil => simp at h
    | cons y b =>
      have h' : a.length = b.length := by simpa using h
      rw [List.length_cons, any_range_succ]
      simp only [List.zip_cons_cons, List.filterMap_cons, List.getD_cons_zero, List.getD_cons_succ]
      rw [← ih b h']
      cases y <;> simp

theorem closure_step_eq (conn : List (List Bool)) (lines : List Bool) (h : conn.length = lines.length) :
    tabulateB lines.length (fun j => (anyCol (selectRows conn lines) j || lines.getD j false)) = closureStep conn lines := by
  unfold tabulateB closureStep
  apply List.map_congr_left
  intro j _
  unfold anyCol selectRows
  rw [any_zip_eq conn lines h, Bool.or_comm]
  rfl

/-- the same with the operands of the `or` commuted: the rewrite a source written that way needs
    (`createConnectedGraph_generated_eq` reads the operands as they are written) -/
theorem closure_step_eq' (conn : List (List Bool)) (lines : List Bool) (h : conn.length = lines.length) :
    tabulateB lines.length (fun j => (lines.getD j false || anyCol (selectRows conn lines) j)) = closureStep conn lines := by
  rw [← closure_step_eq conn lines h]
  unfold tabulateB
  apply List.map_congr_left
  intro j _
  rw [Bool.or_comm]

theorem length_closureStep (conn : List (List Bool)) (lines : List Bool) : (closureStep conn lines).length = lines.length := by
  simp [closureStep]

theorem iter_eq (conn : List (List Bool)) (n k : Nat) (lines : List Bool) (hl : lines.length = n)
    (body : List Bool → List Bool)
    (hb : ∀ v : List Bool, v.length = n → body v = closureStep conn v) :
    iter body k lines = Confidence.iterate (closureStep conn) k lines ∧ (Confidence.iterate (closureStep conn) k lines).length = n := by
  induction k generalizing lines with
  | zero => exact ⟨rfl, hl⟩
  | succ k ih =>
    have h1 := hb lines hl
    have h2 : (closureStep conn lines).length = n := by rw [length_closureStep, hl]
    simp only [iter, Confidence.iterate, h1]
    exact ih (closureStep conn lines) h2

theorem set_true_eq (lines : List Bool) (i : Nat) :
    lines.set i true = (List.range lines.length).map (fun k => if k = i then true else lines.getD k false) := by
  apply List.ext_getElem
  · simp
  · intro k h1 h2
    simp only [List.getElem_set, List.getElem_map, List.getElem_range, List.getD_eq_getElem?_getD]
    have hk : k < lines.length := by simpa using h1
    by_cases hik : i = k
    · simp [hik]
    · have : ¬ k = i := fun h => hik h.symm
      simp [hik, this, List.getElem?_eq_getElem hk]

/-- one row of the closure nest, for ANY body of the iteration that is `closureStep` on rows of length `n` -/
theorem closeRow_core (conn : List (List Bool)) (n depth i : Nat) (body : List Bool → List Bool)
    (hb : ∀ v : List Bool, v.length = n → body v = closureStep conn v)
    (hl : (conn.getD i []).length = n) :
    (iter body (depth - 1) (conn.getD i [])).set i true
      = (List.range n).map (fun k =>
          if k = i then true else (Confidence.iterate (closureStep conn) (depth - 1) (conn.getD i [])).getD k false) := by
  obtain ⟨h1, h2⟩ := iter_eq conn n (depth - 1) (conn.getD i []) hl body hb
  rw [h1, set_true_eq, h2]

/-- `create_connected_graph`: for every list of segments and every depth (`0`: identity; otherwise the connection scan,
    `depth − 1` closure passes per row, the diagonal set) the generated function builds `Confidence.connectedGraph` -/
theorem createConnectedGraph_generated_eq (segs : List (Pos × Pos)) (depth : Nat) :
    Generated.KernelsRegul.createConnectedGraph segs.length (blOf segs) (brOf segs) depth
      = Confidence.connectedGraph segs depth := by
  unfold Generated.KernelsRegul.createConnectedGraph Confidence.connectedGraph
  by_cases hd : depth = 0
  · simp [hd, eye]
  · simp only [hd, if_false]
    rw [connectionGraph_generated_eq]
    apply List.map_congr_left
    intro i hi
    have hi' : i < segs.length := by simpa using hi
    have hc := length_connectionGraph segs
    have hl := length_row_connectionGraph segs i hi'
    simp only [Generated.KernelsRegul.closeRow, rowOf]
    refine closeRow_core (Confidence.connectionGraph segs) segs.length depth i _ ?_ hl
    intro v hv
    rw [← hv]
    exact closure_step_eq _ v (by rw [hc, hv])

/-- `interval_regularization` of the hand model is `graph_regularization` run on the matrix the generated
    `create_connected_graph` builds from the segments -/
theorem intervalRegularization_over_generated (inf sup amb : Grid Val) (thr : Rat) (k depth : Nat) (q : Rat) :
    intervalRegularization inf sup amb thr k depth q
      = (let segs := (borders thr k amb).1.zip (borders thr k amb).2
         graphRegularization inf sup segs
           (Generated.KernelsRegul.createConnectedGraph segs.length (blOf segs) (brOf segs) depth) q) := by
  simp only [intervalRegularization, createConnectedGraph_generated_eq]

-- non-vacuity: two rows of segments, overlapping and not, and a far row (the `break`)
example : Confidence.connectionGraph [((0, 0), (0, 2)), ((0, 5), (0, 7)), ((1, 1), (1, 4)), ((1, 6), (1, 9)), ((3, 0), (3, 9))]
    = [[false, false, true, false, false], [false, false, false, true, false], [true, false, false, false, false],
       [false, true, false, false, false], [false, false, false, false, false]] := by decide +kernel

end Pandora.C12KernelsRegul
