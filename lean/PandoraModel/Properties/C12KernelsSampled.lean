/-
  C12 — `Ambiguity.compute_ambiguity_and_sampled_ambiguity` REGENERATED from the Python source
  (`Generated/KernelsConf.lean: computeAmbiguitySampledPx`) is equal, for every cost curve, eta grid and pair of global
  extremes with `max_cost ≠ min_cost`, to the hand model's `(pixelAmbiguity, pixelSampled)` — the sampled ambiguity is what
  `compute_risk` is fed with.
-/
import PandoraModel.Properties.C12Kernels


namespace Pandora.C12Kernels
open Pandora.Confidence Pandora.PyLoops Pandora.PyVec Pandora.C12
open Pandora.Generated.KernelsConf

/-- `np.sum(costs_comparison, axis=0)` -/
theorem colCounts_eq (M : List (List Bool)) (ne : Nat) :
    intsToFl (colCounts M (ne : Int))
      = embedQ (((List.range ne).map (fun i => (Confidence.column false M i).count true)).map (fun (a : Nat) => (a : ℚ))) := by
  simp only [intsToFl, colCounts, embedQ, Int.toNat_natCast, List.map_map]
  apply List.map_congr_left
  intro i _
  simp [Function.comp, countTrue, ofInt, PyVec.column, Confidence.column]

/-- `compute_ambiguity_and_sampled_ambiguity`: the generated per-pixel function returns `pixelAmbiguity` and the vector
    of per-eta counts `sampled_ambiguity[row, col, :] = pixelSampled` -/
theorem computeAmbiguitySampled_generated_eq (mn mx : ℚ) (etas : List ℚ) (c : Curve) (hr : mx ≠ mn) (hc : c ≠ []) :
    computeAmbiguitySampledPx (embedCurve c) (Fl.fin mn) (Fl.fin mx) (embedQ etas)
      = .ok (Fl.fin ((pixelAmbiguity mn mx etas c : Nat) : ℚ),
             embedQ ((pixelSampled mn mx etas c).map (fun (a : Nat) => (a : ℚ)))) := by
  have hlen : 0 < c.length := List.length_pos_iff.mpr hc
  have h0 : mx - mn ≠ 0 := sub_ne_zero.mpr hr
  simp only [computeAmbiguitySampledPx, len_embedCurve, len_embedQ, twoDim_embed etas c.length, nanmin_embed,
    ← pixelBest_eq mn mx c hr, Fl.sub_fin, nonEmpty_embedCurve c hc]
  simp only [pixelAmbiguity, pixelSampled]
  cases hb : pixelBest mn mx c with
  | none =>
    simp [optNan, Fl.isNan, embedQ, hlen, ofInt, full, PyVec.len]
  | some m =>
    simp only [optNan, Fl.sub_fin, fdiv_fin _ _ h0, Fl.isNan, Bool.false_eq_true, if_false, normalizedCv_embed mn mx c hr,
      ← Nat.cast_mul, cmp_embed mn mx etas c m, reshape2, Int.toNat_natCast, chunks_eq, colCounts_eq]
    simp [hlen, ofInt, countTrue, Nat.mul_comm]

end Pandora.C12Kernels
