/-
  C02 — the ELEMENT-WISE formulas of the matching-cost measures, REGENERATED from the numpy code (`Generated/KernelsMcCost.lean`,
  written by translator/gen_kernels_mc_cost.py with translator/pyexpr.py, every array operand an atom), are the ones the hand
  model uses: sad / ssd with their window sum and border block, the census cost, zncc's covariance, `apply_divide_standard`
  and the radicand of `compute_std_raster`.
-/
import PandoraModel.Generated.KernelsMcCost
import PandoraModel.Properties.C02Census
import PandoraModel.Properties.C02Kernels
import PandoraModel.Lemmas.MCCensusBits

-- the second alternative of each `first | rfl | …` below serves a respelt source: in the `sd_cost` proofs the documented rewrite H3
-- of DESIGN_NOTES/C02.md (`(l - r) * (l - r)` for `** 2`), elsewhere commuted operands (`censusCost_eq`, `znccCov_eq`,
-- `divideStandard_eq_model`); on the source as it is the linters call it unused
set_option linter.unusedTactic false
set_option linter.unreachableTactic false

namespace Pandora.C02KernelsMcCost
open Pandora.MC Pandora.PyExpr
open Pandora.Generated

theorem rabs_eq (q : ℚ) : rabs q = ratAbs q := rfl

theorem rpow_two (q : ℚ) : rpow q 2 = q * q := by
  simp only [rpow]; ring

theorem adCostBand3_eq (l r : ℚ) : KernelsMcCost.adCostBand3 l r = pixelCost .sad l r := by
  unfold KernelsMcCost.adCostBand3 pixelCost; rfl
theorem adCostBand2_eq (l r : ℚ) : KernelsMcCost.adCostBand2 l r = pixelCost .sad l r := by
  unfold KernelsMcCost.adCostBand2 pixelCost; rfl
theorem adCostMono_eq (l r : ℚ) : KernelsMcCost.adCostMono l r = pixelCost .sad l r := by
  unfold KernelsMcCost.adCostMono pixelCost; rfl

theorem sdCostBand3_eq (l r : ℚ) : KernelsMcCost.sdCostBand3 l r = pixelCost .ssd l r := by
  unfold KernelsMcCost.sdCostBand3 pixelCost
  first | exact rpow_two _ | rfl
theorem sdCostBand2_eq (l r : ℚ) : KernelsMcCost.sdCostBand2 l r = pixelCost .ssd l r := by
  unfold KernelsMcCost.sdCostBand2 pixelCost
  first | exact rpow_two _ | rfl
theorem sdCostMono_eq (l r : ℚ) : KernelsMcCost.sdCostMono l r = pixelCost .ssd l r := by
  unfold KernelsMcCost.sdCostMono pixelCost
  first | exact rpow_two _ | rfl

/-- which array each operand is, branch by branch (resolved by the generator through the assignments of the function):
    the left operand is the left image on `point_p`, the right operand the right image on `point_q`; a band index, where
    there is one, was looked up in the band list of the SAME image (the 2-D shifted right image has none) -/
theorem cost_operands_eq_model :
    KernelsMcCost.adCostBand3Operands = [("left", "left", "p"), ("right", "right", "q")]
    ∧ KernelsMcCost.adCostBand2Operands = [("left", "left", "p"), ("right", "none", "q")]
    ∧ KernelsMcCost.adCostMonoOperands = [("left", "none", "p"), ("right", "none", "q")]
    ∧ KernelsMcCost.sdCostBand3Operands = [("left", "left", "p"), ("right", "right", "q")]
    ∧ KernelsMcCost.sdCostBand2Operands = [("left", "left", "p"), ("right", "none", "q")]
    ∧ KernelsMcCost.sdCostMonoOperands = [("left", "none", "p"), ("right", "none", "q")] :=
  ⟨rfl, rfl, rfl, rfl, rfl, rfl⟩

/-- a cell of the model's pixel-wise plane is the generated formula on pixel `c` of the left image (columns `point_p`) and
    the pixel facing it in the right image (columns `point_q`), NaN outside `point_p` -/
theorem pixelWise_eq_generated (m : Measure) (hm : m = .sad ∨ m = .ssd) (L Rk : Img) (k : Int) (sp : Nat) (r c : Int) :
    pixelWise m L Rk k sp r c =
      (let pq := pointInterval L.cols Rk.cols k sp
       if pq.p0 ≤ c ∧ c < pq.p1 then
         Val.num (if m = .ssd then KernelsMcCost.sdCostMono (L.px r c) (Rk.px r (pq.q0 + (c - pq.p0)))
                  else KernelsMcCost.adCostMono (L.px r c) (Rk.px r (pq.q0 + (c - pq.p0))))
       else Val.nan) := by
  unfold pixelWise
  simp only
  rcases hm with rfl | rfl
  · simp only [adCostMono_eq, reduceCtorEq, if_false]
  · simp only [sdCostMono_eq, if_true]

/-- **`pixel_wise_aggregation`**: the `as_strided` view summed over its first two axes is the sliding-window sum of the model
    (rows and columns of the `(disp, col, row)` volume exchanged), for every window size, volume and position -/
theorem pixelWiseAggregation_eq (w : Nat) (nd nx ny : Int) (cv : Int → Int → Int → Val) (d i j : Int) :
    KernelsMcCost.pixelWiseAggregation (w : Int) nd nx ny cv d i j = slidingSum w (fun r c => cv d c r) j i := by
  unfold KernelsMcCost.pixelWiseAggregation KernelsMcCost.aggShape0 KernelsMcCost.aggShape1 slidingSum
  simp only [Int.toNat_natCast]
  have inner : ∀ a : Int, sumZ (Val.num 0) (fun s1 => cv d (s1 + i) a) 0 w = sumZ (Val.num 0) (fun b => cv d b a) i w := by
    intro a
    have := sumZ_shift (Val.num 0) (fun b => cv d b a) i 0 w
    simpa using this
  have outer := sumZ_shift (Val.num 0) (fun a => sumZ (Val.num 0) (fun b => cv d b a) i w) j 0 w
  simp only [inner]
  simpa using outer

/-- the result keeps the disparity axis and has `n - (w - 1)` columns and rows: on the volume over-allocated by `half w` on each
    side (odd `w`) that is the size of the image -/
theorem aggOutShape_enlarged (w : Nat) (hw : w % 2 = 1) (nd rows cols : Int) :
    KernelsMcCost.aggOutShape (w : Int) nd (cols + 2 * (half w : Nat)) (rows + 2 * (half w : Nat)) = (nd, cols, rows)
    ∧ KernelsMcCost.aggOutAxes = [0, 1, 2] := by
  simp only [KernelsMcCost.aggOutShape, KernelsMcCost.aggShape2, KernelsMcCost.aggShape3, KernelsMcCost.aggShape4,
    C02Kernels.two_mul_half w hw, add_sub_cancel_right, KernelsMcCost.aggOutAxes, and_self]

/-- the border block of `SadSsd.compute_cost_volume` = the test of `MC.reNanBorder` (any plane `d` of any number `nd`) -/
theorem reNan_eq (o rows cols : Nat) (nd d : Int) (f : Int → Int → Val) (r c : Int) :
    reNanBorder o rows cols f r c = if KernelsMcCost.reNan (o : Int) rows cols nd r c d then Val.nan else f r c := by
  have ho : ¬ ((o : Int) = 0) ↔ o > 0 := by omega
  simp only [reNanBorder, KernelsMcCost.reNan, Bool.and_eq_true, Bool.or_eq_true, Bool.not_eq_true', decide_eq_false_iff_not,
    decide_eq_true_eq, or_assoc, ho]

/-- the model's sad / ssd plane, written with the regenerated pieces: border test, strided window sum, over-allocated volume of
    the pixel-wise costs -/
theorem rawSadSsd_eq_generated (x : Input) (k : Int) (nd nx ny d : Int) (r c : Int) :
    rawSadSsd x k r c =
      Cell.ofVal (if KernelsMcCost.reNan ((half x.w : Nat) : Int) x.L.rows x.L.cols nd r c d then Val.nan
        else KernelsMcCost.pixelWiseAggregation (x.w : Int) nd nx ny
          (fun _ c' r' => enlarge (half x.w) x.L.rows x.L.cols
            (pixelWise x.meas x.L (shiftRight x.R x.sp (iRight k x.sp)) k x.sp) r' c') d c r) := by
  simp only [rawSadSsd, reNan_eq (half x.w) x.L.rows x.L.cols nd d, pixelWiseAggregation_eq]

example : KernelsMcCost.adCostBand3 3 5 = 2 ∧ KernelsMcCost.sdCostMono (1 / 4) (-3 / 2) = 49 / 16 := by decide +kernel
example : KernelsMcCost.reNan 1 4 5 3 0 2 1 = true ∧ KernelsMcCost.reNan 1 4 5 3 2 2 1 = false
    ∧ KernelsMcCost.reNan 0 4 5 3 0 0 0 = false := by decide +kernel

theorem censusCost_eq (l r : Nat) : KernelsMcCost.censusCost l r = KernelsCensus.popcount32b (l ^^^ r) := by
  unfold KernelsMcCost.censusCost KernelsMcCost.censusXor
  first | rfl | (rw [Nat.xor_comm])

/-- both operands are the census images (no band: `census_transform` already selected it), the left one on `point_p`, the right
    one on `point_q` -/
theorem census_operands_eq_model : KernelsMcCost.censusXorOperands = [("left", "none", "p"), ("right", "none", "q")] :=
  rfl

theorem censusCost_eq_hamming (a b : Nat) (ha : a < 2 ^ 32) (hb : b < 2 ^ 32) :
    KernelsMcCost.censusCost a b = ((List.range 32).filter (fun i => Bool.xor (a.testBit i) (b.testBit i))).length := by
  rw [censusCost_eq]; exact C02Census.census_cost_eq_hamming a b ha hb

/-- a window of `w = 2o + 1` with `w² ≤ 32`: the regenerated cost of the two census strings of the windows centred on `(r, c)`
    is the number of neighbours whose comparison with the centre differs between the two images -/
theorem censusCost_window (o : Nat) (h32 : (2 * o + 1) * (2 * o + 1) ≤ 32) (A B : Img) (r c : Int) :
    KernelsMcCost.censusCost (censusBits (2 * o + 1) A (r - o) (c - o)) (censusBits (2 * o + 1) B (r - o) (c - o)) =
      winCount o (fun a b => decide (A.px a b > A.px r c) != decide (B.px a b > B.px r c)) r c := by
  rw [censusCost_eq, C02Census.popcount32b_generated_eq_model]; exact census_hamming o h32 A B r c

theorem censusCost_window3 (A B : Img) (r c : Int) :
    KernelsMcCost.censusCost (censusBits 3 A (r - 1) (c - 1)) (censusBits 3 B (r - 1) (c - 1)) =
      winCount 1 (fun a b => decide (A.px a b > A.px r c) != decide (B.px a b > B.px r c)) r c :=
  censusCost_window 1 (by decide) A B r c

theorem censusCost_window5 (A B : Img) (r c : Int) :
    KernelsMcCost.censusCost (censusBits 5 A (r - 2) (c - 2)) (censusBits 5 B (r - 2) (c - 2)) =
      winCount 2 (fun a b => decide (A.px a b > A.px r c) != decide (B.px a b > B.px r c)) r c :=
  censusCost_window 2 (by decide) A B r c

theorem rawCensus_eq_generated (x : Input) (k : Int) (r c : Int) :
    rawCensus x k r c =
      (let o := half x.w
       let Rk := shiftRight x.R x.sp (iRight k x.sp)
       let pq := pointInterval ((x.L.cols : Int) - (x.w - 1 : Nat)) ((Rk.cols : Int) - (x.w - 1 : Nat)) k x.sp
       let r' := r - o
       let c' := c - o
       if 0 ≤ r' ∧ r' < (x.L.rows : Int) - 2 * o ∧ 0 ≤ c' ∧ c' < (x.L.cols : Int) - 2 * o ∧ pq.p0 ≤ c' ∧ c' < pq.p1 then
         Cell.num (KernelsMcCost.censusCost (censusBits x.w x.L r' c') (censusBits x.w Rk r' (pq.q0 + (c' - pq.p0))))
       else Cell.nan) := by
  simp only [rawCensus, censusCost_eq, C02Census.popcount32b_generated_eq_model]

example : KernelsMcCost.censusCost 0x1FFFFFF 0x1555555 = 12 := by decide +kernel

theorem znccCov_eq (meanLR meanL meanR : ℚ) : KernelsMcCost.znccCov meanLR meanL meanR = meanLR - meanL * meanR := by
  unfold KernelsMcCost.znccCov
  first | rfl | ring

/-- the two masks partition the cells: every cell is either divided or set to zero, never both, never neither -/
theorem divideStandard_partition (d : ℚ) : KernelsMcCost.divideStandardValid d = !KernelsMcCost.divideStandardZero d := by
  rw [KernelsMcCost.divideStandardValid, KernelsMcCost.divideStandardZero, ← decide_not]
  exact decide_eq_decide.mpr not_le.symm

theorem divideStandardCell_eq (cov d : ℚ) :
    KernelsMcCost.divideStandardCell cov d = if d > 0 then (cov, some d) else (0, none) := by
  have hz : KernelsMcCost.divideStandardZero d = !KernelsMcCost.divideStandardValid d := by
    rw [divideStandard_partition, Bool.not_not]
  rw [KernelsMcCost.divideStandardCell, hz, KernelsMcCost.divideStandardValid]
  by_cases h : d > 0 <;> simp [h]

/-- how the model carries a cell of `apply_divide_standard`: the quotient `cov / √vv` symbolically -/
def cellOf (vv : ℚ) : ℚ × Option ℚ → Cell
  | (c, some _) => Cell.zn c vv
  | (c, none) => Cell.num c

/-- **the zero-variance rule**: with `stdL`, `stdR` the (non-negative) square roots of the two variances, the regenerated
    `apply_divide_standard` gives the model's cell `if varL·varR > 0 then zn cov (varL·varR) else 0` -/
theorem divideStandard_eq_model (cov stdL stdR varL varR : ℚ) (hl : 0 ≤ stdL) (hr : 0 ≤ stdR)
    (hvl : stdL * stdL = varL) (hvr : stdR * stdR = varR) :
    cellOf (varL * varR) (KernelsMcCost.divideStandardCell cov (KernelsMcCost.divideStandardD stdL stdR))
      = if varL * varR > 0 then Cell.zn cov (varL * varR) else Cell.num 0 := by
  rw [divideStandardCell_eq]
  have hd : KernelsMcCost.divideStandardD stdL stdR = stdL * stdR := by
    unfold KernelsMcCost.divideStandardD; first | rfl | ring
  rw [hd]
  have hiff : stdL * stdR > 0 ↔ varL * varR > 0 := by
    rw [← hvl, ← hvr, mul_mul_mul_comm, gt_iff_lt, gt_iff_lt, mul_self_pos, (mul_nonneg hl hr).lt_iff_ne, ne_comm]
  by_cases h : varL * varR > 0 <;> simp [hiff, h, cellOf]

/-- non-vacuity of the hypotheses, both cases -/
example : cellOf (4 * 9) (KernelsMcCost.divideStandardCell 5 (KernelsMcCost.divideStandardD 2 3)) = Cell.zn 5 36 := by decide +kernel
example : cellOf (0 * 9) (KernelsMcCost.divideStandardCell 5 (KernelsMcCost.divideStandardD 0 3)) = Cell.num 0 := by decide +kernel

/-- the radicand of `compute_std_raster`: `var = E[x²] − E[x]²`, then 0 where `var < 10⁻¹⁵·|E[x²]|` -/
def stdRadicand (m2 m : ℚ) : ℚ :=
  let v := KernelsMcCost.stdVar m2 m 0
  if KernelsMcCost.stdVarTiny m2 m v then 0 else v

theorem sumZ_nonneg' (g : Int → ℚ) (hg : ∀ k, 0 ≤ g k) (lo : Int) (n : Nat) : 0 ≤ sumZ (0 : ℚ) g lo n :=
  sumZ_nonneg g lo n hg

theorem sumZ_prefix_mono (g : Int → ℚ) (hg : ∀ k, 0 ≤ g k) (n m : Nat) (h : n ≤ m) :
    sumZ (0 : ℚ) g 0 n ≤ sumZ (0 : ℚ) g 0 m := by
  induction m, h using Nat.le_induction with
  | base => exact le_refl _
  | succ m _ ih => rw [sumZ]; exact le_trans ih (le_add_of_nonneg_right (hg _))

/-- the mean raster of a non-negative raster is non-negative, at EVERY index (also the ones numpy never forms) -/
theorem meanRaster_nonneg (w : Nat) (g : Int → Int → ℚ) (hg : ∀ a b, 0 ≤ g a b) (i j : Int) : 0 ≤ meanRaster w g i j := by
  unfold meanRaster
  simp only
  have hd : ∀ c : Int, 0 ≤ sumZ (0 : ℚ) (fun i' => g i' c) 0 (i + w).toNat - sumZ (0 : ℚ) (fun i' => g i' c) 0 i.toNat := by
    intro c
    exact sub_nonneg.mpr (sumZ_prefix_mono _ (fun k => hg k c) _ _ (by omega))
  have h2 := sumZ_prefix_mono _ hd j.toNat (j + w).toNat (by omega)
  exact div_nonneg (sub_nonneg.mpr h2) (by positivity)

/-- on a non-negative `E[x²]` the radicand is the model's, whether or not the source takes `abs` of `mean_power_two` -/
theorem stdRadicand_of_nonneg (m2 m : ℚ) (h : 0 ≤ m2) :
    stdRadicand m2 m = if m2 - m * m < tiny * ratAbs m2 then 0 else m2 - m * m := by
  have habs : ratAbs m2 = m2 := if_neg (not_lt.mpr h)
  have habs' : rabs m2 = m2 := habs
  simp only [stdRadicand, KernelsMcCost.stdVar, KernelsMcCost.stdVarTiny, rpow_two, habs, habs', tiny, decide_eq_true_eq]

/-- … is the model's `varRaster` on the two mean rasters (`E[x²] ≥ 0`: `meanRaster_nonneg`) -/
theorem stdRadicand_eq_model (w : Nat) (f : Int → Int → ℚ) (i j : Int) :
    varRaster w f i j = stdRadicand (meanRaster w (fun r c => f r c * f r c) i j) (meanRaster w f i j) :=
  (stdRadicand_of_nonneg _ _ (meanRaster_nonneg w _ (fun _ _ => mul_self_nonneg _) i j)).symm

/-- a cell of the model's zncc plane that is computed, written with the regenerated covariance and zero-variance rule
    (`stdL`, `stdR` any non-negative roots of the two radicands — no root is taken in Lean) -/
theorem rawZncc_cell_eq_generated (mp ml mr varL varR stdL stdR : ℚ) (hl : 0 ≤ stdL) (hr : 0 ≤ stdR)
    (hvl : stdL * stdL = varL) (hvr : stdR * stdR = varR) :
    (if varL * varR > 0 then Cell.zn (mp - ml * mr) (varL * varR) else Cell.num 0)
      = cellOf (varL * varR) (KernelsMcCost.divideStandardCell (KernelsMcCost.znccCov mp ml mr) (KernelsMcCost.divideStandardD stdL stdR)) := by
  rw [divideStandard_eq_model _ stdL stdR varL varR hl hr hvl hvr, znccCov_eq]

end Pandora.C02KernelsMcCost
