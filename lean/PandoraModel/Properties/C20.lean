/-
  C20 — Reported margins are a pure, monotone function of the checked pipeline.

  Theorems about `Model/Margins.lean`; the per-class margin formulas and the registration table of
  the check callbacks are regenerated from the source on every run (`Generated/Margins.lean`) and
  proved equal to the documented ones.

  A checking round is `applyEntries` of the list `entries` of what the callbacks register, in order; the entries
  registered one way are the specification's `expectedEntries`.  Non-negativity and monotonicity are stated on the
  specification's `expectedGlobal (expectedEntries …)`, which `margins_listed` and `global_formula` tie to the machine.
-/
import PandoraModel.Model.Margins
import PandoraModel.Generated.Margins
import Mathlib.Tactic.Linarith

namespace Pandora.C20
open Pandora.Margins Pandora.Machine

theorem matchingCost_margins_documented (c : StepCfg) (rows cols step : Int) (m : String)
    (hm : m ∈ ["sad", "ssd", "zncc", "census"]) :
    Generated.Margins.marginOf "matching_cost" m c rows cols step
      = some (documentedMargin .matchingCost c rows cols step) := by
  simp only [List.mem_cons, List.mem_nil_iff, or_false] at hm
  rcases hm with h | h | h | h <;> subst h <;>
    simp [Generated.Margins.marginOf, documentedMargin, M4.uniform, halfWindow]

/-- median filters: `filter_size * step`; bilateral: `min(rows, cols, int(3 sigma_space + 1)) * step` -/
theorem filter_margins_documented (c : StepCfg) (rows cols step : Int)
    (hm : c.method ∈ ["median", "bilateral", "median_for_intervals"]) :
    Generated.Margins.marginOf "filter" c.method c rows cols step
      = some (documentedMargin .filter c rows cols step) := by
  simp only [List.mem_cons, List.mem_nil_iff, or_false] at hm
  rcases hm with h | h | h <;> rw [h] <;>
    simp [Generated.Margins.marginOf, documentedMargin, M4.uniform, h]

theorem null_margins_documented (c : StepCfg) (rows cols step : Int) :
    Generated.Margins.marginOf "aggregation" "cbca" c rows cols step = some (documentedMargin .aggregation c rows cols step)
    ∧ Generated.Margins.marginOf "disparity" "wta" c rows cols step = some (documentedMargin .disparity c rows cols step)
    ∧ Generated.Margins.marginOf "refinement" "vfit" c rows cols step = some (documentedMargin .refinement c rows cols step)
    ∧ Generated.Margins.marginOf "refinement" "quadratic" c rows cols step = some (documentedMargin .refinement c rows cols step) := by
  simp [Generated.Margins.marginOf, documentedMargin, M4.zero]

/-- 40 for optimisation: the abstract base class every optimisation plugin inherits from -/
theorem optimization_margins_documented (c : StepCfg) (rows cols step : Int) :
    Generated.Margins.baseMarginOf "optimization" c rows cols step
      = some (documentedMargin .optimization c rows cols step) := by
  simp [Generated.Margins.baseMarginOf, documentedMargin, M4.uniform]

/-- every registered built-in class of a margin-bearing kind is covered by the theorems above -/
theorem registered_classes_covered :
    (Generated.Margins.registered.filter fun r =>
        r.1 == "matching_cost" || r.1 == "filter" || r.1 == "aggregation" || r.1 == "disparity"
        || r.1 == "refinement" || r.1 == "optimization").map (fun r => (r.1, r.2.1))
      = [("aggregation", "cbca"), ("disparity", "wta"), ("filter", "bilateral"), ("filter", "median"),
         ("filter", "median_for_intervals"), ("matching_cost", "census"), ("matching_cost", "sad"),
         ("matching_cost", "ssd"), ("matching_cost", "zncc"), ("refinement", "quadratic"),
         ("refinement", "vfit")] := by decide +kernel

/-- the method of `GlobalMargins` a callback calls, as the translator names it in `Generated.Margins.registration` -/
def regName : Reg → String
  | .cumulative => "cumulative"
  | .nonCumulative => "non_cumulative"
  | .none => "none"

/-- each `<kind>_check_conf` registers its step's margins the documented way -/
theorem registration_documented :
    Kind.all.all (fun k =>
      (Generated.Margins.registration.find? (fun r => r.1 == k.name ++ "_check_conf")).map (·.2)
        == some (regName (documentedReg k))) = true := by decide +kernel


theorem maxMargins_cons (a : M4) (l : List M4) : maxMargins (a :: l) = l.foldl M4.max a := by
  cases l <;> simp [maxMargins]

/-- `GlobalMargins.global_margins` is the specification's formula: per side, the larger of the sum of the cumulative
    margins and each non-cumulative one -/
theorem global_formula (g : Global) :
    g.globalMargins = expectedGlobal g.cumulatives g.nonCumulatives := by
  unfold Global.globalMargins expectedGlobal
  rw [maxMargins_cons]
  have h : ∀ π : M4 → Int, (∀ a b, π (a.max b) = max (π a) (π b)) →
      g.nonCumulatives.foldl (fun a e => max a (π e.2)) (π g.cumulatives.sum) =
        π ((g.nonCumulatives.map (·.2)).foldl M4.max g.cumulatives.sum) := by
    intro π hπ
    rw [List.foldl_map]
    exact List.foldl_hom π fun a e => (hπ a e.2).symm
  dsimp only
  rw [h (·.left) (fun _ _ => rfl), h (·.up) (fun _ _ => rfl), h (·.right) (fun _ _ => rfl), h (·.down) (fun _ _ => rfl)]

theorem foldl_max_ge (l : List (String × M4)) (f : M4 → Int) (z : Int) :
    z ≤ l.foldl (fun a e => max a (f e.2)) z := by
  induction l generalizing z with
  | nil => simp
  | cons x xs ih => exact Int.le_trans (Int.le_max_left _ _) (ih _)

theorem sum_nonneg (l : MDict) (h : ∀ e ∈ l, e.2.nonneg) : l.sum.nonneg :=
  List.foldlRecOn l _ (by simp [M4.nonneg, M4.zero]) fun acc ha x hx => by
    have hx := h x hx
    show (acc.add x.2).nonneg
    unfold M4.nonneg M4.add at *
    simp only []
    omega

/-- the global margins are non-negative as soon as the cumulative ones are (of any GlobalMargins object, hence of the
    one `margins_listed` describes) -/
theorem global_nonneg (g : Global) (h : ∀ e ∈ g.cumulatives, e.2.nonneg) : g.globalMargins.nonneg := by
  rw [global_formula]
  have hs := sum_nonneg g.cumulatives h
  unfold expectedGlobal M4.nonneg at *
  refine ⟨?_, ?_, ?_, ?_⟩
  · exact Int.le_trans hs.1 (foldl_max_ge _ (·.left) _)
  · exact Int.le_trans hs.2.1 (foldl_max_ge _ (·.up) _)
  · exact Int.le_trans hs.2.2.1 (foldl_max_ge _ (·.right) _)
  · exact Int.le_trans hs.2.2.2 (foldl_max_ge _ (·.down) _)

/-- `Margins.__post_init__` accepts exactly the non-negative margins -/
theorem valid_iff_nonneg (m : M4) : m.valid = true ↔ m.nonneg := by
  simp [M4.valid, M4.nonneg, and_assoc]

theorem valid_nonneg (m : M4) (h : m.valid = true) : m.nonneg := (valid_iff_nonneg m).1 h

theorem uniform_nonneg (v : Int) (h : 0 ≤ v) : (M4.uniform v).nonneg := by
  simp [M4.uniform, M4.nonneg, h]

theorem ratTrunc_nonneg (q : Rat) (hq : 0 ≤ q) : 0 ≤ ratTrunc q := by
  simp only [ratTrunc, hq, if_true]
  exact Rat.le_floor_iff.mpr (by simpa using hq)

/-- documented margins are non-negative for every parameter value the schemas admit -/
theorem documentedMargin_nonneg (k : Kind) (c : StepCfg) (rows cols step : Int)
    (hw : 1 ≤ c.windowSize) (hf : 0 ≤ c.filterSize) (hs : 0 ≤ step) (hr : 0 ≤ rows) (hc : 0 ≤ cols)
    (hsig : 0 ≤ c.sigmaSpace) : (documentedMargin k c rows cols step).nonneg := by
  cases k with
  | matchingCost =>
    apply uniform_nonneg
    unfold halfWindow
    apply ratTrunc_nonneg
    have : (0 : Rat) ≤ ((c.windowSize - 1 : Int) : Rat) := by exact_mod_cast (by omega : (0 : Int) ≤ c.windowSize - 1)
    exact div_nonneg this (by norm_num)
  | filter =>
    simp only [documentedMargin]
    split
    · apply uniform_nonneg
      have h3 : 0 ≤ ratTrunc (3 * c.sigmaSpace + 1) := by
        apply ratTrunc_nonneg
        linarith
      have hm : 0 ≤ min (min rows cols) (ratTrunc (3 * c.sigmaSpace + 1)) := by omega
      exact Int.mul_nonneg hm hs
    · apply uniform_nonneg
      exact Int.mul_nonneg hf hs
  | optimization => exact uniform_nonneg 40 (by decide)
  | _ => exact ⟨Int.le_refl 0, Int.le_refl 0, Int.le_refl 0, Int.le_refl 0⟩


/-- the registrations of one round, in order (the round fails at a name that is not a step kind) -/
def entries (rows cols : Int) : List StepCfg → Int → List Entry
  | [], _ => []
  | c :: cs, step =>
    match entryOf rows cols step c with
    | none => []
    | some (e, step') => e :: entries rows cols cs step'

/-- `self.step` after a round over the pipeline -/
def stepEnd : List StepCfg → Int → Int
  | [], step => step
  | c :: cs, step =>
    match Kind.ofName? (kindOf c.name) with
    | none => step
    | some k => stepEnd cs (stepAfter step c k)

/-- the registrations of a round applied to the GlobalMargins object, in order (none = one of them raised) -/
def applyEntries : List Entry → Global → Option Global
  | [], g => some g
  | e :: es, g =>
    match applyEntry g e with
    | none => none
    | some g' => applyEntries es g'

/-- every step name is one of the ten step kinds (possibly decorated): true of every pipeline the check accepts -/
def KnownKinds (p : List StepCfg) : Prop := ∀ c ∈ p, (Kind.ofName? (kindOf c.name)).isSome = true

theorem knownKinds_cons {c : StepCfg} {cs : List StepCfg} (h : KnownKinds (c :: cs)) :
    ∃ k, Kind.ofName? (kindOf c.name) = some k ∧ KnownKinds cs := by
  have hc := h c (by simp)
  cases hkind : Kind.ofName? (kindOf c.name) with
  | none => simp [hkind] at hc
  | some k => exact ⟨k, rfl, fun x hx => h x (by simp [hx])⟩

/-- a round of `check_conf` over the margins is `applyEntries` of what its callbacks register -/
theorem round_eq_applyEntries (rows cols : Int) :
    ∀ (p : List StepCfg) (s : MgState), KnownKinds p →
      checkRoundMargins rows cols p s =
        (applyEntries (entries rows cols p s.step) s.g).map (fun g => { g := g, step := stepEnd p s.step }) := by
  intro p
  induction p with
  | nil => intro s _; simp [checkRoundMargins, entries, applyEntries, stepEnd]
  | cons c cs ih =>
    intro s hk
    obtain ⟨k, hkind, hcs⟩ := knownKinds_cons hk
    simp only [checkRoundMargins, checkStepMargins, entries, entryOf, hkind, applyEntries, stepEnd]
    cases happ : applyEntry s.g _ with
    | none => simp
    | some g' =>
      simp only []
      rw [ih _ hcs]

def regOf (reg : Reg) (es : List Entry) : MDict := (es.filter (fun e => e.reg == reg)).map (fun e => (e.name, e.m))

theorem entries_reg (reg : Reg) (rows cols : Int) : ∀ (p : List StepCfg) (step : Int), KnownKinds p →
    regOf reg (entries rows cols p step) = expectedEntries reg rows cols p step := by
  intro p
  induction p with
  | nil => intro _ _; rfl
  | cons c cs ih =>
    intro step hk
    obtain ⟨k, hkind, hcs⟩ := knownKinds_cons hk
    have h := ih (stepAfter step c k) hcs
    simp only [regOf] at h
    by_cases hreg : documentedReg k = reg <;> simp [regOf, entries, entryOf, hkind, expectedEntries, hreg, h]

theorem set_fresh (d : MDict) (k : String) (v : M4) (h : d.has k = false) : d.set k v = d ++ [(k, v)] := by
  unfold MDict.set
  have h' : d.any (fun e => e.1 == k) = false := h
  simp [h']

theorem regOf_cons (reg : Reg) (e : Entry) (es : List Entry) : regOf reg (e :: es) = regOf reg [e] ++ regOf reg es := by
  simp only [regOf, List.filter_cons, List.filter_nil]
  split <;> rfl

theorem applyEntry_fresh (g : Global) (e : Entry) (hv : e.m.valid = true)
    (hc : g.cumulatives.has e.name = false) (hn : g.nonCumulatives.has e.name = false) :
    applyEntry g e = some { cumulatives := g.cumulatives ++ regOf .cumulative [e],
                            nonCumulatives := g.nonCumulatives ++ regOf .nonCumulative [e] } := by
  cases hr : e.reg <;>
    simp [applyEntry, hr, hv, Global.addCumulative, Global.addNonCumulative, hc, hn, set_fresh, regOf]

theorem has_append_regOf (d : MDict) (reg : Reg) (e : Entry) (k : String) (hk : k ≠ e.name) :
    MDict.has (d ++ regOf reg [e]) k = d.has k := by
  simp only [MDict.has, regOf, List.filter_cons, List.filter_nil, List.any_append]
  split <;> simp [Ne.symm hk]

/-- distinct step names, none of which the GlobalMargins object holds yet: the registrations are appended to the
    two dictionaries, in order -/
theorem applyEntries_fresh : ∀ (es : List Entry) (g : Global),
    (es.map (·.name)).Nodup →
    (∀ e ∈ es, e.m.valid = true) →
    (∀ e ∈ es, g.cumulatives.has e.name = false ∧ g.nonCumulatives.has e.name = false) →
    applyEntries es g =
      some { cumulatives := g.cumulatives ++ regOf .cumulative es, nonCumulatives := g.nonCumulatives ++ regOf .nonCumulative es } := by
  intro es
  induction es with
  | nil => intro g _ _ _; simp [applyEntries, regOf]
  | cons e es ih =>
    intro g hnd hv hfresh
    have hnd2 : (∀ x ∈ es, ¬x.name = e.name) ∧ (es.map (·.name)).Nodup := by simpa using hnd
    obtain ⟨hfc, hfn⟩ := hfresh e (by simp)
    rw [applyEntries, applyEntry_fresh g e (hv e (by simp)) hfc hfn]
    dsimp only
    rw [ih _ hnd2.2 (fun x hx => hv x (by simp [hx])) (fun x hx => by
      rw [has_append_regOf _ _ _ _ (hnd2.1 x hx), has_append_regOf _ _ _ _ (hnd2.1 x hx)]
      exact hfresh x (by simp [hx]))]
    simp only [regOf_cons _ e es, List.append_assoc]

theorem entries_names (rows cols : Int) : ∀ (q : List StepCfg) (st : Int), KnownKinds q →
    (entries rows cols q st).map (·.name) = q.map (·.name) := by
  intro q
  induction q with
  | nil => intro _ _; simp [entries]
  | cons c cs ih =>
    intro st hq
    obtain ⟨k, hkind, hcs⟩ := knownKinds_cons hq
    simp [entries, entryOf, hkind, ih _ hcs]

/-- **The reported margins list exactly the margin-bearing steps with the documented values.**
    On a fresh machine, for a pipeline whose step names are distinct and are step kinds, and whose
    parameters are in their domains (margins non-negative): after one checking round the cumulative
    and non-cumulative dictionaries are the expected lists, in pipeline order. -/
theorem margins_listed (rows cols : Int) (p : List StepCfg) (hk : KnownKinds p)
    (hnd : (p.map (·.name)).Nodup)
    (hv : ∀ e ∈ entries rows cols p 1, e.m.valid = true) :
    checkRoundMargins rows cols p {} =
      some { g := { cumulatives := expectedEntries .cumulative rows cols p 1,
                    nonCumulatives := expectedEntries .nonCumulative rows cols p 1 },
             step := stepEnd p 1 } := by
  have hnames := entries_names rows cols
  rw [round_eq_applyEntries rows cols p {} hk]
  have hfresh := applyEntries_fresh (entries rows cols p 1) {} (by rw [hnames p 1 hk]; exact hnd) hv
    (by intro e _; simp [MDict.has])
  simp [hfresh, entries_reg _ rows cols p 1 hk]

/-- the registration `e` is already in `g`, with the same value -/
def Present (g : Global) (e : Entry) : Prop :=
  e.m.valid = true ∧
  match e.reg with
  | .none => True
  | .cumulative => g.nonCumulatives.has e.name = false ∧ g.cumulatives.has e.name = true
      ∧ ∀ x ∈ g.cumulatives, x.1 = e.name → x.2 = e.m
  | .nonCumulative => g.cumulatives.has e.name = false ∧ g.nonCumulatives.has e.name = true
      ∧ ∀ x ∈ g.nonCumulatives, x.1 = e.name → x.2 = e.m

theorem set_same (d : MDict) (k : String) (v : M4) (hh : d.has k = true)
    (hv : ∀ x ∈ d, x.1 = k → x.2 = v) : d.set k v = d := by
  unfold MDict.set
  have h' : d.any (fun e => e.1 == k) = true := hh
  simp only [h', if_true]
  conv => rhs; rw [← List.map_id d]
  apply List.map_congr_left
  intro x hx
  by_cases hxk : x.1 = k
  · have := hv x hx hxk
    simp [hxk]
    rw [← hxk, ← this]
  · simp [hxk]

theorem applyEntries_noop : ∀ (es : List Entry) (g : Global), (∀ e ∈ es, Present g e) →
    applyEntries es g = some g := by
  intro es
  induction es with
  | nil => intro g _; rfl
  | cons e es ih =>
    intro g h
    have he := h e (by simp)
    have hstep : applyEntry g e = some g := by
      obtain ⟨hv, hp⟩ := he
      unfold applyEntry
      cases hr : e.reg with
      | none => rfl
      | cumulative =>
        simp only [hr] at hp
        obtain ⟨h1, h2, h3⟩ := hp
        simp [hv, Global.addCumulative, h1, set_same _ _ _ h2 h3]
      | nonCumulative =>
        simp only [hr] at hp
        obtain ⟨h1, h2, h3⟩ := hp
        simp [hv, Global.addNonCumulative, h1, set_same _ _ _ h2 h3]
    simp only [applyEntries, hstep]
    exact ih g (fun x hx => h x (by simp [hx]))

theorem eq_of_nodup_names : ∀ (es : List Entry), (es.map (·.name)).Nodup →
    ∀ x ∈ es, ∀ y ∈ es, x.name = y.name → x = y := by
  intro es
  induction es with
  | nil => intro _ x hx; simp at hx
  | cons a as ih =>
    intro hnd x hx y hy hxy
    have h2 : (∀ z ∈ as, ¬z.name = a.name) ∧ (as.map (·.name)).Nodup := by simpa using hnd
    simp only [List.mem_cons] at hx hy
    rcases hx with rfl | hx <;> rcases hy with rfl | hy
    · rfl
    · exact absurd hxy.symm (h2.1 y hy)
    · exact absurd hxy (h2.1 x hx)
    · exact ih h2.2 x hx y hy hxy

theorem regOf_spec (reg : Reg) : ∀ (es : List Entry), (es.map (·.name)).Nodup → ∀ e ∈ es,
    (regOf reg es).has e.name = (e.reg == reg) ∧ ∀ x ∈ regOf reg es, x.1 = e.name → x.2 = e.m := by
  intro es hnd e he
  have huniq : ∀ y ∈ es, y.name = e.name → y = e := fun y hy hname => eq_of_nodup_names es hnd y hy e he hname
  constructor
  · cases hr : (e.reg == reg)
    · simp only [MDict.has, regOf, List.any_eq_false]
      intro x hx hn
      simp only [List.mem_map, List.mem_filter] at hx
      obtain ⟨y, ⟨hy, hyr⟩, rfl⟩ := hx
      rw [huniq y hy (by simpa using hn), hr] at hyr
      cases hyr
    · simp only [MDict.has, regOf, List.any_eq_true]
      exact ⟨(e.name, e.m), List.mem_map.2 ⟨e, List.mem_filter.2 ⟨he, hr⟩, rfl⟩, by simp⟩
  · intro x hx hn
    simp only [regOf, List.mem_map, List.mem_filter] at hx
    obtain ⟨y, ⟨hy, _⟩, rfl⟩ := hx
    rw [huniq y hy hn]

theorem present_of_fresh (es : List Entry) (hnd : (es.map (·.name)).Nodup)
    (hv : ∀ e ∈ es, e.m.valid = true) :
    ∀ e ∈ es, Present { cumulatives := regOf .cumulative es, nonCumulatives := regOf .nonCumulative es } e := by
  intro e he
  obtain ⟨hc, hcv⟩ := regOf_spec .cumulative es hnd e he
  obtain ⟨hn, hnv⟩ := regOf_spec .nonCumulative es hnd e he
  refine ⟨hv e he, ?_⟩
  cases hr : e.reg with
  | none => trivial
  | cumulative => rw [hr] at hc hn; exact ⟨hn, hc, hcv⟩
  | nonCumulative => rw [hr] at hc hn; exact ⟨hc, hn, hnv⟩


/-- a pipeline that starts with its matching cost step (every accepted non-empty pipeline does) -/
def StartsWithMatchingCost : List StepCfg → Prop
  | [] => True
  | c :: _ => Kind.ofName? (kindOf c.name) = some Kind.matchingCost

theorem entries_step_indep (rows cols : Int) (p : List StepCfg) (h : StartsWithMatchingCost p)
    (hne : p ≠ []) (s s' : Int) :
    entries rows cols p s = entries rows cols p s' ∧ stepEnd p s = stepEnd p s' := by
  cases p with
  | nil => exact absurd rfl hne
  | cons c cs =>
    simp only [StartsWithMatchingCost] at h
    simp [entries, entryOf, stepEnd, h, stepAfter]

/-- **The second (right/left) checking round a validation step triggers changes nothing**
    (images of equal shape): same keys, same order, same values, same global margins. -/
theorem second_round_noop (rows cols : Int) (p : List StepCfg) (hk : KnownKinds p)
    (hnd : (p.map (·.name)).Nodup) (hmc : StartsWithMatchingCost p)
    (hv : ∀ e ∈ entries rows cols p 1, e.m.valid = true) :
    checkMargins rows cols rows cols p {} = checkRoundMargins rows cols p {} := by
  unfold checkMargins
  rw [margins_listed rows cols p hk hnd hv]
  simp only []
  by_cases hval : hasKind .validation (p.map (·.name)) = true
  · simp only [hval, if_true]
    by_cases hne : p = []
    · subst hne; simp [checkRoundMargins, expectedEntries, stepEnd]
    · rw [round_eq_applyEntries rows cols p _ hk]
      obtain ⟨he, hs⟩ := entries_step_indep rows cols p hmc hne (stepEnd p 1) 1
      simp only [he, hs]
      have hnames := entries_names rows cols p 1 hk
      have hpres := present_of_fresh (entries rows cols p 1) (by rw [hnames]; exact hnd) hv
      rw [entries_reg _ rows cols p 1 hk, entries_reg _ rows cols p 1 hk] at hpres
      rw [applyEntries_noop _ _ hpres]
      rfl
  · simp [hval]

theorem foldl_max_mono (l : List (String × M4)) (f : M4 → Int) (a b : Int) (h : a ≤ b) :
    l.foldl (fun acc e => max acc (f e.2)) a ≤ l.foldl (fun acc e => max acc (f e.2)) b := by
  induction l generalizing a b with
  | nil => simpa
  | cons x xs ih => exact ih _ _ (by show max a (f x.2) ≤ max b (f x.2); omega)

theorem foldl_max_insert (l1 l2 : List (String × M4)) (x : String × M4) (f : M4 → Int) (z : Int) :
    (l1 ++ l2).foldl (fun acc e => max acc (f e.2)) z
      ≤ (l1 ++ x :: l2).foldl (fun acc e => max acc (f e.2)) z := by
  simp only [List.foldl_append, List.foldl_cons]
  exact foldl_max_mono l2 f _ _ (Int.le_max_left _ _)

theorem sum_proj (π : M4 → Int) (hπ : ∀ a b, π (a.add b) = π a + π b) (l : MDict) (acc : M4) :
    π (l.foldl (fun acc e => acc.add e.2) acc) = π acc + (l.map (fun e => π e.2)).sum := by
  induction l generalizing acc with
  | nil => simp
  | cons x xs ih => rw [List.foldl_cons, ih, hπ, List.map_cons, List.sum_cons, Int.add_assoc]

theorem sum_insert_le (l1 l2 : MDict) (x : String × M4) (hx : x.2.nonneg) :
    M4.le (MDict.sum (l1 ++ l2)) (MDict.sum (l1 ++ x :: l2)) := by
  have h : ∀ π : M4 → Int, (∀ a b, π (a.add b) = π a + π b) → 0 ≤ π x.2 →
      π (MDict.sum (l1 ++ l2)) ≤ π (MDict.sum (l1 ++ x :: l2)) := by
    intro π hπ h0
    unfold MDict.sum
    rw [sum_proj π hπ, sum_proj π hπ, List.map_append, List.map_append, List.map_cons, List.sum_append, List.sum_append,
      List.sum_cons]
    omega
  exact ⟨h (·.left) (fun _ _ => rfl) hx.1, h (·.up) (fun _ _ => rfl) hx.2.1,
    h (·.right) (fun _ _ => rfl) hx.2.2.1, h (·.down) (fun _ _ => rfl) hx.2.2.2⟩

/-- adding a cumulative margin (any position) never decreases the global margins -/
theorem global_mono_cumulative (c1 c2 non : MDict) (x : String × M4) (hx : x.2.nonneg) :
    M4.le (expectedGlobal (c1 ++ c2) non) (expectedGlobal (c1 ++ x :: c2) non) := by
  obtain ⟨h1, h2, h3, h4⟩ := sum_insert_le c1 c2 x hx
  unfold expectedGlobal M4.le
  exact ⟨foldl_max_mono non (·.left) _ _ h1, foldl_max_mono non (·.up) _ _ h2,
         foldl_max_mono non (·.right) _ _ h3, foldl_max_mono non (·.down) _ _ h4⟩

/-- adding a non-cumulative margin (any position) never decreases the global margins -/
theorem global_mono_nonCumulative (cum n1 n2 : MDict) (x : String × M4) :
    M4.le (expectedGlobal cum (n1 ++ n2)) (expectedGlobal cum (n1 ++ x :: n2)) := by
  unfold expectedGlobal M4.le
  exact ⟨foldl_max_insert n1 n2 x (·.left) _, foldl_max_insert n1 n2 x (·.up) _,
         foldl_max_insert n1 n2 x (·.right) _, foldl_max_insert n1 n2 x (·.down) _⟩

/-- inserting a step that is not a matching cost step leaves the other steps' entries unchanged and
    adds its own entry at its place -/
theorem expectedEntries_insert (reg : Reg) (rows cols : Int) (c : StepCfg) (k : Kind)
    (hk : Kind.ofName? (kindOf c.name) = some k) (hmc : k ≠ Kind.matchingCost) :
    ∀ (p1 p2 : List StepCfg) (st : Int),
      ∃ st', expectedEntries reg rows cols (p1 ++ c :: p2) st =
        expectedEntries reg rows cols p1 st ++
          ((if documentedReg k = reg then [(c.name, documentedMargin k c rows cols st')] else [])
            ++ expectedEntries reg rows cols p2 st')
      ∧ expectedEntries reg rows cols (p1 ++ p2) st =
        expectedEntries reg rows cols p1 st ++ expectedEntries reg rows cols p2 st' := by
  intro p1
  induction p1 with
  | nil =>
    intro p2 st
    refine ⟨st, ?_, ?_⟩
    · simp only [List.nil_append, expectedEntries, hk, stepAfter, hmc, if_false]
      split <;> simp
    · simp [expectedEntries]
  | cons a as ih =>
    intro p2 st
    cases ha : Kind.ofName? (kindOf a.name) with
    | none =>
      obtain ⟨st', h1, h2⟩ := ih p2 st
      exact ⟨st', by simp [expectedEntries, ha, h1], by simp [expectedEntries, ha, h2]⟩
    | some ka =>
      obtain ⟨st', h1, h2⟩ := ih p2 (stepAfter st a ka)
      refine ⟨st', ?_, ?_⟩
      · simp only [List.cons_append, expectedEntries, ha, h1]
        split <;> simp
      · simp only [List.cons_append, expectedEntries, ha, h2]
        split <;> simp

/-- **The global margins never decrease when a step is added** (anywhere in the pipeline; the
    added step is not a second matching cost step, which no accepted pipeline can contain).  Stated on the
    specification's expected lists; `margins_listed` and `global_formula` say that these are what the machine
    holds and reports after `check_conf`. -/
theorem global_monotone (rows cols : Int) (c : StepCfg) (k : Kind)
    (hk : Kind.ofName? (kindOf c.name) = some k) (hmc : k ≠ Kind.matchingCost)
    (hnn : ∀ st, (documentedMargin k c rows cols st).nonneg) (p1 p2 : List StepCfg) :
    M4.le
      (expectedGlobal (expectedEntries .cumulative rows cols (p1 ++ p2) 1)
                      (expectedEntries .nonCumulative rows cols (p1 ++ p2) 1))
      (expectedGlobal (expectedEntries .cumulative rows cols (p1 ++ c :: p2) 1)
                      (expectedEntries .nonCumulative rows cols (p1 ++ c :: p2) 1)) := by
  obtain ⟨s1, hc1, hc2⟩ := expectedEntries_insert .cumulative rows cols c k hk hmc p1 p2 1
  obtain ⟨s2, hn1, hn2⟩ := expectedEntries_insert .nonCumulative rows cols c k hk hmc p1 p2 1
  rw [hc1, hc2, hn1, hn2]
  cases hr : documentedReg k with
  | none => simp [M4.le]
  | cumulative =>
    simp only [if_true, reduceCtorEq, if_false, List.nil_append, List.singleton_append]
    exact global_mono_cumulative _ _ _ _ (hnn s1)
  | nonCumulative =>
    simp only [if_true, reduceCtorEq, if_false, List.nil_append, List.singleton_append]
    exact global_mono_nonCumulative _ _ _ _

def examplePipeline : List StepCfg :=
  [{ name := "matching_cost", method := "zncc", windowSize := 5, stepParam := 2 },
   { name := "disparity", method := "wta" },
   { name := "filter", method := "median", filterSize := 3 },
   { name := "validation", method := "cross_checking_accurate" },
   { name := "filter.1", method := "bilateral", sigmaSpace := 2 }]

example : KnownKinds examplePipeline :=
  List.all_eq_true.1 (by decide +kernel : examplePipeline.all (fun c => (Kind.ofName? (kindOf c.name)).isSome) = true)
example : (examplePipeline.map (·.name)).Nodup := by decide +kernel
example : StartsWithMatchingCost examplePipeline := by
  show Kind.ofName? (kindOf "matching_cost") = some Kind.matchingCost
  decide +kernel
example : ((entries 20 30 examplePipeline 1).all fun e => e.m.valid) = true := by decide +kernel
example : (checkMargins 20 30 20 30 examplePipeline {}).map (·.g.globalMargins) = some ⟨14, 14, 14, 14⟩ := by
  decide +kernel

end Pandora.C20
