/-
  C13 — vertical flip: "all windows being odd-sized, flipping both images vertically flips the outputs".
  A step commutes with the flip on every partial image (`VFlip`) or only on those whose domain is a product
  rows × columns (`VFlipOn`: the matching-cost step tests two opposite corners of its window, which the flip
  turns into the two other corners); every array has such a domain, so either kind gives, for a translation-
  equivariant step, the statement on arrays listed bottom-up: `FlipExact f` (`flip_run_eq`), the shape of every flip
  statement about arrays.  The file also holds the flip of the steps whose kernel is short: winner-takes-all and
  refinement (pointwise), cross-checking, the median filter.
-/
import PandoraModel.Properties.C13Pipeline

namespace Pandora.C13
open Pandora.Locality

theorem vflip_vflip {α : Type} (a : Img α) : vflip (vflip a) = a := by
  funext p
  show a (- -p.1, p.2) = a p
  rw [Int.neg_neg]

theorem vflip_apply {α : Type} (a : Img α) (i j : Int) : vflip a (i, j) = a (-i, j) := rfl

theorem rectDom_toImg {α : Type} (ny nx : Nat) (data : Nat → Nat → α) : RectDom (toImg ny nx data) :=
  ⟨fun i => 0 ≤ i ∧ i < ny, fun j => 0 ≤ j ∧ j < nx, fun i j => (isSome_toImg ny nx data (i, j)).trans and_assoc.symm⟩

theorem RectDom.vflip {α : Type} {a : Img α} (h : RectDom a) : RectDom (vflip a) := by
  obtain ⟨Rr, Cc, h⟩ := h
  exact ⟨fun i => Rr (-i), Cc, fun i j => h (-i) j⟩

theorem RectDom.shift {α : Type} {a : Img α} (h : RectDom a) (t : Px) : RectDom (shift t a) := by
  obtain ⟨Rr, Cc, h⟩ := h
  exact ⟨fun i => Rr (i + t.1), fun j => Cc (j + t.2), fun i j => h (i + t.1) (j + t.2)⟩

theorem and_congr_head {a b a' b' c : Prop} (h : a ∧ b ↔ a' ∧ b') : a ∧ b ∧ c ↔ a' ∧ b' ∧ c :=
  and_assoc.symm.trans ((and_congr_left' h).trans and_assoc)

theorem RectDom.corners {α : Type} {a : Img α} (h : RectDom a) (i i' j j' : Int) :
    ((a (i, j)).isSome = true ∧ (a (i', j')).isSome = true)
      ↔ ((a (i', j)).isSome = true ∧ (a (i, j')).isSome = true) := by
  obtain ⟨Rr, Cc, h⟩ := h
  simp only [h]
  exact ⟨fun ⟨⟨a1, a2⟩, b1, b2⟩ => ⟨⟨b1, a2⟩, a1, b2⟩, fun ⟨⟨b1, a2⟩, a1, b2⟩ => ⟨⟨a1, a2⟩, b1, b2⟩⟩

theorem VFlip.toOn {α β : Type} {f : Img α → Img β} (h : VFlip f) : VFlipOn f := fun a _ => h a

theorem VFlip.comp {α β γ : Type} {f : Img α → Img β} {g : Img β → Img γ} (hf : VFlip f) (hg : VFlip g) :
    VFlip (g ∘ f) := Commutes.vflip (hf.commutes.comp (fun _ _ => trivial) hg.commutes)

theorem VFlip.pair {α β γ : Type} {f : Img α → Img β} {g : Img α → Img γ} (hf : VFlip f) (hg : VFlip g) :
    VFlip (pairStep f g) := Commutes.vflip (hf.commutes.pair hg.commutes)

theorem VFlip.bind {α β γ : Type} {f : Img α → Img β} (hf : VFlip f) (g : β → Option γ) :
    VFlip (fun a p => (f a p).bind g) := Commutes.vflip (hf.commutes.bind g)

def flipArr {α : Type} (ny : Nat) (data : Nat → Nat → α) : Nat → Nat → α := fun r c => data (ny - 1 - r) c

theorem flipArr_flipArr {α : Type} (ny : Nat) (data : Nat → Nat → α) (r c : Nat) (hr : r < ny) :
    flipArr ny (flipArr ny data) r c = data r c := by
  show data (ny - 1 - (ny - 1 - r)) c = data r c
  rw [Nat.sub_sub_self (Nat.le_sub_one_of_lt hr)]

theorem mirror_mem (n : Nat) (i : Int) : (0 ≤ i ∧ i < n) ↔ (0 ≤ (n : Int) - 1 - i ∧ (n : Int) - 1 - i < n) := by
  rw [Int.sub_nonneg, Int.le_sub_one_iff, and_comm]
  refine and_congr_right fun _ => ?_
  rw [← Int.le_sub_one_iff, ← Int.sub_le_sub_left_iff (c := (n : Int) - 1) (a := i) (b := 0), Int.sub_zero]

theorem mirror_toNat (n : Nat) (i : Int) (h0 : 0 ≤ i) (hn : i < n) : ((n : Int) - 1 - i).toNat = n - 1 - i.toNat := by
  obtain ⟨r, rfl⟩ := Int.eq_ofNat_of_zero_le h0
  rw [← Int.natCast_pred_of_pos (Nat.lt_of_le_of_lt (Nat.zero_le r) (Int.ofNat_lt.1 hn)), Int.toNat_sub,
    Int.toNat_natCast]

theorem shift_vflip {α : Type} (p : Px) (a : Img α) : shift p (vflip a) = vflip (shift (-p.1, p.2) a) := by
  funext q
  show a (-(q.1 + p.1), q.2 + p.2) = a (-q.1 + -p.1, q.2 + p.2)
  rw [Int.neg_add]

theorem shift_vflip_apply {α : Type} (n : Nat) (a : Img α) (q : Px) :
    shift (-((n : Int) - 1), 0) (vflip a) q = a ((n : Int) - 1 - q.1, q.2) := by
  show a (-(q.1 + -((n : Int) - 1)), q.2 + 0) = a ((n : Int) - 1 + -q.1, q.2)
  rw [Int.neg_add, Int.neg_neg, Int.add_comm, Int.add_zero]

/-- **The partial image of the flipped array is the flipped partial image**, re-indexed so that its rows
    are `0 … ny-1` again. -/
theorem toImg_flipArr {α : Type} (ny nx : Nat) (data : Nat → Nat → α) :
    toImg ny nx (flipArr ny data) = shift (-((ny : Int) - 1), 0) (vflip (toImg ny nx data)) := by
  funext q
  rw [shift_vflip_apply]
  refine if_ctx_congr (and_congr_head (mirror_mem ny q.1)) (fun h => ?_) (fun _ => rfl)
  have hq := (mirror_mem ny q.1).2 ⟨h.1, h.2.1⟩
  show some (data (ny - 1 - q.1.toNat) q.2.toNat) = some (data ((ny : Int) - 1 - q.1).toNat q.2.toNat)
  rw [mirror_toNat ny q.1 hq.1 hq.2]

/-- `f` is flip-exact: on any array listed bottom-up it returns at row `r` what it returns on the array at row
    `ny - 1 - r` -/
def FlipExact {α β : Type} (f : Img α → Img β) : Prop :=
  ∀ (ny nx : Nat) (data : Nat → Nat → α) (p : Px),
    f (toImg ny nx (flipArr ny data)) p = f (toImg ny nx data) ((ny : Int) - 1 - p.1, p.2)

/-- **Flipped run = run, read bottom-up**: a translation-equivariant step that commutes with the flip (on rectangular
    domains) is flip-exact. -/
theorem flip_run_eq {α β : Type} {f : Img α → Img β} (hf : Equivariant f) (hv : VFlipOn f) : FlipExact f := by
  intro ny nx data p
  rw [toImg_flipArr, hf, hv _ (rectDom_toImg ny nx data)]
  exact shift_vflip_apply ny _ p

theorem wtaStep_vflip (isMax : Bool) (disps : List Rat) (invalid : Val) : VFlip (wtaStep isMax disps invalid) :=
  fun _ => rfl

theorem refineStep_vflip (P : Refinement.Params) : VFlip (refineStep P) := fun _ => rfl

/-- the test of `mask_border` is symmetric in the two vertical probes -/
theorem ccG_swap (V : CrossCheck.Variant) (P : CrossCheck.Params) (x b1 b2 b3 b4 : Option CcCell)
    (rs : List (Option CcCell)) :
    ccG V P (x :: b1 :: b2 :: b3 :: b4 :: rs) = ccG V P (x :: b2 :: b1 :: b3 :: b4 :: rs) := by
  cases x with
  | none => rfl
  | some x => simp only [ccG, or_left_comm]

/-- **Cross-checking commutes with the flip**: it reads the pixel's own row, and the two vertical
    `mask_border` probes `(-offset, 0)`, `(offset, 0)` are exchanged. -/
theorem ccStep_vflip (V : CrossCheck.Variant) (P : CrossCheck.Params) : VFlip (ccStep V P) :=
  stencil_vflip (ccOffs P) (ccG V P) fun a p => by
    unfold ccOffs
    simp only [List.map_cons, List.map_map, Function.comp_def, Int.add_zero, Int.sub_eq_add_neg,
      Int.neg_neg, Int.neg_zero]
    exact ccG_swap V P _ _ _ _ _ _

theorem range_map_sub_eq_reverse (w : Nat) : (List.range w).map (fun a => w - 1 - a) = (List.range w).reverse := by
  rw [List.range_eq_range', List.reverse_range']
  simp only [Nat.zero_add]
  rw [← List.range_eq_range']

theorem any_range_reverse (n : Nat) (f : Nat → Bool) :
    (List.range n).any (fun i => f (n - 1 - i)) = (List.range n).any f := by
  rw [← List.any_reverse (f := f), ← range_map_sub_eq_reverse, List.any_map]
  rfl

open Filter in
theorem cells_flipRows_perm (w : Nat) :
    List.Perm ((cells w).map fun p => (w - 1 - p.1, p.2)) (cells w) := by
  have h := (List.reverse_perm (List.range w)).flatMap_right fun a => (List.range w).map fun b => (a, b)
  rw [← range_map_sub_eq_reverse, List.flatMap_map] at h
  unfold cells
  rw [List.map_flatMap]
  simp only [List.map_map]
  exact h

theorem winOffs_neg_perm (fs : Nat) (hodd : fs % 2 = 1) :
    List.Perm ((winOffs fs (fs / 2)).map fun d => ((-d.1 : Int), d.2)) (winOffs fs (fs / 2)) := by
  refine List.Perm.trans (List.Perm.of_eq ?_) ((cells_flipRows_perm fs).map _)
  unfold winOffs
  rw [List.map_map, List.map_map]
  apply List.map_congr_left
  intro p hp
  have := (C10.mem_cells fs p.1 p.2).1 hp
  ext
  · simp only [Function.comp]; omega
  · rfl

theorem nanmedian_perm {l₁ l₂ : List Val} (h : List.Perm l₁ l₂) : Filter.nanmedian l₁ = Filter.nanmedian l₂ := by
  unfold Filter.nanmedian
  congr 1
  have hp : List.Perm (Filter.sortRat (Filter.nums l₁)) (Filter.sortRat (Filter.nums l₂)) :=
    ((Filter.sortRat_perm _).trans (h.filterMap _)).trans (Filter.sortRat_perm _).symm
  exact hp.eq_of_pairwise (le := fun (a b : Rat) => a ≤ b) (fun a b _ _ h1 h2 => Rat.le_antisymm h1 h2)
    (Filter.sortRat_sorted _) (Filter.sortRat_sorted _)

theorem medianG_perm (invalidMask : Nat) (x : Option (Val × Nat)) {w₁ w₂ : List (Option (Val × Nat))}
    (h : List.Perm w₁ w₂) : medianG invalidMask (x :: w₁) = medianG invalidMask (x :: w₂) := by
  cases x with
  | none => rfl
  | some x =>
    obtain ⟨d, f⟩ := x
    simp only [medianG]
    rw [h.all_eq, nanmedian_perm (h.map (maskedOpt invalidMask))]

/-- **The median filter of odd size commutes with the flip**: the window listed bottom-up is a permutation
    of the window, and the median (and the "whole window in the image" test) does not depend on the order. -/
theorem medianStep_vflip (invalidMask fs : Nat) (hodd : fs % 2 = 1) : VFlip (medianStep invalidMask fs) :=
  stencil_vflip _ (medianG invalidMask) fun a p => by
    have hw := (winOffs_neg_perm fs hodd).map fun d => a (p.1 + d.1, p.2 + d.2)
    rw [List.map_map] at hw
    simp only [List.map_cons, Int.add_zero, Int.sub_zero]
    exact (medianG_perm invalidMask _ hw).symm

/-! ### Non-vacuity -/

example : flipArr 3 (fun r c => 10 * r + c) 0 1 = 21 := by decide

example : RectDom (toImg 3 2 (fun r c => 10 * r + c)) := rectDom_toImg _ _ _

/-- `flip_run_eq` applies to the median filter of size 3 on any array -/
example (ny nx : Nat) (data : Nat → Nat → Val × Nat) (p : Px) :
    medianStep 1 3 (toImg ny nx (flipArr ny data)) p = medianStep 1 3 (toImg ny nx data) ((ny : Int) - 1 - p.1, p.2) :=
  flip_run_eq (medianStep_equivariant 1 3) (medianStep_vflip 1 3 (by decide)).toOn ny nx data p

/-- a domain that is not a product: the two pixels (0,0) and (1,1) only -/
example : ¬ RectDom (fun (p : Px) => if p = (0, 0) ∨ p = (1, 1) then some () else none) := by
  rintro ⟨Rr, Cc, h⟩
  have h00 := (h 0 0).1 (by decide)
  have h11 := (h 1 1).1 (by decide)
  have h01 := (h 0 1).2 ⟨h00.1, h11.2⟩
  exact absurd h01 (by decide)

end Pandora.C13
