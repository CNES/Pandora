/-
  C11 — the four integral-image kernels of cbca REGENERATED from the Python source (`Generated/KernelsCbcaSteps.lean`,
  written by translator/gen_kernels_cbca_steps.py with translator/pyscan.py: T14, array-state kernels) are equal, for
  every size, every cost plane, every arm array and every cell, to the hand model `Cbca.step1/s1At`, `step2`, `sum2`,
  `step3/s3At`, `step4`, `sum4` of `Model/Cbca.lean` — and never read or write outside an array (`Res.ok`).
-/
import PandoraModel.Generated.KernelsCbcaSteps
import PandoraModel.Lemmas.PyLoopsRules
import PandoraModel.Lemmas.PyExprRules
import PandoraModel.Lemmas.CbcaSteps

-- The proofs go through for the documented rewrites H1, H2 of DESIGN_NOTES/translator_pyloops.md (`cv + step1` for
-- `step1 + cv`, `min(cross_right, cross_left)`, `bot + top`, `1 + n_row_`, swapped `if` blocks): simp sets list both spellings,
-- and where a step says `simp … <;> ring_up_to_casts` the ring step has nothing to do on the source as it is (H1 needs it).
set_option linter.unusedSimpArgs false
set_option linter.unreachableTactic false
set_option linter.unusedTactic false
set_option linter.unnecessarySeqFocus false

namespace Pandora.C11KernelsSteps
open Pandora.Cbca Pandora.PyLoops Pandora.PyArrays Pandora.PyExpr

macro "ring_up_to_casts" : tactic => `(tactic| first | ring1 | (push_cast; ring1))

def embV (f : Nat → Nat → Val) : Int → Int → Val := fun i j => f i.toNat j.toNat

theorem get2_set2_same {α : Type} (a : Int → Int → α) (n0 n1 i j : Int) (v : α) :
    get2 (set2 a n0 n1 i j v) n0 n1 i j = v := by
  simp [get2, set2]

/-! ## The loop invariant of the four kernels

Each kernel is a loop over the rows `c` around a loop over `r < n` that stores at `[c, rc r]` (the scans: `rc` the identity;
steps 2 and 4: `range_col`).  `Vis`: cell `(i, j)` has been visited when the loops are at `(c, r)`; `Done`: the visited
cells hold `f`, the others still `z`. -/

def Vis (rc : Int → Int) (c r i j : Nat) : Prop := i < c ∨ (i = c ∧ ∃ t : Nat, t < r ∧ rc t = (j : Int))

def Done (H W : Nat) (rc : Int → Int) (f z : Nat → Nat → Rat) (c r : Nat) (a : Int → Int → Val) : Prop :=
  ∀ i j : Nat, i < H → j < W → (Vis rc c r i j → a i j = Val.num (f i j)) ∧ (¬ Vis rc c r i j → a i j = Val.num (z i j))

theorem done_init (H W : Nat) (rc : Int → Int) (f z : Nat → Nat → Rat) (a : Int → Int → Val)
    (h : ∀ i j : Nat, i < H → j < W → a i j = Val.num (z i j)) : Done H W rc f z 0 0 a := by
  intro i j hi hj
  refine ⟨?_, fun _ => h i j hi hj⟩
  rintro (h | ⟨_, t, ht, _⟩) <;> omega

/-- the cell about to be stored has not been visited (the columns of `range_col` are distinct): it still holds `z` -/
theorem done_fresh {H W n : Nat} {rc : Int → Int} {f z : Nat → Nat → Rat} {c r : Nat} {a : Int → Int → Val}
    (hd : Done H W rc f z c r a) (once : ∀ t t' : Nat, t < n → t' < n → rc t = rc t' → t = t') (hr : r < n)
    (x : Nat) (hx : rc r = (x : Int)) (hc : c < H) (hxW : x < W) : a c x = Val.num (z c x) := by
  refine (hd c x hc hxW).2 ?_
  rintro (h | ⟨_, t, ht, h⟩)
  · omega
  · have := once t r (by omega) hr (by rw [h, hx]); omega

theorem done_set {H W : Nat} {rc : Int → Int} {f z : Nat → Nat → Rat} {c r : Nat} {a : Int → Int → Val} (n0 n1 : Int)
    (hd : Done H W rc f z c r a) (x : Nat) (hx : rc r = (x : Int)) (v : Val) (hv : v = Val.num (f c x)) :
    Done H W rc f z c (r + 1) (set2 a n0 n1 (c : Int) (x : Int) v) := by
  intro i j hi hj
  rw [set2_nat]
  by_cases h : i = c ∧ j = x
  · obtain ⟨rfl, rfl⟩ := h
    simp only [and_self, if_true]
    exact ⟨fun _ => hv, fun hn => absurd (Or.inr ⟨rfl, r, by omega, hx⟩) hn⟩
  · have e : Vis rc c (r + 1) i j ↔ Vis rc c r i j := by
      constructor
      · rintro (h1 | ⟨h1, t, ht, h2⟩)
        · exact Or.inl h1
        · by_cases htr : t = r
          · subst htr; exact absurd ⟨h1, by rw [hx] at h2; exact_mod_cast h2.symm⟩ h
          · exact Or.inr ⟨h1, t, by omega, h2⟩
      · rintro (h1 | ⟨h1, t, ht, h2⟩)
        · exact Or.inl h1
        · exact Or.inr ⟨h1, t, by omega, h2⟩
    simp only [h, if_false, e]
    exact hd i j hi hj

/-- end of a row: the columns that `rc` does not list keep `z`, which is what `f` says there -/
theorem done_next {H W n : Nat} {rc : Int → Int} {f z : Nat → Nat → Rat} {c : Nat} {a : Int → Int → Val}
    (hd : Done H W rc f z c n a)
    (hrest : ∀ j : Nat, j < W → (¬ ∃ t : Nat, t < n ∧ rc t = (j : Int)) → f c j = z c j) :
    Done H W rc f z (c + 1) 0 a := by
  intro i j hi hj
  have := hd i j hi hj
  constructor
  · rintro (h | ⟨_, t, ht, _⟩)
    · by_cases hv : Vis rc c n i j
      · exact this.1 hv
      · have hic : i = c := by
          by_contra hne; exact hv (Or.inl (by omega))
        subst hic
        rw [this.2 hv, hrest j hj (fun ⟨t, ht, h⟩ => hv (Or.inr ⟨rfl, t, ht, h⟩))]
    · omega
  · intro hv
    refine this.2 (fun h => hv ?_)
    rcases h with h | ⟨h, _⟩
    · exact Or.inl (by omega)
    · exact Or.inl (by omega)

theorem done_final {W : Nat} {rc : Int → Int} {f z : Nat → Nat → Rat} {H : Nat} {a : Int → Int → Val}
    (hd : Done H W rc f z H 0 a) (y x : Nat) (hy : y < H) (hx : x < W) : a y x = Val.num (f y x) :=
  (hd y x hy hx).1 (Or.inl hy)

/-- a Python index into an axis of `n + 1` cells (`n` cells and the sentinel) lands on a natural `k ≤ n`, and the running
    sum behind it reads the same at both -/
theorem wrap_sentinel (n : Nat) (j : Int) (h0 : -((n : Int) + 1) ≤ j) (h1 : j < (n : Int) + 1) :
    ∃ k : Nat, k ≤ n ∧ wrap ((n : Int) + 1) j = (k : Int) ∧ ∀ S, sentinelAt n S j = sentinelAt n S (k : Int) := by
  obtain ⟨hw0, hw1⟩ := wrap_py h0 h1
  -- `sentinelAt` wraps its index as `wrap` does
  have e : ((wrap ((n : Int) + 1) j).toNat : Int) = if j < 0 then j + ((n : Int) + 1) else j := Int.toNat_of_nonneg hw0
  have hk : ¬ ((if j < 0 then j + ((n : Int) + 1) else j) < 0) := Int.not_lt.mpr hw0
  exact ⟨(wrap ((n : Int) + 1) j).toNat, by omega, (Int.toNat_of_nonneg hw0).symm,
    fun S => by simp only [sentinelAt, e, hk, if_false]⟩

/-- the cells before `(c, r)` in scan order hold the running sum, the others — the sentinel column `W` among them — the
    `0` of `np.zeros`, which is what `s1At` says of the sentinel -/
abbrev Scan1 (H W : Nat) (cv : Nat → Nat → Val) : Nat → Nat → (Int → Int → Val) → Prop :=
  Done H (W + 1) (fun t => t) (fun i j => s1At W (cv i) j) (fun _ _ => 0)

theorem s1At_rec (W : Nat) (row : Nat → Val) (r : Nat) (hr : r < W) :
    s1At W row (r : Int) = s1At W row ((r : Int) - 1) + c0 (row r) := by
  rw [s1At_eq, sentinelAt_nat, if_pos hr]
  cases r with
  | zero => rw [show ((0 : Nat) : Int) - 1 = -1 from rfl, sentinelAt_neg_one]; rfl
  | succ k =>
    rw [show ((k + 1 : Nat) : Int) - 1 = (k : Int) by omega, sentinelAt_nat, if_pos (by omega)]; rfl

/-- the cell `step1[c, r - 1]` the scan adds to: the previous cell of the row, the zero sentinel column for `r = 0` -/
theorem done1_prev {H W : Nat} {cv : Nat → Nat → Val} {c r : Nat} {a : Int → Int → Val} (n0 : Int)
    (hd : Scan1 H W cv c r a) (hc : c < H) (hr : r < W) :
    get2 a n0 ((W : Int) + 1) (c : Int) ((r : Int) - 1) = Val.num (s1At W (cv c) ((r : Int) - 1)) := by
  cases r with
  | zero =>
    have hw : wrap ((W : Int) + 1) (((0 : Nat) : Int) - 1) = (W : Int) := (wrap_of_neg _ (by omega)).trans (by omega)
    rw [get2, wrap_nat, hw, show ((0 : Nat) : Int) - 1 = -1 from rfl, s1At_eq, sentinelAt_neg_one]
    exact (hd c W hc (by omega)).2 (by rintro (h | ⟨_, t, ht, _⟩) <;> omega)
  | succ k =>
    rw [show ((k + 1 : Nat) : Int) - 1 = (k : Int) by omega, get2_nat]
    exact (hd c k hc (by omega)).1 (Or.inr ⟨rfl, k, by omega, rfl⟩)

theorem done1_read {W : Nat} {cv : Nat → Nat → Val} {H : Nat} {a : Int → Int → Val}
    (hd : Scan1 H W cv H 0 a)
    (y : Nat) (hy : y < H) (j : Int) (h0 : -((W : Int) + 1) ≤ j) (h1 : j < (W : Int) + 1) :
    get2 a (H : Int) ((W : Int) + 1) (y : Int) j = Val.num (s1At W (cv y) j) := by
  obtain ⟨k, hk, hw, hS⟩ := wrap_sentinel W j h0 h1
  rw [get2, wrap_nat, hw, s1At_eq, hS]
  exact done_final hd y k hy (by omega)

open Pandora.Generated.KernelsCbcaSteps

/-- **`cbca_step_1` as the source defines it is the hand model's row scan**, for any array holding the cost plane inside
    `H × W` (the cells outside are never read): `Res.ok` (no read or store outside an array), shape `(H, W + 1)`, and the
    cell `[y, j]` read with a Python index `j ∈ [-(W+1), W]` is `s1At W (cv y) j` — `0` at the sentinel `j = W`, `j = -1`. -/
theorem cbcaStep1_generated_eq (H W : Nat) (cv : Nat → Nat → Val) (cvp : Int → Int → Val)
    (hcv : ∀ y x : Nat, y < H → x < W → cvp y x = cv y x) :
    ∃ r, cbcaStep1 cvp H W = .ok r ∧ r.n0 = H ∧ r.n1 = (W : Int) + 1 ∧
      ∀ (y : Nat) (j : Int), y < H → -((W : Int) + 1) ≤ j → j < (W : Int) + 1 →
        get2 r.get r.n0 r.n1 y j = Val.num (s1At W (cv y) j) := by
  have eW : (1 : Int) + (W : Int) = (W : Int) + 1 := by ring  -- an extent written `1 + n_row_`
  simp only [cbcaStep1, eW]
  generalize hL : forRange (0 : Int) (H : Int) 1 _ _ = L
  have key : L.1 = true ∧ Scan1 H W cv H 0 L.2 := by
    rw [← hL]
    refine forRange_nest_ok_inv (Scan1 H W cv) 0 H H W _ _ _ (Int.sub_zero _) (fun _ _ => rfl)
      (done_init _ _ _ _ _ _ (fun _ _ _ _ => rfl)) ?cell ?next
    case next =>
      intro c a hc hd
      -- the only column the inner loop does not reach is the sentinel
      refine done_next hd (fun j hj hno => ?_)
      have hjW : ¬ j < W := fun h => hno ⟨j, h, rfl⟩
      show s1At W (cv c) j = 0
      rw [s1At_eq, sentinelAt_nat, if_neg hjW]
    case cell =>
      intro c r a res hc hr hd hres
      have hcH : (c : Int) < (H : Int) := Int.ofNat_lt.mpr hc
      have hrW1 : (r : Int) < (W : Int) + 1 := by omega
      have hprev : inb2 (H : Int) ((W : Int) + 1) (c : Int) ((r : Int) - 1) = true :=
        inb2_py hcH (by omega) (by omega)
      have hnew : ∀ v, v = Val.num (s1At W (cv c) ((r : Int) - 1) + c0 (cv c r)) →
          Scan1 H W cv c (r + 1) (set2 a (H : Int) ((W : Int) + 1) (c : Int) (r : Int) v) :=
        fun v hv => done_set _ _ hd r rfl v (by rw [hv]; exact congrArg Val.num (s1At_rec W (cv c) r hr).symm)
      simp only [Int.zero_add, get2_nat, hcv c r hc hr, inb2_nat, Int.ofNat_lt, hc, hr, inb2_nat hcH hrW1, hprev,
        done1_prev _ hd hc hr, Bool.and_true, Bool.true_and] at hres
      cases hv : cv c r with
      | nan =>
        simp only [hv, Val.isNan, Bool.not_true, Bool.false_eq_true, if_false] at hres
        subst hres
        exact ⟨rfl, rfl, hnew _ (by rw [hv, c0_nan]; simp only [Val.num.injEq] <;> ring_up_to_casts)⟩
      | num q =>
        simp only [hv, Val.isNan, Bool.not_false, if_true] at hres
        subst hres
        exact ⟨rfl, rfl, hnew _ (by rw [hv, c0_num]; simp only [C06Kernels.vadd_num, Val.num.injEq] <;> ring_up_to_casts)⟩
  refine ⟨⟨L.2, H, (W : Int) + 1⟩, ?_, rfl, rfl, ?_⟩
  · have h0 : ((H : Int) ≥ 0) ∧ ((W : Int) + 1 ≥ 0) := ⟨by omega, by omega⟩
    simp [key.1, h0]
  · intro y j hy h0 h1
    exact done1_read key.2 y hy j h0 h1

def embS2 (P : Plane) : Int → Int → Val := fun i j => Val.num (step2 P i.toNat j.toNat)

theorem embS2_nat (P : Plane) (i j : Nat) : embS2 P (i : Int) (j : Int) = Val.num (step2 P i j) := by
  simp [embS2]

theorem get2_embS2 (P : Plane) (n0 n1 : Int) (i j : Nat) : get2 (embS2 P) n0 n1 (i : Int) (j : Int) = Val.num (step2 P i j) := by
  rw [get2_nat, embS2_nat]

theorem s3At_rec (P : Plane) (x c : Nat) (hc : c + 1 < P.H) :
    s3At P x ((c + 1 : Nat) : Int) = s3At P x (c : Int) + step2 P (c + 1) x := by
  rw [s3At_eq, sentinelAt_nat, sentinelAt_nat, if_pos hc, if_pos (by omega)]; rfl

abbrev Scan3 (P : Plane) : Nat → Nat → (Int → Int → Val) → Prop :=
  Done (P.H + 1) P.W (fun t => t) (fun i j => s3At P j i) (fun _ _ => 0)

theorem done3_read {P : Plane} {a : Int → Int → Val}
    (hd : Scan3 P P.H 0 a)
    (x : Nat) (hx : x < P.W) (i : Int) (h0 : -((P.H : Int) + 1) ≤ i) (h1 : i < (P.H : Int) + 1) :
    get2 a ((P.H : Int) + 1) (P.W : Int) i (x : Int) = Val.num (s3At P x i) := by
  obtain ⟨k, hk, hw, hS⟩ := wrap_sentinel P.H i h0 h1
  rw [get2, wrap_nat, hw, s3At_eq, hS]
  by_cases hlt : k < P.H
  · exact (hd k x (by omega) hx).1 (Or.inl hlt)
  · -- the sentinel row: never visited, and `s3At` is `0` there
    rw [(hd k x (by omega) hx).2 (by rintro (h | ⟨h, _⟩) <;> omega)]
    show Val.num 0 = Val.num (s3At P x k)
    rw [s3At_eq, sentinelAt_nat, if_neg hlt]

/-- **`cbca_step_3` as the source defines it is the hand model's column scan**, for any array holding `step2` inside
    `H × W` (`P.H ≥ 1`: the function reads `step2[0, :]`): `Res.ok`, shape `(H + 1, W)`, and the cell `[i, x]` read with a
    Python row index `i ∈ [-(H+1), H]` is `s3At P x i` — `0` in the sentinel row `i = H`, `i = -1`. -/
theorem cbcaStep3_generated_eq (P : Plane) (hH : 1 ≤ P.H) (s2 : Int → Int → Val)
    (hs2 : ∀ y x : Nat, y < P.H → x < P.W → s2 y x = Val.num (step2 P y x)) :
    ∃ r, cbcaStep3 s2 P.H P.W = .ok r ∧ r.n0 = (P.H : Int) + 1 ∧ r.n1 = P.W ∧
      ∀ (x : Nat) (i : Int), x < P.W → -((P.H : Int) + 1) ≤ i → i < (P.H : Int) + 1 →
        get2 r.get r.n0 r.n1 i x = Val.num (s3At P x i) := by
  have eH : (1 : Int) + (P.H : Int) = (P.H : Int) + 1 := by ring  -- an extent written `1 + n_col_`
  simp only [cbcaStep3, eH]
  generalize hL : forRange (1 : Int) (P.H : Int) 1 _ _ = L
  have key : L.1 = true ∧ Scan3 P (P.H - 1 + 1) 0 L.2 := by
    rw [← hL]
    refine forRange_nest_ok_inv (fun t => Scan3 P (t + 1)) 1 P.H (P.H - 1) P.W _ _ _ (by omega) (fun _ _ => rfl)
      ?h0 ?cell (fun t a _ hd => done_next hd (fun j hj hno => absurd ⟨j, hj, rfl⟩ hno))
    case h0 =>
      -- `step3[0, :] = step2[0, :]`: row 0 is done before the loop
      intro i j hi hj
      have hj' : (0 : Int) ≤ (j : Int) ∧ (j : Int) < (P.W : Int) := ⟨by omega, by exact_mod_cast hj⟩
      have h00 := hs2 0 j (by omega) hj
      simp only [setRow2, row2, zeros2, wrap]
      by_cases h : i = 0
      · subst h
        refine ⟨fun _ => ?_, fun hn => absurd (Or.inl (by omega)) hn⟩
        have hf : s3At P j ((0 : Nat) : Int) = step2 P 0 j := by
          rw [s3At_eq, sentinelAt_nat, if_pos (by omega)]; rfl
        show _ = Val.num (s3At P j ((0 : Nat) : Int))
        rw [hf]
        simp at h00
        simp [hj', h00]
      · have h' : ¬ ((i : Int) = 0) := by omega
        refine ⟨fun hv => ?_, fun _ => by simp [h, h']⟩
        rcases hv with hv | ⟨_, t, ht, _⟩ <;> omega
    case cell =>
      intro t r a res ht hr hd hres
      have e : (1 : Int) + (t : Int) = ((t + 1 : Nat) : Int) := by omega
      have e1 : ((t + 1 : Nat) : Int) - 1 = (t : Int) := by omega
      have htH1 : (t : Int) < (P.H : Int) + 1 := by omega
      have hcH1 : ((t + 1 : Nat) : Int) < (P.H : Int) + 1 := by omega
      have hprev : a t r = Val.num (s3At P r t) := (hd t r (by omega) hr).1 (Or.inl (by omega))
      simp only [e, e1, get2_nat, hs2 (t + 1) r (by omega) hr, inb2_nat, Int.ofNat_lt, hr, show t + 1 < P.H by omega,
        inb2_nat htH1 (Int.ofNat_lt.mpr hr), inb2_nat hcH1 (Int.ofNat_lt.mpr hr), hprev, Bool.and_true, Bool.true_and] at hres
      subst hres
      exact ⟨rfl, rfl, done_set _ _ hd r rfl _ (by
        show _ = Val.num (s3At P r ((t + 1 : Nat) : Int))
        rw [s3At_rec P r t (by omega)]; simp only [C06Kernels.vadd_num, Val.num.injEq] <;> ring_up_to_casts)⟩
  refine ⟨⟨L.2, (P.H : Int) + 1, P.W⟩, ?_, rfl, rfl, ?_⟩
  · have h0 : ((P.H : Int) + 1 ≥ 0) ∧ ((P.W : Int) ≥ 0) ∧ (0 : Int) < (P.H : Int) := ⟨by omega, by omega, by omega⟩
    simp [key.1, h0, inb, wrap]
    omega
  · intro x i hx h0 h1
    exact done3_read (by rw [← show P.H - 1 + 1 = P.H by omega]; exact key.2) x hx i h0 h1

def embA (arms : Nat → Nat → Arms) : Int → Int → Int → Int := fun i j k =>
  let a := arms i.toNat j.toNat
  if k = 0 then (a.left : Int) else if k = 1 then (a.right : Int) else if k = 2 then (a.top : Int) else (a.bot : Int)

theorem get3_embA (arms : Nat → Nat → Arms) (n0 n1 : Int) (i j : Nat) :
    get3 (embA arms) n0 n1 4 (i : Int) (j : Int) 0 = ((arms i j).left : Int) ∧
    get3 (embA arms) n0 n1 4 (i : Int) (j : Int) 1 = ((arms i j).right : Int) ∧
    get3 (embA arms) n0 n1 4 (i : Int) (j : Int) 2 = ((arms i j).top : Int) ∧
    get3 (embA arms) n0 n1 4 (i : Int) (j : Int) 3 = ((arms i j).bot : Int) := by
  simp [get3, embA, wrap_of_nonneg]

theorem inb3_arms {n0 n1 : Int} {i j : Nat} (hi : (i : Int) < n0) (hj : (j : Int) < n1) :
    inb3 n0 n1 4 (i : Int) (j : Int) 0 = true ∧ inb3 n0 n1 4 (i : Int) (j : Int) 1 = true ∧
    inb3 n0 n1 4 (i : Int) (j : Int) 2 = true ∧ inb3 n0 n1 4 (i : Int) (j : Int) 3 = true := by
  simp [inb3, inb_nat hi, inb_nat hj, inb_of]

/-- how the model's plane is handed to `cbca_step_2` / `cbca_step_4`: `range_col` lists — once each — exactly the
    columns of the left image that have a facing right column at the plane's disparity, `range_col_right` that column
    (`cost_volume_aggregation`: `range_col[valid_index]`, `range_col_right[valid_index].astype(int)`) -/
structure Wired (P : Plane) (n : Nat) (rc rcr : Int → Int) : Prop where
  facing : ∀ t : Nat, t < n → ∃ x xr : Nat, rc t = (x : Int) ∧ x < P.W ∧ rightCol P.d P.Wr x = some xr ∧
    rcr t = (xr : Int) ∧ xr < P.Wr
  once : ∀ t t' : Nat, t < n → t' < n → rc t = rc t' → t = t'
  all : ∀ x : Nat, x < P.W → rightCol P.d P.Wr x ≠ none → ∃ t : Nat, t < n ∧ rc t = (x : Int)

/-- the left arms stay inside the image (what `Cbca.armsInImage` decides; proved of `cross_support` in C11Kernels) -/
def ArmsIn (H W : Nat) (arms : Nat → Nat → Arms) : Prop :=
  ∀ y x : Nat, y < H → x < W →
    (arms y x).left ≤ x ∧ x + (arms y x).right < W ∧ (arms y x).top ≤ y ∧ y + (arms y x).bot < H

theorem armsIn_of {H W : Nat} {arms : Nat → Nat → Arms} (h : armsInImage H W arms = true) : ArmsIn H W arms :=
  fun _ _ hy hx => C11.armsInImage_spec h hy hx

/-- `min(cross_left[..], cross_right[..])` of the source, either way round, is the model's combined arm.  A structure, not a
    conjunction in the context: only `simp` needs these eight facts, and `omega` would otherwise carry them through every call. -/
structure ArmMins (L R a : Arms) : Prop where
  out : (imin (L.left : Int) R.left = a.left ∧ imin (R.left : Int) L.left = a.left) ∧
    (imin (L.right : Int) R.right = a.right ∧ imin (R.right : Int) L.right = a.right) ∧
    (imin (L.top : Int) R.top = a.top ∧ imin (R.top : Int) L.top = a.top) ∧
    (imin (L.bot : Int) R.bot = a.bot ∧ imin (R.bot : Int) L.bot = a.bot)

/-- what iteration `t` of the inner loop of steps 2 and 4 reads at row `c`: the column `x = range_col[t]`, its facing
    column `xr` and the combined arms `a` of `(c, x)` — inside the image, since the left arms are -/
theorem Wired.cell {P : Plane} {n : Nat} {rc rcr : Int → Int} (hw : Wired P n rc rcr) (hin : ArmsIn P.H P.W P.armsL)
    {t c : Nat} (ht : t < n) (hc : c < P.H) :
    ∃ (x xr : Nat) (a : Arms), rc t = (x : Int) ∧ rcr t = (xr : Int) ∧ x < P.W ∧ xr < P.Wr ∧ comb P c x = some a ∧
      (a.left ≤ x ∧ x + a.right < P.W ∧ a.top ≤ c ∧ c + a.bot < P.H) ∧ ArmMins (P.armsL c x) (P.armsR c xr) a := by
  obtain ⟨x, xr, hrc, hx, hcol, hrcr, hxr⟩ := hw.facing t ht
  have hcomb := comb_of_rightCol P c x hcol
  have e : ∀ u v : Nat, imin (u : Int) v = (min u v : Nat) ∧ imin (v : Int) u = (min u v : Nat) :=
    fun u v => ⟨imin_nat u v, (imin_nat v u).trans (congrArg _ (Nat.min_comm v u))⟩
  exact ⟨x, xr, _, hrc, hrcr, hx, hxr, hcomb, C11.comb_in hcomb (hin c x hc hx), ⟨e _ _, e _ _, e _ _, e _ _⟩⟩

theorem Wired.comb_none {P : Plane} {n : Nat} {rc rcr : Int → Int} (hw : Wired P n rc rcr) (c : Nat) {j : Nat}
    (hj : j < P.W) (hno : ¬ ∃ t : Nat, t < n ∧ rc t = (j : Int)) : comb P c j = none :=
  comb_of_none P c j (by by_contra hne; exact hno (hw.all j hj hne))

abbrev Done2 (P : Plane) (rc : Int → Int) (c r : Nat) (st : (Int → Int → Val) × (Int → Int → Val)) : Prop :=
  Done P.H P.W rc (step2 P) (fun _ _ => 0) c r st.1
    ∧ Done P.H P.W rc (fun y x => ((sum2 P y x : Nat) : Rat)) (fun _ _ => 0) c r st.2

/-- **`cbca_step_2` as the source defines it is the hand model's `step2` / `sum2`**, for any array that reads like the
    output of step 1, left arms inside the image and the column lists of `cost_volume_aggregation` (`Wired`): `Res.ok`, two
    `(H, W)` arrays, `0` in the columns without a facing column. -/
theorem cbcaStep2_generated_eq (P : Plane) (n : Nat) (rc rcr : Int → Int) (s1 : Int → Int → Val)
    (hs1 : ∀ (y : Nat) (j : Int), y < P.H → -((P.W : Int) + 1) ≤ j → j < (P.W : Int) + 1 →
      get2 s1 (P.H : Int) ((P.W : Int) + 1) y j = Val.num (s1At P.W (P.cv y) j))
    (hw : Wired P n rc rcr) (hin : ArmsIn P.H P.W P.armsL) :
    ∃ r, cbcaStep2 s1 P.H ((P.W : Int) + 1) (embA P.armsL) P.H P.W 4 (embA P.armsR) P.H P.Wr 4 rc n rcr n = .ok r ∧
      r.1.n0 = P.H ∧ r.1.n1 = P.W ∧ r.2.n0 = P.H ∧ r.2.n1 = P.W ∧
      ∀ y x : Nat, y < P.H → x < P.W →
        r.1.get y x = Val.num (step2 P y x) ∧ r.2.get y x = Val.num ((sum2 P y x : Nat) : Rat) := by
  simp only [cbcaStep2]
  generalize hL : forRange (0 : Int) (P.H : Int) 1 _ _ = L
  have key : L.1 = true ∧ Done2 P rc P.H 0 L.2 := by
    rw [← hL]
    refine forRange_nest_ok_inv (Done2 P rc) 0 P.H P.H n _ _ _ (Int.sub_zero _) (fun _ _ => rfl)
      ⟨done_init _ _ _ _ _ _ (fun _ _ _ _ => rfl), done_init _ _ _ _ _ _ (fun _ _ _ _ => by simp [zeros2])⟩ ?cell ?next
    case next =>
      intro c st hc hd
      refine ⟨done_next hd.1 fun j hj hno => step2_of_none (hw.comb_none c hj hno), done_next hd.2 fun j hj hno => ?_⟩
      rw [sum2_of_none (hw.comb_none c hj hno)]; rfl
    case cell =>
      intro c t st res hc ht hd hres
      obtain ⟨x, xr, a, hrc, hrcr, hx, hxr, hcomb, hA, hmin⟩ := hw.cell hin ht hc
      -- the two reads of `step1`, at Python indices inside `[-(W+1), W]`
      have rd : ∀ j : Int, -((P.W : Int) + 1) ≤ j → j < (P.W : Int) + 1 →
          inb2 (P.H : Int) ((P.W : Int) + 1) (c : Int) j = true
            ∧ get2 s1 (P.H : Int) ((P.W : Int) + 1) c j = Val.num (s1At P.W (P.cv c) j) :=
        fun j h0 h1 => ⟨inb2_py (Int.ofNat_lt.mpr hc) h0 h1, hs1 c j hc h0 h1⟩
      obtain ⟨i1, r1⟩ := rd ((x : Int) + (a.right : Int)) (by omega) (by omega)
      obtain ⟨i2, r2⟩ := rd ((x : Int) - (a.left : Int) - 1) (by omega) (by omega)
      have hfresh := done_fresh hd.2 hw.once ht x hrc hc hx
      have hW1 : (P.W : Int) + 1 - 1 = P.W := by omega
      simp only [hW1, Int.zero_add, get1_nat, hrc, hrcr, get3_embA, inb3_arms, inb2_nat, inb_nat, inb1,
        Int.ofNat_lt, hc, hx, hxr, ht, hmin.out, r1, r2, i1, i2, get2_nat, hfresh, Bool.and_true, Bool.true_and] at hres
      subst hres
      refine ⟨rfl, rfl, done_set _ _ hd.1 x hrc _ ?_, done_set _ _ hd.2 x hrc _ ?_⟩
      · rw [step2_of_comb hcomb]; simp only [C06Kernels.vsub_num, Val.num.injEq]
      · rw [sum2_of_comb hcomb]; simp only [C06Kernels.vadd_num, Val.num.injEq] <;> ring_up_to_casts
  refine ⟨(⟨L.2.1, P.H, P.W⟩, ⟨L.2.2, P.H, P.W⟩), ?_, rfl, rfl, rfl, rfl, ?_⟩
  · have h0 : ((P.H : Int) ≥ 0) ∧ ((P.W : Int) + 1 - 1 ≥ 0) ∧ (P.W : Int) + 1 - 1 = P.W := ⟨by omega, by omega, by omega⟩
    simp [key.1, h0]
  · intro y x hy hx
    exact ⟨done_final key.2.1 y x hy hx, done_final key.2.2 y x hy hx⟩

theorem sumFrom_eq (f : Int → Val) (g : Nat → Nat) (lo : Nat) :
    ∀ n : Nat, (∀ k : Nat, k < n → f ((lo : Int) + k) = Val.num ((g (lo + k) : Nat) : Rat)) →
      sumFrom f lo n = Val.num ((sumRangeN g lo n : Nat) : Rat) := by
  intro n
  induction n with
  | zero => intro _; simp [sumFrom, sumRangeN]
  | succ n ih =>
    intro h
    rw [sumFrom, ih (fun k hk => h k (by omega)), h n (by omega)]
    simp [sumRangeN, vadd, Val.map2]

theorem sumSlice_eq (q : Int → Int → Val) (g : Nat → Nat → Nat) (H W : Nat)
    (hq : ∀ y x : Nat, y < H → x < W → q y x = Val.num ((g y x : Nat) : Rat)) (lo n x : Nat) (hb : lo + n ≤ H) (hx : x < W)
    (loI hiI : Int) (hlo : loI = (lo : Int)) (hhi : hiI = ((lo + n : Nat) : Int)) :
    sumSlice0 q (H : Int) (W : Int) loI hiI (x : Int) = Val.num ((sumRangeN (fun y' => g y' x) lo n : Nat) : Rat) := by
  subst hlo hhi
  simp only [sumSlice0, sliceBound_of_le (H : Int) lo (by omega), sliceBound_of_le (H : Int) (lo + n) (by exact_mod_cast hb), wrap_nat]
  rw [show (((lo + n : Nat) : Int) - (lo : Int)).toNat = n by omega]
  exact sumFrom_eq _ _ lo n (fun k hk => by
    have := hq (lo + k) x (by omega) hx
    rw [show ((lo : Int) + (k : Int)) = ((lo + k : Nat) : Int) by push_cast; ring]
    exact this)

/-- `step4` starts from `np.zeros`, `sum4` from the copy of `sum2`; the model's `sum4` counts the final `+ 1` -/
abbrev Done4 (P : Plane) (rc : Int → Int) (c r : Nat) (st : (Int → Int → Val) × (Int → Int → Val)) : Prop :=
  Done P.H P.W rc (step4 P) (fun _ _ => 0) c r st.1
    ∧ Done P.H P.W rc (fun y x => ((sum4 P y x : Nat) : Rat) - 1) (fun y x => ((sum2 P y x : Nat) : Rat)) c r st.2

/-- **`cbca_step_4` as the source defines it is the hand model's `step4` / `sum4`**, for any arrays that read like the
    output of step 3 / hold `sum2`: `Res.ok`, two `(H, W)` arrays; the second is the model's `sum4` before the `+ 1` that
    `cost_volume_aggregation` adds. -/
theorem cbcaStep4_generated_eq (P : Plane) (n : Nat) (rc rcr : Int → Int) (s3 q : Int → Int → Val)
    (hs3 : ∀ (x : Nat) (i : Int), x < P.W → -((P.H : Int) + 1) ≤ i → i < (P.H : Int) + 1 →
      get2 s3 ((P.H : Int) + 1) (P.W : Int) i x = Val.num (s3At P x i))
    (hq : ∀ y x : Nat, y < P.H → x < P.W → q y x = Val.num ((sum2 P y x : Nat) : Rat))
    (hw : Wired P n rc rcr) (hin : ArmsIn P.H P.W P.armsL) :
    ∃ r, cbcaStep4 s3 ((P.H : Int) + 1) P.W q P.H P.W (embA P.armsL) P.H P.W 4 (embA P.armsR) P.H P.Wr 4 rc n rcr n = .ok r ∧
      r.1.n0 = P.H ∧ r.1.n1 = P.W ∧ r.2.n0 = P.H ∧ r.2.n1 = P.W ∧
      ∀ y x : Nat, y < P.H → x < P.W →
        r.1.get y x = Val.num (step4 P y x) ∧ r.2.get y x = Val.num (((sum4 P y x : Nat) : Rat) - 1) := by
  have hH1 : (P.H : Int) + 1 - 1 = P.H := by omega
  simp only [cbcaStep4, hH1]
  generalize hL : forRange (0 : Int) (P.H : Int) 1 _ _ = L
  have key : L.1 = true ∧ Done4 P rc P.H 0 L.2 := by
    rw [← hL]
    refine forRange_nest_ok_inv (Done4 P rc) 0 P.H P.H n _ _ _ (Int.sub_zero _) (fun _ _ => rfl)
      ⟨done_init _ _ _ _ _ _ (fun _ _ _ _ => rfl), done_init _ _ _ _ _ _ hq⟩ ?cell ?next
    case next =>
      intro c st hc hd
      refine ⟨done_next hd.1 fun j hj hno => step4_of_none (hw.comb_none c hj hno), done_next hd.2 fun j hj hno => ?_⟩
      rw [sum4_of_none (hw.comb_none c hj hno)]; simp
    case cell =>
      intro c t st res hc ht hd hres
      obtain ⟨x, xr, a, hrc, hrcr, hx, hxr, hcomb, hA, hmin⟩ := hw.cell hin ht hc
      -- the two reads of `step3`, at Python row indices inside `[-(H+1), H]`
      have rd : ∀ i : Int, -((P.H : Int) + 1) ≤ i → i < (P.H : Int) + 1 →
          inb2 ((P.H : Int) + 1) (P.W : Int) i (x : Int) = true
            ∧ get2 s3 ((P.H : Int) + 1) (P.W : Int) i x = Val.num (s3At P x i) :=
        fun i h0 h1 => ⟨by rw [inb2, inb_py h0 h1, inb_nat (Int.ofNat_lt.mpr hx)]; rfl, hs3 x i hx h0 h1⟩
      obtain ⟨i1, r1⟩ := rd ((c : Int) + (a.bot : Int)) (by omega) (by omega)
      obtain ⟨i2, r2⟩ := rd ((c : Int) - (a.top : Int) - 1) (by omega) (by omega)
      have sl1 := sumSlice_eq q (sum2 P) P.H P.W hq (c - a.top) a.top x (by omega) hx ((c : Int) - (a.top : Int)) (c : Int)
        (by omega) (by omega)
      have sl2 := sumSlice_eq q (sum2 P) P.H P.W hq (c + 1) a.bot x (by omega) hx ((c : Int) + 1)
        ((c : Int) + (a.bot : Int) + 1) (by omega) (by omega)
      have hfresh := done_fresh hd.2 hw.once ht x hrc hc hx
      simp only [Int.zero_add, get1_nat, hrc, hrcr, get3_embA, inb3_arms, inb2_nat, inb_nat, inb1,
        Int.ofNat_lt, hc, hx, hxr, ht, hmin.out, r1, r2, i1, i2, sl1, sl2, Bool.and_true, Bool.true_and] at hres
      have h4 := sum4_of_comb hcomb
      -- the guarded `+=` fall on the cell just stored: one store, of a value with guarded addends
      simp only [apply_ite Prod.fst, apply_ite Prod.snd, get2_set2_same, set2_set2, set2_ite, ite_self, get2_nat, set2_nat, and_self, if_true,
        hfresh, Bool.and_true, Bool.true_and, Bool.and_self] at hres
      subst hres
      refine ⟨rfl, rfl, done_set _ _ hd.1 x hrc _ ?_, done_set _ _ hd.2 x hrc _ ?_⟩
      · rw [step4_of_comb hcomb]; simp only [C06Kernels.vsub_num, Val.num.injEq]
      · rw [h4]
        -- a guarded `+=` and the model's guarded summand vanish together when the arm is 0
        by_cases hT0 : a.top = 0 <;> by_cases hB0 : a.bot = 0 <;>
          simp only [hT0, hB0, Int.natCast_eq_zero, Nat.cast_zero, decide_true, decide_false, Bool.not_true, Bool.not_false,
            Bool.false_eq_true, if_false, if_true, not_true_eq_false, not_false_eq_true, ne_eq, C06Kernels.vadd_num, Val.num.injEq] <;>
          ring_up_to_casts
  refine ⟨(⟨L.2.1, P.H, P.W⟩, ⟨L.2.2, P.H, P.W⟩), ?_, rfl, rfl, rfl, rfl, ?_⟩
  · have h0 : ((P.H : Int) ≥ 0) ∧ ((P.W : Int) ≥ 0) := ⟨by omega, by omega⟩
    simp [key.1, h0]
  · intro y x hy hx
    exact ⟨done_final key.2.1 y x hy hx, done_final key.2.2 y x hy hx⟩

/-- **The chain `cbca_step_1 → 2 → 3 → 4` of the source, each kernel fed the arrays and shapes the previous ones returned,
    computes the hand model's `step4` and `sum4 - 1`**; no kernel reads or writes outside an array. -/
theorem cbcaSteps_generated_chain (P : Plane) (hH : 1 ≤ P.H) (n : Nat) (rc rcr : Int → Int)
    (hw : Wired P n rc rcr) (hin : ArmsIn P.H P.W P.armsL) :
    ∃ r1 r2 r3 r4,
      cbcaStep1 (embV P.cv) P.H P.W = .ok r1 ∧
      cbcaStep2 r1.get r1.n0 r1.n1 (embA P.armsL) P.H P.W 4 (embA P.armsR) P.H P.Wr 4 rc n rcr n = .ok r2 ∧
      cbcaStep3 r2.1.get r2.1.n0 r2.1.n1 = .ok r3 ∧
      cbcaStep4 r3.get r3.n0 r3.n1 r2.2.get r2.2.n0 r2.2.n1 (embA P.armsL) P.H P.W 4 (embA P.armsR) P.H P.Wr 4 rc n rcr n
        = .ok r4 ∧
      ∀ y x : Nat, y < P.H → x < P.W →
        r4.1.get y x = Val.num (step4 P y x) ∧ r4.2.get y x = Val.num (((sum4 P y x : Nat) : Rat) - 1) := by
  obtain ⟨r1, e1, a0, a1, c1⟩ := cbcaStep1_generated_eq P.H P.W P.cv (embV P.cv) (fun y x _ _ => by simp [embV])
  rw [a0, a1] at c1
  obtain ⟨r2, e2, b0, b1, b2, b3, c2⟩ := cbcaStep2_generated_eq P n rc rcr r1.get c1 hw hin
  obtain ⟨r3, e3, d0, d1, c3⟩ := cbcaStep3_generated_eq P hH r2.1.get (fun y x hy hx => (c2 y x hy hx).1)
  rw [d0, d1] at c3
  obtain ⟨r4, e4, _, _, _, _, c4⟩ := cbcaStep4_generated_eq P n rc rcr r3.get r2.2.get c3
    (fun y x hy hx => (c2 y x hy hx).2) hw hin
  exact ⟨r1, r2, r3, r4, e1, by rw [a0, a1]; exact e2, by rw [b0, b1]; exact e3,
    by rw [d0, d1, b2, b3]; exact e4, c4⟩

/-- a `2 × 3` plane at disparity `-1` (columns 1, 2 face the right columns 0, 1), one NaN cost -/
def exP : Plane :=
  { H := 2, W := 3, Wr := 3, d := -1
    cv := fun y x => if y = 0 ∧ x = 1 then Val.nan else Val.num ((y : Rat) + 2 * x + 1)
    armsL := fun y x => ⟨min x 1, min (2 - x) 1, y, 1 - y⟩
    armsR := fun y x => ⟨x, 2 - x, y, 1 - y⟩ }

example : ArmsIn exP.H exP.W exP.armsL := armsIn_of (by decide +kernel)

example : Wired exP 2 (fun t => t + 1) (fun t => t) where
  facing := by
    intro t ht
    have : t = 0 ∨ t = 1 := by omega
    rcases this with rfl | rfl
    · exact ⟨1, 0, rfl, by decide, by decide +kernel, rfl, by decide⟩
    · exact ⟨2, 1, rfl, by decide, by decide +kernel, rfl, by decide⟩
  once := by intro t t' _ _ h; simpa using h
  all := by
    intro x hx hne
    have : x = 0 ∨ x = 1 ∨ x = 2 := by have : x < 3 := hx; omega
    rcases this with rfl | rfl | rfl
    · exact absurd (by decide +kernel) hne
    · exact ⟨0, by decide, rfl⟩
    · exact ⟨1, by decide, rfl⟩

end Pandora.C11KernelsSteps
