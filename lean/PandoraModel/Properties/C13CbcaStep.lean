/-
  C13 — cross-based cost aggregation as a `Local`, `Equivariant` step on partial images (clipped cones).

  For a partial image `a` (scene cell and cost row per pixel, `none` = outside the image) and a pixel `p`, the WINDOW is
  the cone of `p` clipped where the image stops: `u` rows are available above `p` (at most `Rv`), `dn` below, `l`
  columns to the left (at most `Rv + (−gmin)⁺`), `r` to the right (at most `Rv + gmax⁺`).  The window is a `Cbca.Input`
  of size `(u + 1 + dn) × (l + 1 + r)` and the step returns the prescribed aggregated costs (`specAgg`) of its pixel
  `(u, l)`: the border rules are those of the model itself, applied to the window.  On arrays the step IS
  `Cbca.aggregate`, for every size: the window of an array pixel is a crop of the array.
-/
import PandoraModel.Properties.C13CbcaClip
import PandoraModel.Properties.C13Pipeline

namespace Pandora.C13
open Pandora.Locality

/-- the configuration of the aggregation step (what is not per pixel): `offset_row_col`, `cbca_distance`,
    `cbca_intensity`, `subpix`, the minimum rule, the masks' conventions, the disparity samples (`n` of them, all in
    `[gmin, gmax]`) -/
structure CbcaParams where
  off : Nat
  dist : Nat
  I : Rat
  subpix : Nat
  mr : Cbca.MinRule
  hasMskL : Bool
  validL : Int
  hasMskR : Bool
  validR : Int
  disp : Nat → Rat
  n : Nat
  gmin : Int
  gmax : Int

/-- rows: the longest arm, plus the margin (or the 3×3 pre-filter when there is no margin) -/
def cbcaRv (Q : CbcaParams) : Nat := armBound Q.dist + max 1 Q.off

/-- **the cone of cross-based aggregation as a stand-alone step** -/
def cbcaCone (Q : CbcaParams) : Cone :=
  ⟨cbcaRv Q, cbcaRv Q, cbcaRv Q + (-Q.gmin).toNat, cbcaRv Q + Q.gmax.toNat⟩

/-- what the step reads at a pixel: the scene cell (images, masks) and the pixel's cost row -/
abbrev CbcaCell := McCell × List Val

/-- the image seen from a pixel: offset ↦ cell -/
abbrev View := Int → Int → Option CbcaCell

def view (a : Locality.Img CbcaCell) (p : Px) : View := fun di dj => a (p.1 + di, p.2 + dj)

def avail (f : Nat → Bool) : Nat → Nat
  | 0 => 0
  | n + 1 => avail f n + (if f (n + 1) then 1 else 0)

theorem avail_le (f : Nat → Bool) : ∀ n, avail f n ≤ n := by
  intro n
  induction n with
  | zero => simp [avail]
  | succ n ih => unfold avail; split <;> omega

theorem avail_congr (f g : Nat → Bool) : ∀ n, (∀ k, 1 ≤ k → k ≤ n → f k = g k) → avail f n = avail g n := by
  intro n
  induction n with
  | zero => intro _; rfl
  | succ n ih =>
    intro h
    unfold avail
    rw [ih (fun k h1 h2 => h k h1 (by omega)), h (n + 1) (by omega) (by omega)]

theorem avail_eq_min (f : Nat → Bool) (m : Nat) :
    ∀ n, (∀ k, 1 ≤ k → k ≤ n → (f k = true ↔ k ≤ m)) → avail f n = min n m := by
  intro n
  induction n with
  | zero => intro _; simp [avail]
  | succ n ih =>
    intro h
    unfold avail
    rw [ih (fun k h1 h2 => h k h1 (by omega))]
    have := h (n + 1) (by omega) (by omega)
    by_cases hm : n + 1 ≤ m
    · rw [if_pos (this.2 hm)]; omega
    · rw [if_neg (fun hf => hm (this.1 hf))]; omega

/-- rows available above the pixel, at most `Rv`; `vDn`, `vLf`, `vRt`: below, columns to the left (at most
    `Rv + (−gmin)⁺`), to the right (at most `Rv + gmax⁺`) -/
def vUp (Q : CbcaParams) (v : View) : Nat := avail (fun k => (v (-(k : Int)) 0).isSome) (cbcaRv Q)
def vDn (Q : CbcaParams) (v : View) : Nat := avail (fun k => (v (k : Int) 0).isSome) (cbcaRv Q)
def vLf (Q : CbcaParams) (v : View) : Nat :=
  avail (fun k => (v 0 (-(k : Int))).isSome) (cbcaRv Q + (-Q.gmin).toNat)
def vRt (Q : CbcaParams) (v : View) : Nat := avail (fun k => (v 0 (k : Int)).isSome) (cbcaRv Q + Q.gmax.toNat)

/-- cell `(i, j)` of the `H × W` window whose cell `(u, l)` is the pixel; nothing is read outside the window -/
def winCell (v : View) (u l H W i j : Nat) : Option CbcaCell :=
  if i < H ∧ j < W then v ((i : Int) - u) ((j : Int) - l) else none

def winScene (v : View) (u l H W i j : Nat) : McCell :=
  match winCell v u l H W i j with
  | some c => c.1
  | none => ⟨0, 0, 0, 0, 0, 0⟩

def winCv (v : View) (u l H W i j dsp : Nat) : Val :=
  match winCell v u l H W i j with
  | some c => c.2.getD dsp .nan
  | none => .nan

def mkInp (Q : CbcaParams) (H W : Nat) (sc : Nat → Nat → McCell) (cv : Nat → Nat → Nat → Val) : Cbca.Input where
  H := H
  W := W
  off := Q.off
  imL := fun i j => (sc i j).l
  hasMskL := Q.hasMskL
  mskL := fun i j => (sc i j).ml
  validL := Q.validL
  imR := fun i j => (sc i j).r
  hasMskR := Q.hasMskR
  mskR := fun i j => (sc i j).mr
  validR := Q.validR
  dist := Q.dist
  I := Q.I
  subpix := Q.subpix
  disp := Q.disp
  cv := cv
  mr := Q.mr

def windowInput (Q : CbcaParams) (v : View) : Cbca.Input :=
  mkInp Q (vUp Q v + 1 + vDn Q v) (vLf Q v + 1 + vRt Q v)
    (winScene v (vUp Q v) (vLf Q v) (vUp Q v + 1 + vDn Q v) (vLf Q v + 1 + vRt Q v))
    (winCv v (vUp Q v) (vLf Q v) (vUp Q v + 1 + vDn Q v) (vLf Q v + 1 + vRt Q v))

/-- the aggregated cost row of the pixel the view is taken from -/
def cbcaAt (Q : CbcaParams) (v : View) : List Val :=
  (List.range Q.n).map fun dsp => specAgg (windowInput Q v) (vUp Q v) (vLf Q v) dsp

/-- **Cross-based cost aggregation on partial images.** -/
def cbcaStep (Q : CbcaParams) : AggStep := fun a p => (a p).map fun _ => cbcaAt Q (view a p)

def InView (Q : CbcaParams) (di dj : Int) : Prop :=
  -(cbcaRv Q : Int) ≤ di ∧ di ≤ cbcaRv Q ∧ -((cbcaRv Q + (-Q.gmin).toNat : Nat) : Int) ≤ dj ∧
    dj ≤ ((cbcaRv Q + Q.gmax.toNat : Nat) : Int)

/-- a scene cell without its disparity-interval fields, which the step does not read -/
def stripMc (m : McCell) : McCell := ⟨m.l, m.r, m.ml, m.mr, 0, 0⟩

/-- the scene of an input of the model as an array of cells (the disparity interval fields of `McCell` are not read) -/
def cbcaScene (inp : Cbca.Input) (n : Nat) : Nat → Nat → CbcaCell := fun y x =>
  (⟨inp.imL y x, inp.imR y x, inp.mskL y x, inp.mskR y x, 0, 0⟩, (List.range n).map (inp.cv y x))

def cbcaParamsOf (inp : Cbca.Input) (n : Nat) (gmin gmax : Int) : CbcaParams :=
  ⟨inp.off, inp.dist, inp.I, inp.subpix, inp.mr, inp.hasMskL, inp.validL, inp.hasMskR, inp.validR, inp.disp, n,
    gmin, gmax⟩

theorem cropOf_mkInp (inp : Cbca.Input) (n : Nat) (gmin gmax : Int) (H' W' ty tx : Nat) (sc : Nat → Nat → McCell)
    (cv : Nat → Nat → Nat → Val) (fitH : ty + H' ≤ inp.H) (fitW : tx + W' ≤ inp.W)
    (h : ∀ i j, i < H' → j < W' → stripMc (sc i j) = (cbcaScene inp n (i + ty) (j + tx)).1) :
    CropOf inp (mkInp (cbcaParamsOf inp n gmin gmax) H' W' sc cv) ty tx :=
  ⟨rfl, rfl, rfl, rfl, rfl, rfl, rfl, rfl, rfl, fitH, fitW,
    fun i j hi hj => congrArg McCell.l (h i j hi hj), fun i j hi hj => congrArg McCell.ml (h i j hi hj),
    fun i j hi hj => congrArg McCell.r (h i j hi hj), fun i j hi hj => congrArg McCell.mr (h i j hi hj)⟩

/-- the window with `u` rows above the pixel, `dn` below, `l` columns to the left and `r` to the right -/
def winInp (Q : CbcaParams) (v : View) (u dn l r : Nat) : Cbca.Input :=
  mkInp Q (u + 1 + dn) (l + 1 + r) (winScene v u l (u + 1 + dn) (l + 1 + r)) (winCv v u l (u + 1 + dn) (l + 1 + r))

theorem windowInput_eq (Q : CbcaParams) (v : View) :
    windowInput Q v = winInp Q v (vUp Q v) (vDn Q v) (vLf Q v) (vRt Q v) := rfl

theorem winInp_pixel (Q : CbcaParams) (v : View) (u dn l r : Nat) :
    u < (winInp Q v u dn l r).H ∧ l < (winInp Q v u dn l r).W :=
  ⟨Nat.lt_of_lt_of_le (Nat.lt_succ_self u) (Nat.le_add_right _ _),
    Nat.lt_of_lt_of_le (Nat.lt_succ_self l) (Nat.le_add_right _ _)⟩

theorem inView_iff (Q : CbcaParams) (p : Px) (di dj : Int) :
    inCone (cbcaCone Q) p (p.1 + di, p.2 + dj) ↔ InView Q di dj := by
  unfold InView inCone cbcaCone
  simp only
  omega

theorem inView_window {Q : CbcaParams} {u dn l r i j : Nat} (bu : u ≤ cbcaRv Q) (bd : dn ≤ cbcaRv Q)
    (bl : l ≤ cbcaRv Q + (-Q.gmin).toNat) (br : r ≤ cbcaRv Q + Q.gmax.toNat) (hi : i < u + 1 + dn)
    (hj : j < l + 1 + r) : InView Q ((i : Int) - u) ((j : Int) - l) := by
  unfold InView
  omega

theorem winScene_congr {v w : View} {u l H W i j : Nat} (hi : i < H) (hj : j < W)
    (h : (v ((i : Int) - u) ((j : Int) - l)).map (fun c => stripMc c.1)
      = (w ((i : Int) - u) ((j : Int) - l)).map (fun c => stripMc c.1)) :
    stripMc (winScene v u l H W i j) = stripMc (winScene w u l H W i j) := by
  unfold winScene winCell
  rw [if_pos ⟨hi, hj⟩, if_pos ⟨hi, hj⟩]
  cases hv : v ((i : Int) - u) ((j : Int) - l) <;> cases hw : w ((i : Int) - u) ((j : Int) - l) <;>
    simp [hv, hw] at h ⊢
  exact h

theorem winCv_congr {v w : View} {u l H W i j : Nat} (hi : i < H) (hj : j < W)
    (h : (v ((i : Int) - u) ((j : Int) - l)).map Prod.snd = (w ((i : Int) - u) ((j : Int) - l)).map Prod.snd)
    (dsp : Nat) : winCv v u l H W i j dsp = winCv w u l H W i j dsp := by
  unfold winCv winCell
  rw [if_pos ⟨hi, hj⟩, if_pos ⟨hi, hj⟩]
  cases hv : v ((i : Int) - u) ((j : Int) - l) <;> cases hw : w ((i : Int) - u) ((j : Int) - l) <;>
    simp [hv, hw] at h ⊢
  rw [h]

/-- **What the step reads, exactly**: "is in the image" and the images and masks of the scene cells inside the cone;
    the cost rows inside the square of radius `armBound dist`.  (The window of `v` is a crop of the window of `w`.) -/
theorem cbcaAt_congr (Q : CbcaParams) (v w : View)
    (h1 : ∀ di dj, InView Q di dj → (v di dj).map (fun c => stripMc c.1) = (w di dj).map (fun c => stripMc c.1))
    (h2 : ∀ di dj : Int, -(armBound Q.dist : Int) ≤ di → di ≤ armBound Q.dist → -(armBound Q.dist : Int) ≤ dj →
      dj ≤ armBound Q.dist → (v di dj).map Prod.snd = (w di dj).map Prod.snd) :
    cbcaAt Q v = cbcaAt Q w := by
  have hs : ∀ di dj, InView Q di dj → (v di dj).isSome = (w di dj).isSome := by
    intro di dj h
    have := congrArg Option.isSome (h1 di dj h)
    simpa using this
  have hu : vUp Q v = vUp Q w := avail_congr _ _ _ fun k _ _ => hs _ _ (by unfold InView; omega)
  have hd : vDn Q v = vDn Q w := avail_congr _ _ _ fun k _ _ => hs _ _ (by unfold InView; omega)
  have hl : vLf Q v = vLf Q w := avail_congr _ _ _ fun k _ _ => hs _ _ (by unfold InView; omega)
  have hr : vRt Q v = vRt Q w := avail_congr _ _ _ fun k _ _ => hs _ _ (by unfold InView; omega)
  have bu : vUp Q w ≤ _ := avail_le _ _
  have bd : vDn Q w ≤ _ := avail_le _ _
  have bl : vLf Q w ≤ _ := avail_le _ _
  have br : vRt Q w ≤ _ := avail_le _ _
  unfold cbcaAt
  rw [windowInput_eq, windowInput_eq, hu, hd, hl, hr]
  generalize vUp Q w = u at *
  generalize vDn Q w = dn at *
  generalize vLf Q w = l at *
  generalize vRt Q w = r at *
  apply List.map_congr_left
  intro dsp _
  refine specAgg_eq_of_full (winInp Q w u dn l r) (winInp Q v u dn l r) ?_ rfl rfl dsp rfl u l
    (winInp_pixel Q v u dn l r).1 (winInp_pixel Q v u dn l r).2 ?_
  · exact cropOf_mkInp (winInp Q w u dn l r) Q.n Q.gmin Q.gmax (u + 1 + dn) (l + 1 + r) 0 0 _ _
      (Nat.le_of_eq (Nat.zero_add _)) (Nat.le_of_eq (Nat.zero_add _))
      fun i j hi hj => winScene_congr hi hj (h1 _ _ (inView_window bu bd bl br hi hj))
  · intro i j hi1 hi2 hj1 hj2 hi hj
    change u - armBound Q.dist ≤ i at hi1
    change i ≤ u + armBound Q.dist at hi2
    change l - armBound Q.dist ≤ j at hj1
    change j ≤ l + armBound Q.dist at hj2
    exact winCv_congr hi hj (h2 _ _ (by omega) (by omega) (by omega) (by omega)) dsp

/-- **The costs are read only inside the square of radius `armBound dist`.** -/
theorem cbcaStep_congr (Q : CbcaParams) (a b : Locality.Img CbcaCell) (p : Px)
    (h1 : ∀ q, inCone (cbcaCone Q) p q → (a q).map Prod.fst = (b q).map Prod.fst)
    (h2 : ∀ q, inCone (Cone.square (armBound Q.dist)) p q → a q = b q) :
    cbcaStep Q a p = cbcaStep Q b p := by
  unfold cbcaStep
  rw [h2 p (inCone_self _ p)]
  congr 1
  funext _
  apply cbcaAt_congr
  · intro di dj hin
    have := congrArg (Option.map stripMc) (h1 (p.1 + di, p.2 + dj) ((inView_iff Q p di dj).2 hin))
    rw [Option.map_map, Option.map_map] at this
    exact this
  · intro di dj h1' h2' h3 h4
    exact congrArg _ (h2 (p.1 + di, p.2 + dj) (by unfold inCone Cone.square; simp only; omega))

theorem cbcaStep_local (Q : CbcaParams) : Local (cbcaCone Q) (cbcaStep Q) := fun a b p hab =>
  cbcaStep_congr Q a b p (fun q hq => congrArg _ (hab q hq)) fun q hq =>
    hab q (inCone_mono (Cone.wide_mono (l := 0) (r := 0) (Nat.le_add_right ..) (Nat.zero_le _) (Nat.zero_le _)) hq)

def stripCell (c : CbcaCell) : CbcaCell := (stripMc c.1, c.2)

/-- **cross-based aggregation does not read the disparity-interval fields of the scene** -/
theorem cbcaStep_strip (Q : CbcaParams) (a b : Locality.Img CbcaCell)
    (h : ∀ q, (a q).map stripCell = (b q).map stripCell) : cbcaStep Q a = cbcaStep Q b := by
  funext p
  unfold cbcaStep
  have hat : cbcaAt Q (view a p) = cbcaAt Q (view b p) := by
    apply cbcaAt_congr
    · intro di dj _
      have := congrArg (Option.map Prod.fst) (h (p.1 + di, p.2 + dj))
      rw [Option.map_map, Option.map_map] at this
      exact this
    · intro di dj _ _ _ _
      have := congrArg (Option.map Prod.snd) (h (p.1 + di, p.2 + dj))
      rw [Option.map_map, Option.map_map] at this
      exact this
  rw [hat]
  have hp := h p
  cases ha : a p <;> cases hb : b p <;> simp [ha, hb] at hp ⊢

theorem view_shift (t : Px) (a : Locality.Img CbcaCell) (p : Px) :
    view (shift t a) p = view a (p.1 + t.1, p.2 + t.2) := by
  funext di dj
  unfold view shift
  congr 1
  ext <;> simp <;> omega

theorem cbcaStep_equivariant (Q : CbcaParams) : Equivariant (cbcaStep Q) := by
  intro t a
  funext p
  unfold cbcaStep
  rw [view_shift]
  rfl

theorem view_toImg {α : Type} (H W : Nat) (sc : Nat → Nat → α) (y x u l i j : Nat) (hu : u ≤ y) (hl : l ≤ x)
    (hi : i + (y - u) < H) (hj : j + (x - l) < W) :
    toImg H W sc ((y : Int) + ((i : Int) - u), (x : Int) + ((j : Int) - l)) = some (sc (i + (y - u)) (j + (x - l))) := by
  have e : (((y : Int) + ((i : Int) - u), (x : Int) + ((j : Int) - l)) : Px)
      = (((i + (y - u) : Nat) : Int), ((j + (x - l) : Nat) : Int)) := by
    ext <;> simp <;> omega
  rw [e, toImg_some _ _ _ _ _ hi hj]

theorem window_sizes (Q : CbcaParams) (H W : Nat) (sc : Nat → Nat → CbcaCell) (y x : Nat) (hy : y < H) (hx : x < W) :
    vUp Q (view (toImg H W sc) ((y : Int), (x : Int))) = min (cbcaRv Q) y ∧
    vDn Q (view (toImg H W sc) ((y : Int), (x : Int))) = min (cbcaRv Q) (H - 1 - y) ∧
    vLf Q (view (toImg H W sc) ((y : Int), (x : Int))) = min (cbcaRv Q + (-Q.gmin).toNat) x ∧
    vRt Q (view (toImg H W sc) ((y : Int), (x : Int))) = min (cbcaRv Q + Q.gmax.toNat) (W - 1 - x) := by
  refine ⟨avail_eq_min _ _ _ fun k _ _ => ?_, avail_eq_min _ _ _ fun k _ _ => ?_,
    avail_eq_min _ _ _ fun k _ _ => ?_, avail_eq_min _ _ _ fun k _ _ => ?_⟩ <;>
  · unfold view
    rw [isSome_toImg]
    unfold InImage
    simp only
    omega

/-- a fractional disparity `d ≤ gmax` (it uses an interpolated right image) has `⌊d⌋ + 1 ≤ gmax` -/
theorem floor_add_frac_le (subpix : Nat) (d : ℚ) (gmax : Int) (h : d ≤ (gmax : ℚ)) :
    d.floor + (fracK (Cbca.iRight subpix d) : Nat) ≤ gmax := by
  have hfl : d.floor ≤ gmax := by
    have := Rat.floor_le d
    have h' : ((d.floor : Int) : ℚ) ≤ (gmax : ℚ) := le_trans this h
    exact_mod_cast h'
  unfold fracK
  split
  · simpa using hfl
  · rename_i hne
    by_contra hcon
    have heq : d.floor = gmax := by push_cast at hcon; omega
    have hd : d = (d.floor : ℚ) := by
      have := Rat.floor_le d
      rw [heq] at this ⊢
      exact le_antisymm h this
    apply hne
    unfold Cbca.iRight
    rw [show d - (d.floor : ℚ) = 0 by linarith]
    simp only [zero_mul]
    decide

theorem win_index {i u dn p n : Nat} (hi : i < u + 1 + dn) (hu : u ≤ p) (hdn : p + dn < n) : i + (p - u) < n := by omega

/-- the window `[y - u, y + dn] × [x - l, x + r]` of an array pixel is a crop of the array's input -/
theorem window_specAgg (inp : Cbca.Input) (n : Nat) (gmin gmax : Int) (y x u dn l r : Nat)
    (hu : u ≤ y) (hl : l ≤ x) (hdn : y + dn < inp.H) (hr : x + r < inp.W) (v : View)
    (hv : ∀ i j, i < u + 1 + dn → j < l + 1 + r →
      v ((i : Int) - u) ((j : Int) - l) = some (cbcaScene inp n (i + (y - u)) (j + (x - l))))
    (dsp : Nat) (hdsp : dsp < n) (s : Sides inp (winInp (cbcaParamsOf inp n gmin gmax) v u dn l r) (y - u) (x - l) dsp u l) :
    specAgg (winInp (cbcaParamsOf inp n gmin gmax) v u dn l r) u l dsp = specAgg inp y x dsp := by
  have hc : CropOf inp (winInp (cbcaParamsOf inp n gmin gmax) v u dn l r) (y - u) (x - l) :=
    cropOf_mkInp inp n gmin gmax (u + 1 + dn) (l + 1 + r) (y - u) (x - l) _ _ (by omega) (by omega)
    (by
      intro i j hi hj
      unfold winScene winCell
      rw [if_pos ⟨hi, hj⟩, hv i j hi hj]
      rfl)
  have key := specAgg_crop_eq_whole inp _ _ _ hc dsp dsp rfl u l (winInp_pixel _ v u dn l r).1
    (winInp_pixel _ v u dn l r).2
    (by
      intro i j _ _ _ _ hi hj
      show winCv _ _ _ _ _ i j dsp = _
      unfold winCv winCell
      change i < u + 1 + dn at hi
      change j < l + 1 + r at hj
      rw [if_pos ⟨hi, hj⟩, hv i j hi hj]
      simp only [cbcaScene]
      simp [List.getD_eq_getElem?_getD, hdsp])
    s
  rw [key, Nat.add_sub_cancel' hu, Nat.add_sub_cancel' hl]

/-- one axis of the window of an array pixel `p < n`, `min R p` cells before it and `min R' (n - 1 - p)` after it: each
    end of the window is the end of the array, or as far as any radius `Rl ≤ R` (`Rh ≤ R'`) asks -/
theorem win_axis {R R' Rl Rh n p : Nat} (hp : p < n) (hl : Rl ≤ R) (hh : Rh ≤ R') :
    min R p ≤ p ∧ p + min R' (n - 1 - p) < n ∧ (p - min R p = 0 ∨ Rl ≤ min R p) ∧
    (p - min R p + (min R p + 1 + min R' (n - 1 - p)) = n ∨ min R p + Rh < min R p + 1 + min R' (n - 1 - p)) := by
  omega

/-- **The step IS the model**, for every array size.  Hypotheses: `nanOutside` for every plane (hypothesis of C11's
    theorem: the costs are NaN where the disparity has no facing column), every sampled disparity in `[gmin, gmax]`. -/
theorem aggregate_is_cbcaStep (inp : Cbca.Input) (n : Nat) (gmin gmax : Int)
    (hN : ∀ dsp, dsp < n → Cbca.nanOutside (inp.plane dsp) = true)
    (hg : ∀ dsp, dsp < n → (gmin : ℚ) ≤ inp.disp dsp ∧ inp.disp dsp ≤ (gmax : ℚ)) :
    toImg inp.H inp.W (fun y x => (List.range n).map (Cbca.aggregate inp y x))
      = cbcaStep (cbcaParamsOf inp n gmin gmax) (toImg inp.H inp.W (cbcaScene inp n)) := by
  apply toImg_eq_of_cells
  · intro y x hyH hxW
    unfold cbcaStep
    rw [toImg_some _ _ _ y x hyH hxW]
    simp only [Option.map_some]
    congr 1
    unfold cbcaAt
    rw [windowInput_eq]
    obtain ⟨eu, ed, el, er⟩ := window_sizes (cbcaParamsOf inp n gmin gmax) inp.H inp.W (cbcaScene inp n) y x hyH hxW
    rw [eu, ed, el, er]
    apply List.map_congr_left
    intro dsp hdsp
    rw [List.mem_range] at hdsp
    rw [aggregate_eq_specAgg inp dsp (hN dsp hdsp)]
    have hfl : gmin ≤ (inp.disp dsp).floor := Rat.le_floor_iff.mpr (hg dsp hdsp).1
    have hfr := floor_add_frac_le inp.subpix (inp.disp dsp) gmax (hg dsp hdsp).2
    obtain ⟨hu, hdn, sT, sB⟩ := win_axis hyH (Nat.le_refl (armBound inp.dist + max 1 inp.off)) (Nat.le_refl _)
    obtain ⟨hl, hr, sL, sR⟩ := win_axis hxW
      (show armBound inp.dist + max 1 inp.off + (-(inp.disp dsp).floor).toNat
        ≤ armBound inp.dist + max 1 inp.off + (-gmin).toNat by omega)
      (show armBound inp.dist + max 1 inp.off
          + ((inp.disp dsp).floor + (fracK (Cbca.iRight inp.subpix (inp.disp dsp)) : Nat)).toNat
        ≤ armBound inp.dist + max 1 inp.off + gmax.toNat by omega)
    rw [← Nat.add_assoc _ (armBound inp.dist)] at sB
    rw [← Nat.add_assoc _ (armBound inp.dist + max 1 inp.off), ← Nat.add_assoc _ (armBound inp.dist)] at sR
    exact window_specAgg inp n gmin gmax y x _ _ _ _ hu hl hdn hr _
      (fun i j hi hj => view_toImg _ _ _ y x _ _ i j hu hl (win_index hi hu hdn) (win_index hj hl hr))
      dsp hdsp ⟨sT, sB, sL, sR⟩
  · intro q hq
    unfold cbcaStep
    rw [toImg_none _ _ _ q hq]
    rfl

theorem cbcaScene_crop (inp inp' : Cbca.Input) (n r0 c0 : Nat) (hc : CropOf inp inp' r0 c0)
    (hcv : ∀ y x dsp, y < inp'.H → x < inp'.W → dsp < n → inp'.cv y x dsp = inp.cv (y + r0) (x + c0) dsp)
    (r c : Nat) (hr : r < inp'.H) (hc' : c < inp'.W) : cbcaScene inp' n r c = cbcaScene inp n (r + r0) (c + c0) := by
  unfold cbcaScene
  rw [hc.imL r c hr hc', hc.imR r c hr hc', hc.mskL r c hr hc', hc.mskR r c hr hc']
  congr 1
  apply List.map_congr_left
  intro dsp hdsp
  exact hcv r c dsp hr hc' (List.mem_range.1 hdsp)

theorem cbcaParamsOf_crop (inp inp' : Cbca.Input) (n : Nat) (gmin gmax : Int) (r0 c0 : Nat)
    (hc : CropOf inp inp' r0 c0) (hdisp : inp'.disp = inp.disp) :
    cbcaParamsOf inp' n gmin gmax = cbcaParamsOf inp n gmin gmax := by
  unfold cbcaParamsOf
  rw [hc.off, hc.dist, hc.I, hc.subpix, hc.mr, hc.hasMskL, hc.validL, hc.hasMskR, hc.validR, hdisp]

/-- **Cross-based aggregation, crop run = whole run on arrays** (the model `Cbca.aggregate` on both sides), through the
    step: every pixel of the crop whose cone `cbcaCone`, clipped to the image, lies in the crop gets the aggregated cost
    row of the whole run. -/
theorem cbca_crop_run_eq_whole (inp inp' : Cbca.Input) (n : Nat) (gmin gmax : Int) (r0 c0 : Nat)
    (hc : CropOf inp inp' r0 c0) (hdisp : inp'.disp = inp.disp)
    (hcv : ∀ y x dsp, y < inp'.H → x < inp'.W → dsp < n → inp'.cv y x dsp = inp.cv (y + r0) (x + c0) dsp)
    (hN : ∀ dsp, dsp < n → Cbca.nanOutside (inp.plane dsp) = true)
    (hN' : ∀ dsp, dsp < n → Cbca.nanOutside (inp'.plane dsp) = true)
    (hg : ∀ dsp, dsp < n → (gmin : ℚ) ≤ inp.disp dsp ∧ inp.disp dsp ≤ (gmax : ℚ))
    (r c : Nat) (hr : r < inp'.H) (hcW : c < inp'.W)
    (hcone : ∀ q, inCone (cbcaCone (cbcaParamsOf inp n gmin gmax)) ((r : Int) + r0, (c : Int) + c0) q →
      InRect r0 c0 inp'.H inp'.W q ∨ ¬ InImage inp.H inp.W q)
    (dsp : Nat) (hdsp : dsp < n) :
    Cbca.aggregate inp' r c dsp = Cbca.aggregate inp (r + r0) (c + c0) dsp := by
  have hcrop := aggregate_is_cbcaStep inp' n gmin gmax hN' (by rw [hdisp]; exact hg)
  rw [cbcaParamsOf_crop inp inp' n gmin gmax r0 c0 hc hdisp] at hcrop
  have h := crop_arr_eq_whole (crop_run_eq_whole (cbcaStep_local (cbcaParamsOf inp n gmin gmax)) (cbcaStep_equivariant _))
    (aggregate_is_cbcaStep inp n gmin gmax hN hg) hcrop (cbcaScene_crop inp inp' n r0 c0 hc hcv)
    ⟨hc.fitH, hc.fitW⟩ r c hr hcW hcone
  exact List.map_inj_left.1 h dsp (List.mem_range.2 hdsp)

/-- **`agg := cbcaStep Q` in the pipeline theorems** -/
theorem pipeline_cbca_crop_eq_whole (C : PipeCfg) (hsp : 0 < C.mc.sp)
    (hn : ∀ j : Nat, j < C.n → C.gmin * (C.mc.sp : Int) + j ≤ C.gmax * (C.mc.sp : Int)) (Q : CbcaParams)
    {flagL : Locality.Img McCell → Locality.Img Nat} {Rf : Cone} (hF : Local Rf flagL) (hFe : Equivariant flagL)
    (doRefine doMedian : Bool)
    {dispR : Locality.Img McCell → Locality.Img Val} {Rr : Cone} (hR : Local Rr dispR) (hRe : Equivariant dispR)
    (V : CrossCheck.Variant) (CP : CrossCheck.Params)
    (ny nx r0 c0 ny' nx' : Nat) (scene : Nat → Nat → McCell) (hfit : r0 + ny' ≤ ny ∧ c0 + nx' ≤ nx) (p : Px)
    (hcone : ∀ q, inCone (pipeCone C (cbcaCone Q) Rf Rr doMedian CP) (p.1 + r0, p.2 + c0) q →
      InRect r0 c0 ny' nx' q ∨ ¬ InImage ny nx q) :
    ccStage C (cbcaStep Q) flagL doRefine doMedian dispR V CP (toImg ny' nx' (cropArr r0 c0 scene)) p
      = ccStage C (cbcaStep Q) flagL doRefine doMedian dispR V CP (toImg ny nx scene) (p.1 + r0, p.2 + c0) :=
  pipeline_crop_eq_whole C ⟨hsp, hn⟩ (cbcaStep_local Q) (cbcaStep_equivariant Q) hF hFe doRefine doMedian hR hRe V CP
    ny nx r0 c0 ny' nx' scene hfit p hcone

theorem filter_cbca_crop_eq_whole (C : PipeCfg) (hsp : 0 < C.mc.sp)
    (hn : ∀ j : Nat, j < C.n → C.gmin * (C.mc.sp : Int) + j ≤ C.gmax * (C.mc.sp : Int)) (Q : CbcaParams)
    {flagL : Locality.Img McCell → Locality.Img Nat} {Rf : Cone} (hF : Local Rf flagL) (hFe : Equivariant flagL)
    (doRefine doMedian : Bool)
    (ny nx r0 c0 ny' nx' : Nat) (scene : Nat → Nat → McCell) (hfit : r0 + ny' ≤ ny ∧ c0 + nx' ≤ nx) (p : Px)
    (hcone : ∀ q, inCone (filterCone C (cbcaCone Q) Rf doMedian) (p.1 + r0, p.2 + c0) q →
      InRect r0 c0 ny' nx' q ∨ ¬ InImage ny nx q) :
    filterStage C (cbcaStep Q) flagL doRefine doMedian (toImg ny' nx' (cropArr r0 c0 scene)) p
      = filterStage C (cbcaStep Q) flagL doRefine doMedian (toImg ny nx scene) (p.1 + r0, p.2 + c0) :=
  filter_crop_eq_whole C ⟨hsp, hn⟩ (cbcaStep_local Q) (cbcaStep_equivariant Q) hF hFe doRefine doMedian
    ny nx r0 c0 ny' nx' scene hfit p hcone

/-- the cone of `[matching cost; cbca]`: the scene inside `cbcaCone`, the costs — hence the scene inside the
    matching-cost cone — of the pixels within `armBound dist` -/
def cbcaCostCone (C : PipeCfg) (Q : CbcaParams) : Cone :=
  (cbcaCone Q).sup ((mcCone C.mc C.gmin C.gmax).add (Cone.square (armBound Q.dist)))

/-- **Matching cost followed by cross-based aggregation**: the cone is smaller than the sum `mcCone + cbcaCone` given by
    `costStage_local`, the costs being read within `armBound` only. -/
theorem costStage_cbca_local (C : PipeCfg) (hs : C.SamplesOK) (Q : CbcaParams) :
    Local (cbcaCostCone C Q) (costStage C (cbcaStep Q)) := by
  intro a b p hab
  unfold costStage
  apply cbcaStep_congr
  · intro q hq
    have hq' : a q = b q := hab q (inCone_mono (Cone.le_sup_left ..) hq)
    rw [pairStep_id_fst _ a q (mcStage_isSome C a q), pairStep_id_fst _ b q (mcStage_isSome C b q), hq']
  · intro q hq
    have hl := Local.pair (id_local (α := McCell))
      (Local.map (mcRowStep_local C.mc hs.sp_pos C.gmin C.gmax C.n hs.le_gmax) (List.map C.ev))
    apply hl
    intro r hr
    -- the cost rows are read within `armBound` of the cone of the matching cost: the second half of `cbcaCostCone`
    exact hab r (inCone_mono
      (Cone.le_trans (Cone.add_le_add (Cone.sup_le (Cone.zero_le _) (Cone.le_refl _)) (Cone.le_refl _))
        (Cone.le_sup_right ..))
      (inCone_add hq hr))

theorem cbcaCone_le (Q : CbcaParams) :
    Cone.le (cbcaCone Q) ⟨Q.off + armBound Q.dist + 1, Q.off + armBound Q.dist + 1,
      Q.off + armBound Q.dist + 1 + (-Q.gmin).toNat, Q.off + armBound Q.dist + 1 + Q.gmax.toNat⟩ :=
  Cone.wide_mono (show cbcaRv Q ≤ Q.off + armBound Q.dist + 1 by unfold cbcaRv; omega) (Nat.le_refl _) (Nat.le_refl _)

/-- **The documented composed cone `w/2 + armBound dist + 1`** (`offset_row_col = w/2`; columns extended by the interval) -/
theorem cbcaCostCone_documented (C : PipeCfg) (Q : CbcaParams) (hoff : Q.off = MC.half C.mc.w)
    (hmin : Q.gmin = C.gmin) (hmax : Q.gmax = C.gmax) :
    Cone.le (cbcaCostCone C Q)
      ⟨MC.half C.mc.w + armBound Q.dist + 1, MC.half C.mc.w + armBound Q.dist + 1,
       MC.half C.mc.w + armBound Q.dist + 1 + (-C.gmin).toNat, MC.half C.mc.w + armBound Q.dist + 1 + C.gmax.toNat⟩ := by
  rw [cbcaCostCone, mcCone_add_square, ← hoff, ← hmin, ← hmax]
  exact Cone.sup_le (cbcaCone_le Q) (Cone.wide_mono (Nat.le_succ _) (Nat.le_refl _) (Nat.le_refl _))

/-- `cbcaStep_congr` on arrays -/
theorem cbcaStep_costs_outside_irrelevant (Q : CbcaParams) (inp : Cbca.Input) (cv2 : Nat → Nat → Nat → Val) (n y x : Nat)
    (h : ∀ i j dsp : Nat, (y : Int) - armBound Q.dist ≤ i → (i : Int) ≤ y + armBound Q.dist →
      (x : Int) - armBound Q.dist ≤ j → (j : Int) ≤ x + armBound Q.dist → inp.cv i j dsp = cv2 i j dsp) :
    cbcaStep Q (toImg inp.H inp.W (cbcaScene inp n)) ((y : Int), (x : Int))
      = cbcaStep Q (toImg inp.H inp.W (cbcaScene { inp with cv := cv2 } n)) ((y : Int), (x : Int)) := by
  apply cbcaStep_congr
  · intro q _
    rw [map_toImg, map_toImg]
    rfl
  · intro q hq
    unfold inCone Cone.square at hq
    simp only at hq
    unfold toImg
    by_cases hq' : 0 ≤ q.1 ∧ q.1 < inp.H ∧ 0 ≤ q.2 ∧ q.2 < inp.W
    · rw [if_pos hq', if_pos hq']
      unfold cbcaScene
      congr 2
      apply List.map_congr_left
      intro dsp _
      exact h q.1.toNat q.2.toNat dsp (by omega) (by omega) (by omega) (by omega)
    · rw [if_neg hq', if_neg hq']

/-- the configuration of the 6 × 8 scene of `C13Cbca` (distance 2, no margin, one disparity sample `0`):
    `armBound = 1`, cone of radius 2 -/
example : cbcaCone (cbcaParamsOf exWhole 1 0 0) = ⟨2, 2, 2, 2⟩ := by decide

/-- a margin of 2 and the interval `[-3, 1]`: rows `armBound + 2`, columns extended by the interval -/
example : cbcaCone ⟨2, 3, 5, 1, .loopVar, false, 0, false, 0, fun _ => 0, 5, -3, 1⟩ = ⟨4, 4, 7, 5⟩ := by decide

theorem exWhole_nanOutside : ∀ dsp, dsp < 1 → Cbca.nanOutside (exWhole.plane dsp) = true := by
  intro dsp h
  have : dsp = 0 := by omega
  subst this
  decide +kernel

theorem exWhole_interval : ∀ dsp, dsp < 1 → (((0 : Int) : ℚ) ≤ exWhole.disp dsp ∧ exWhole.disp dsp ≤ ((0 : Int) : ℚ)) := by
  intro dsp _
  show ((0 : Int) : ℚ) ≤ 0 ∧ (0 : ℚ) ≤ ((0 : Int) : ℚ)
  simp

example : toImg 6 8 (fun y x => (List.range 1).map (Cbca.aggregate exWhole y x))
    = cbcaStep (cbcaParamsOf exWhole 1 0 0) (toImg 6 8 (cbcaScene exWhole 1)) :=
  aggregate_is_cbcaStep exWhole 1 0 0 exWhole_nanOutside exWhole_interval

/-- a 4 × 6 crop of the 6 × 8 scene starting at `(0, 2)`: its top side is the image's border -/
def exCrop2 : Cbca.Input :=
  { exWhole with
    H := 4, W := 6
    imL := fun y x => exWhole.imL y (x + 2)
    mskL := fun y x => exWhole.mskL y (x + 2)
    imR := fun y x => exWhole.imR y (x + 2)
    mskR := fun y x => exWhole.mskR y (x + 2)
    cv := fun y x d => exWhole.cv y (x + 2) d }

theorem exCropOf2 : CropOf exWhole exCrop2 0 2 :=
  ⟨rfl, rfl, rfl, rfl, rfl, rfl, rfl, rfl, rfl, by decide, by decide,
   fun _ _ _ _ => rfl, fun _ _ _ _ => rfl, fun _ _ _ _ => rfl, fun _ _ _ _ => rfl⟩

/-- the BORDER pixel `(0, 2)` of the crop (= pixel `(0, 4)` of the scene): its cone `⟨2, 2, 2, 2⟩` clipped to the image lies
    in the crop -/
example : Cbca.aggregate exCrop2 0 2 0 = Cbca.aggregate exWhole (0 + 0) (2 + 2) 0 :=
  cbca_crop_run_eq_whole exWhole exCrop2 1 0 0 0 2 exCropOf2 rfl (fun _ _ _ _ _ _ => rfl)
    exWhole_nanOutside
    (by intro dsp h; have : dsp = 0 := by omega
        subst this; decide +kernel)
    exWhole_interval 0 2 (by decide) (by decide)
    (by
      intro q hq
      have hc : cbcaCone (cbcaParamsOf exWhole 1 0 0) = ⟨2, 2, 2, 2⟩ := by decide
      rw [hc] at hq
      unfold inCone at hq
      simp only at hq
      unfold InRect InImage
      show ((0 : Nat) : Int) ≤ q.1 ∧ q.1 < ((0 : Nat) : Int) + ((4 : Nat) : Int) ∧ ((2 : Nat) : Int) ≤ q.2 ∧
        q.2 < ((2 : Nat) : Int) + ((6 : Nat) : Int) ∨ ¬ (0 ≤ q.1 ∧ q.1 < ((6 : Nat) : Int) ∧ 0 ≤ q.2 ∧ q.2 < ((8 : Nat) : Int))
      omega)
    0 (by decide)

/-- cbca of distance 3, intensity 5, margin `w/2 = 1` for `C13Pipeline.exCfg` -/
def exQ : CbcaParams := ⟨1, 3, 5, 2, .loopVar, false, 0, false, 0, fun j => -1 + (j : ℚ) / 2, 5, -1, 1⟩

example (ny nx r0 c0 ny' nx' : Nat) (scene : Nat → Nat → McCell) (hfit : r0 + ny' ≤ ny ∧ c0 + nx' ≤ nx) (p : Px)
    (hcone : ∀ q, inCone (filterCone exCfg (cbcaCone exQ) Cone.zero true) (p.1 + r0, p.2 + c0) q →
      InRect r0 c0 ny' nx' q ∨ ¬ InImage ny nx q) :
    filterStage exCfg (cbcaStep exQ) (fun a q => (a q).map fun _ => 0) true true (toImg ny' nx' (cropArr r0 c0 scene)) p
      = filterStage exCfg (cbcaStep exQ) (fun a q => (a q).map fun _ => 0) true true (toImg ny nx scene)
          (p.1 + r0, p.2 + c0) :=
  filter_cbca_crop_eq_whole exCfg exCfg_samplesOK.sp_pos exCfg_samplesOK.le_gmax
    exQ (Local.map id_local _) (Equivariant.map id_equivariant _) true true
    ny nx r0 c0 ny' nx' scene hfit p hcone

example : cbcaCone exQ = ⟨3, 3, 4, 4⟩ := by decide
example : cbcaCostCone exCfg exQ = ⟨3, 3, 4, 4⟩ := by decide
example : filterCone exCfg (cbcaCone exQ) Cone.zero true = ⟨5, 5, 7, 7⟩ := by decide

end Pandora.C13
