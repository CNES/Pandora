/-
  C14 — the filling kernels regenerated from the Python source (`Generated/KernelsInterp.lean`, written by
  translator/gen_kernels_interp.py with the statement-level translator translator/pyloops.py + pyloops_ext.py, T14) are
  equal, for every map size, every map, every pixel (and every direction table), to the hand model of
  `Model/Interp.lean` — and never read outside their arrays (`Res.ok`).

  The numpy reductions (`nanmedian`, `argsort(abs)`, `argmax`, `sum(isfinite)`) are named functions on both sides
  (`Model/PyInterp.lean` takes their meaning from `Model/Interp.lean`): modelled, not verified.  What is proved here is
  control flow, indexing, bounds, guards and flag arithmetic.
-/
import PandoraModel.Generated.KernelsInterp
import PandoraModel.Lemmas.InterpFlags
import PandoraModel.Lemmas.InterpOccl
import PandoraModel.Lemmas.PyLoopsRules
import PandoraModel.Lemmas.PyExprRules

-- simp sets list both spellings of an operand, and `mismatchSgm_generated_eq` keeps an alternative for the documented rewrite SH
-- of DESIGN_NOTES/C14.md: on the source as it is the linters call them unused
set_option linter.unusedSimpArgs false
set_option linter.unusedTactic false
set_option linter.unreachableTactic false

namespace Pandora.C14Kernels
open Pandora.Interp Pandora.Flags Pandora.PyLoops Pandora.PyExpr Pandora.PyInterp

/-- the float32 disparity map (`disp[r, c]`), indices as `Int` -/
def embedDisp (m : DMap) : Int → Int → Val := fun i j => m.disp i.toNat j.toNat

/-- the uint16 validity mask -/
def embedFlag (m : DMap) : Int → Int → Int := fun i j => ((m.flag i.toNat j.toNat : Nat) : Int)

theorem embedFlag_nonneg (m : DMap) (i j : Int) : 0 ≤ embedFlag m i j := by
  simp [embedFlag]

theorem reads_inside (m : DMap) {p : Int × Int} (h : m.inside p = true) :
    inb2 m.rows m.cols p.1 p.2 = true
    ∧ get2 (embedFlag m) m.rows m.cols p.1 p.2 = embedFlag m p.1 p.2
    ∧ get2 (embedDisp m) m.rows m.cols p.1 p.2 = m.dispAt p := by
  simp only [DMap.inside, Bool.and_eq_true, decide_eq_true_eq] at h
  obtain ⟨⟨⟨h1, h2⟩, h3⟩, h4⟩ := h
  exact ⟨inb2_of h1 h2 h3 h4, get2_of_nonneg _ _ _ h1 h3, get2_of_nonneg _ _ _ h1 h3⟩

theorem reads_px (m : DMap) {r c : Nat} (hr : r < m.rows) (hc : c < m.cols) :
    inb2 m.rows m.cols r c = true
    ∧ get2 (embedFlag m) m.rows m.cols r c = ((m.flag r c : Nat) : Int)
    ∧ get2 (embedDisp m) m.rows m.cols r c = m.disp r c := by
  have hin : m.inside ((r : Int), (c : Int)) = true := by simp [DMap.inside, hr, hc]
  obtain ⟨h1, h2, h3⟩ := reads_inside m hin
  exact ⟨h1, by simpa [embedFlag] using h2, by simpa [DMap.dispAt] using h3⟩

theorem valid_test (m : DMap) (p : Int × Int) :
    decide (band (embedFlag m p.1 p.2) 963 = 0) = m.validAt p := by
  rw [embedFlag, show (963 : Int) = ((963 : Nat) : Int) from rfl, Bool.eq_iff_iff, decide_eq_true_eq, band_eq_zero_iff]
  simp [DMap.validAt, DMap.valid, pixelInvalid]

/-- One iteration of a scan at position `p`, as both scanning kernels write it (`e`: the four edge comparisons, in any
    order), is the step of the model, and every read is in bounds. -/
theorem scan_iter {σ : Type} (m : DMap) (p : Int × Int) (e : Bool)
    (he : e = true ↔ p.1 < 0 ∨ (m.rows : Int) ≤ p.1 ∨ p.2 < 0 ∨ (m.cols : Int) ≤ p.2) (ok : Bool)
    (atEdge : σ) (found : Bool → Val → σ) (goOn : Bool → σ) :
    (if e = true then atEdge
     else if decide (band (get2 (embedFlag m) m.rows m.cols p.1 p.2) 963 = 0) = true then
       found (ok && (inb2 m.rows m.cols p.1 p.2 && decide (0 ≤ get2 (embedFlag m) m.rows m.cols p.1 p.2))
           && inb2 m.rows m.cols p.1 p.2)
         (get2 (embedDisp m) m.rows m.cols p.1 p.2)
     else goOn (ok && (inb2 m.rows m.cols p.1 p.2 && decide (0 ≤ get2 (embedFlag m) m.rows m.cols p.1 p.2))))
    = if (!m.inside p) = true then atEdge else if m.validAt p = true then found ok (m.dispAt p) else goOn ok := by
  have he' : e = !m.inside p := by
    rw [Bool.eq_iff_iff, he]
    simp only [DMap.inside, Bool.not_eq_true', Bool.and_eq_false_iff, decide_eq_false_iff_not]
    omega
  subst he'
  cases hin : m.inside p
  · rfl
  · obtain ⟨e1, e2, e3⟩ := reads_inside m hin
    simp only [e1, e2, e3, embedFlag_nonneg, valid_test m p, decide_true, Bool.and_true, Bool.not_true,
      Bool.false_eq_true, if_false]

theorem flag_test (f : Nat) (b : Int) (bit : Nat) (hb : b = bit) :
    (!decide (band (f : Int) b = 0)) = ((f &&& bit) != 0) := by
  rw [hb, Bool.eq_iff_iff, Bool.not_eq_true', decide_eq_false_iff_not, band_eq_zero_iff]
  simp

theorem le_of_and_two_pow {f k : Nat} (h : (f &&& 2 ^ k) != 0) : 2 ^ k ≤ f :=
  Nat.ge_two_pow_of_testBit ((C04.and_two_pow_ne_zero f k).symm.trans h)

/-- `out_val -= a` then `out_val |= b`: no negative operand, and the `Nat` word of the model -/
theorem sub_bor (f : Nat) (a b : Int) (an bn : Nat) (ha : a = an) (hb : b = bn) (h : an ≤ f) :
    0 ≤ (f : Int) - a ∧ bor ((f : Int) - a) b = (((f - an) ||| bn : Nat) : Int) := by
  subst ha hb
  refine ⟨by omega, ?_⟩
  rw [show (f : Int) - (an : Int) = ((f - an : Nat) : Int) by omega]
  simp [bor]

/-- `len(range(a, max(nrow, ncol)))` -/
theorem rangeLen_max (m : DMap) (a : Int) (n : Nat) (ha : a = n) :
    rangeLen a (imax (m.cols : Int) (m.rows : Int)) 1 = max m.cols m.rows - n := by
  rw [rangeLen_pos_one, imax_nat, ha]; omega

/-- state of the loop: (all reads inside, the output cell, `tmp_row` = second index, `tmp_col` = first index) -/
theorem forLoop_scanAcc (m : DMap) (d : Int × Int)
    (body : Int → Bool × Val × Int × Int → Bool × (Bool × Val × Int × Int)) (s : Int)
    (h : ∀ (i : Int) (ok : Bool) (out : Val) (tr tc : Int), body i (ok, out, tr, tc) =
      if !m.inside (tc + d.2, tr + d.1) then (true, (ok, Val.nan, tr + d.1, tc + d.2))
      else if m.validAt (tc + d.2, tr + d.1) then (true, (ok, m.dispAt (tc + d.2, tr + d.1), tr + d.1, tc + d.2))
      else (false, (ok, out, tr + d.1, tc + d.2))) :
    ∀ (n : Nat) (i : Int) (ok : Bool) (tr tc : Int),
      (forLoop body s n i (ok, Val.num 0, tr, tc)).1 = ok
      ∧ (forLoop body s n i (ok, Val.num 0, tr, tc)).2.1 = scanAcc m d n (tc, tr) := by
  intro n
  induction n with
  | zero => intro i ok tr tc; simp [forLoop, scanAcc]
  | succ n ih =>
    intro i ok tr tc
    simp only [forLoop, h, scanAcc]
    by_cases hin : m.inside (tc + d.2, tr + d.1) = true
    · by_cases hv : m.validAt (tc + d.2, tr + d.1) = true
      · simp [hin, hv]
      · simp only [hin, hv, Bool.not_true, Bool.false_eq_true, if_false]
        exact ih (i + s) ok (tr + d.1) (tc + d.2)
    · simp [hin]

open Pandora.Generated.KernelsInterp

/-- One cell of `find_valid_neighbors` is the model's scan, for every direction table `dirs` of shape `n0 × n1`;
    `Res.ok`: no read outside `dirs`, `disp`, `valid`, no bit operation on a negative number. -/
theorem findValidNeighborsAt_generated_eq (m : DMap) (dirs : Int → Int → Int) (n0 n1 : Int) (r c : Nat) (k : Int)
    (hk0 : 0 ≤ k) (hk : k < n0) (hn1 : 2 ≤ n1) :
    findValidNeighborsAt dirs n0 n1 (embedDisp m) m.rows m.cols (embedFlag m) m.rows m.cols c r k
      = .ok (scanAcc m (dirs k 0, dirs k 1) (max m.cols m.rows) ((r : Int), (c : Int))) := by
  have hd0 : get2 dirs n0 n1 k 0 = dirs k 0 := get2_of_nonneg dirs n0 n1 hk0 (by omega)
  have hd1 : get2 dirs n0 n1 k 1 = dirs k 1 := get2_of_nonneg dirs n0 n1 hk0 (by omega)
  have hi0 : inb2 n0 n1 k 0 = true := inb2_of hk0 hk (by omega) (by omega)
  have hi1 : inb2 n0 n1 k 1 = true := inb2_of hk0 hk (by omega) (by omega)
  simp only [findValidNeighborsAt, forRange, rangeLen_max m 0 0 rfl, Nat.sub_zero]
  rw [(forLoop_scanAcc m (dirs k 0, dirs k 1) _ 1 ?body _ 0 true c r).2,
    (forLoop_scanAcc m (dirs k 0, dirs k 1) _ 1 ?body _ 0 true c r).1]
  · rfl
  case body =>
    intro i ok out tr tc
    simp only [hd0, hd1, hi0, hi1, Bool.and_true]
    refine scan_iter m (tc + dirs k 1, tr + dirs k 0) _ ?_ ok _ (fun b v => (true, b, v, tr + dirs k 0, tc + dirs k 1))
      (fun b => (false, b, out, tr + dirs k 0, tc + dirs k 1))
    -- the edge test, whatever the order of its four comparisons
    simp only [Bool.or_eq_true, decide_eq_true_eq]
    omega

theorem collectFrom_ok {α : Type} (f : Int → Res α) (g : Int → α) :
    ∀ (n s : Nat), (∀ j : Nat, s ≤ j → j < s + n → f (j : Int) = .ok (g (j : Int))) →
      collectFrom f n (s : Int) = .ok ((List.range' s n).map fun (j : Nat) => g (j : Int)) := by
  intro n
  induction n with
  | zero => intro s _; simp [collectFrom]
  | succ n ih =>
    intro s h
    have h0 := h s (Nat.le_refl s) (by omega)
    have h1 := ih (s + 1) (fun j hj1 hj2 => h j (by omega) (by omega))
    rw [show (((s + 1 : Nat) : Int)) = (s : Int) + 1 by push_cast; rfl] at h1
    simp only [collectFrom, h0, h1, List.range'_succ, List.map_cons]

theorem collect_ok {α : Type} (f : Int → Res α) (g : Int → α) (n : Nat)
    (h : ∀ j : Nat, j < n → f (j : Int) = .ok (g (j : Int))) :
    collect n f = .ok ((List.range n).map fun (j : Nat) => g (j : Int)) := by
  have := collectFrom_ok f g n 0 (fun j _ hj => h j (by omega))
  simp only [Nat.cast_zero] at this
  simp only [collect, this, List.range_eq_range']

theorem findValidNeighbors_generated_eq_table (m : DMap) (dirs : Int → Int → Int) (n0 n1 : Int) (r c : Nat)
    (h8 : 8 ≤ n0) (hn1 : 2 ≤ n1) :
    Generated.KernelsInterp.findValidNeighbors dirs n0 n1 (embedDisp m) m.rows m.cols (embedFlag m) m.rows m.cols c r
      = .ok ((List.range 8).map fun (k : Nat) =>
          scanAcc m (dirs k 0, dirs k 1) (max m.cols m.rows) ((r : Int), (c : Int))) := by
  unfold Generated.KernelsInterp.findValidNeighbors
  exact collect_ok _ (fun k => scanAcc m (dirs k 0, dirs k 1) (max m.cols m.rows) ((r : Int), (c : Int))) 8
    (fun j hj => findValidNeighborsAt_generated_eq m dirs n0 n1 r c j (by omega) (by omega) hn1)

/-- the direction table of the sgm kernels, as the literal `np.array([[0, 1], …])` is translated -/
def sgmDirs : List (List Int) := [[0, 1], [-1, 1], [-1, 0], [-1, -1], [0, -1], [1, -1], [1, 0], [1, 1]]

theorem findValidNeighbors_generated_eq (m : DMap) (r c : Nat) :
    Generated.KernelsInterp.findValidNeighbors (tab2 0 sgmDirs) 8 2 (embedDisp m) m.rows m.cols (embedFlag m) m.rows m.cols c r
      = .ok (Interp.findValidNeighbors m r c) := by
  rw [findValidNeighbors_generated_eq_table m _ 8 2 r c (by omega) (by omega)]
  rfl

theorem findValidNeighbors_length (m : DMap) (r c : Nat) : (Interp.findValidNeighbors m r c).length = 8 := by
  simp [Interp.findValidNeighbors, dirs8]

/-- `interpolate_occlusion_sgm`; `Res.ok`: every read inside the arrays, every bit operation on non-negative words, the
    call of `find_valid_neighbors` in bounds too. -/
theorem occlusionSgm_generated_eq (m : DMap) (r c : Nat) (hr : r < m.rows) (hc : c < m.cols) :
    occlusionSgmPx (embedDisp m) m.rows m.cols (embedFlag m) m.rows m.cols r c
      = .ok ((occlSgmPixel ⟨true, .or⟩ m r c).1, (((occlSgmPixel ⟨true, .or⟩ m r c).2 : Nat) : Int)) := by
  obtain ⟨ib, gf, gd⟩ := reads_px m hr hc
  have hcall := findValidNeighbors_generated_eq m r c
  simp only [sgmDirs] at hcall
  have hft := flag_test (m.flag r c) 256 256 rfl
  have hlen := findValidNeighbors_length m r c
  simp only [occlusionSgmPx, ib, gf, gd, Int.natCast_nonneg, decide_true, Bool.and_true, hcall, Res.isOk, Res.getD, hft]
  unfold occlSgmPixel
  simp only [show occlusion = 256 from rfl, show filledOcclusion = 16 from rfl]
  by_cases hocc : ((m.flag r c &&& 256) != 0) = true
  · obtain ⟨hnn, hbor⟩ := sub_bor (m.flag r c) 256 16 256 16 rfl rfl (le_of_and_two_pow (k := 8) hocc)
    simp only [hocc, if_true, countFinite, sortedAbsGet, vget, vinb, hlen, hnn, hbor, decide_true, Bool.and_true]
    by_cases hg : (nums (Interp.findValidNeighbors m r c)).length < 2
    · have : ¬ ((nums (Interp.findValidNeighbors m r c)).length : Int) ≥ 2 := by omega
      simp [hg, this]
    · have : ((nums (Interp.findValidNeighbors m r c)).length : Int) ≥ 2 := by omega
      simp [hg, this, secondLowestAbs, raise, inb, wrap, Interp.isort]
  · simp [hocc]

theorem clipIdx_natCast {n a : Nat} (h : a ≤ n) : clipIdx (n : Int) (a : Int) = a := by
  have h1 : ¬ ((a : Int) < 0) := by omega
  have h2 : ¬ ((n : Int) < (a : Int)) := by omega
  simp [clipIdx, h1, h2]

theorem sum_natCast (l : List Nat) (f : Nat → Nat) :
    (((l.map f).sum : Nat) : Int) = (l.map fun x => ((f x : Nat) : Int)).sum := by
  induction l with
  | nil => simp
  | cons x t ih => simp only [List.map_cons, List.sum_cons, Nat.cast_add, ih]

theorem allNonneg2_embedFlag (m : DMap) (n0 n1 lo0 hi0 lo1 hi1 : Int) :
    allNonneg2 (embedFlag m) n0 n1 lo0 hi0 lo1 hi1 = true := by
  simp [allNonneg2, embedFlag_nonneg]

/-- the four bounds of the clipped 3×3 slice are matched by value (`max(0, i-1)`, `min(n-1, i+1) + 1`), not by text -/
theorem sumBand2_eq (m : DMap) (r c : Nat) (lo0 hi0 lo1 hi1 : Int) (hr : r < m.rows) (hc : c < m.cols)
    (e0 : lo0 = ((r - 1 : Nat) : Int)) (e1 : hi0 = ((min (m.rows - 1) (r + 1) + 1 : Nat) : Int))
    (e2 : lo1 = ((c - 1 : Nat) : Int)) (e3 : hi1 = ((min (m.cols - 1) (c + 1) + 1 : Nat) : Int)) :
    sumBand2 (embedFlag m) m.rows m.cols lo0 hi0 lo1 hi1 256 = ((occlusionSum3x3 m r c : Nat) : Int) := by
  subst e0 e1 e2 e3
  have h256 : (256 : Int) = ((256 : Nat) : Int) := rfl
  simp only [sumBand2, sliceIdx, occlusionSum3x3, occlusion,
    clipIdx_natCast (show r - 1 ≤ m.rows by omega), clipIdx_natCast (show min (m.rows - 1) (r + 1) + 1 ≤ m.rows by omega),
    clipIdx_natCast (show c - 1 ≤ m.cols by omega), clipIdx_natCast (show min (m.cols - 1) (c + 1) + 1 ≤ m.cols by omega)]
  rw [sum_natCast]
  congr 1
  apply List.map_congr_left
  intro i _
  rw [sum_natCast]
  congr 1

/-- `interpolate_mismatch_sgm` -/
theorem mismatchSgm_generated_eq (m : DMap) (r c : Nat) (hr : r < m.rows) (hc : c < m.cols) :
    mismatchSgmPx (embedDisp m) m.rows m.cols (embedFlag m) m.rows m.cols r c
      = .ok ((mismSgmPixel ⟨true, .or⟩ m r c).1, (((mismSgmPixel ⟨true, .or⟩ m r c).2 : Nat) : Int)) := by
  obtain ⟨ib, gf, gd⟩ := reads_px m hr hc
  have hcall := findValidNeighbors_generated_eq m r c
  simp only [sgmDirs] at hcall
  have hft := flag_test (m.flag r c) 512 512 rfl
  simp only [mismatchSgmPx, ib, gf, gd, Int.natCast_nonneg, decide_true, Bool.and_true, hcall, Res.isOk, Res.getD,
    allNonneg2_embedFlag, hft]
  rw [sumBand2_eq m r c _ _ _ _ hr hc ?e0 ?e1 ?e2 ?e3]
  · unfold mismSgmPixel
    simp only [show mismatch = 512 from rfl, show occlusion = 256 from rfl, show filledMismatch = 32 from rfl]
    by_cases hmis : ((m.flag r c &&& 512) != 0) = true
    · have hle : 512 ≤ m.flag r c := le_of_and_two_pow (k := 9) hmis
      obtain ⟨hnn, hbor1⟩ := sub_bor (m.flag r c) 512 256 512 256 rfl rfl hle
      have hbor2 := (sub_bor (m.flag r c) 512 32 512 32 rfl rfl hle).2
      simp only [hmis, if_true, hnn, decide_true, Bool.and_true, hbor1, hbor2]
      by_cases hs : occlusionSum3x3 m r c = 0
      · by_cases hg : (nums (Interp.findValidNeighbors m r c)).isEmpty = true
        · simp [hs, hg, anyFinite]
        · simp [hs, hg, anyFinite, PyInterp.nanmedian, raise]
      · have : ¬ (((occlusionSum3x3 m r c : Nat) : Int) = 0) := by exact_mod_cast hs
        simp [hs, this, raise]
    · simp [hmis]
  -- the four bounds of the clipped window: the clamps of `PyExprRules` (`max` / `min` written either way round); the second
  -- alternative serves the documented rewrite SH of DESIGN_NOTES/C14.md (`min(col + 2, ncol)`: the same value, another text);
  -- `omega` alone would do all four goals but is slow on `min` / `max`
  all_goals first
    | (simp only [Nat.cast_add, Nat.cast_one, imax_pred, imax_pred', imin_succ _ _ (Nat.zero_lt_of_lt hr),
        imin_succ' _ _ (Nat.zero_lt_of_lt hr), imin_succ _ _ (Nat.zero_lt_of_lt hc), imin_succ' _ _ (Nat.zero_lt_of_lt hc)]; done)
    | (simp only [imax_eq_max, imin_eq_min]; omega)

/-- `(valid[r, a:b] & INVALID) == 0`; the index and the two bounds are matched by value -/
theorem rowMask_eq (m : DMap) (r a b : Nat) (i lo hi : Int)
    (ei : i = (r : Int)) (elo : lo = (a : Int)) (ehi : hi = (b : Int)) (hab : a ≤ b) (hb : b ≤ m.cols) :
    rowMaskZero (embedFlag m) m.rows m.cols i lo hi 963 = (List.range' a (b - a)).map fun j => m.valid r j := by
  subst ei elo ehi
  simp only [rowMaskZero, rowSlice, clipIdx_natCast (show a ≤ m.cols by omega), clipIdx_natCast hb, List.map_map,
    wrap_nat]
  apply List.map_congr_left
  intro j _
  have := valid_test m ((r : Int), (j : Int))
  simpa [DMap.validAt] using this

theorem rowNonneg_embedFlag (m : DMap) (n0 n1 i lo hi : Int) : rowNonneg (embedFlag m) n0 n1 i lo hi = true := by
  simp [rowNonneg, rowSlice, embedFlag_nonneg]

theorem argmaxBool_lt (l : List Bool) (h : 0 < l.length) : argmaxBool l < l.length := by
  unfold argmaxBool
  simp only
  split
  · assumption
  · exact h

theorem vget_natCast {α : Type} (d : α) (v : List α) (k : Nat) : vget d v (k : Int) = v.getD k d := by
  simp [vget, wrap_nat]

theorem vinb_natCast {α : Type} (v : List α) (k : Nat) (h : k < v.length) : vinb v (k : Int) = true := by
  simp only [vinb]
  exact inb_nat (Int.ofNat_lt.mpr h)

/-- `out_val -= OCC * found; out_val |= FILLED_OCC * found` on a word carrying the occlusion bit -/
theorem flag_update (f : Nat) (b : Bool) (hle : 256 ≤ f) :
    bor ((f : Int) - 256 * b2i b) (16 * b2i b) = ((raise .or (f - 256 * b2n b) (16 * b2n b) : Nat) : Int)
    ∧ 0 ≤ (f : Int) - 256 * b2i b ∧ (0 : Int) ≤ 16 * b2i b := by
  cases b with
  | true =>
    have := sub_bor f 256 16 256 16 rfl rfl hle
    simp only [b2i, b2n, if_true, Int.mul_one, Nat.mul_one, raise]
    exact ⟨by simpa using this.2, by omega, by omega⟩
  | false =>
    simp [b2i, b2n, raise, bor]

/-- the column index is matched by its value `j`, not by its text (`row + arg_valid`, `arg_valid + row`, …) -/
theorem reads_row (m : DMap) {r j : Nat} (hr : r < m.rows) (hj : j < m.cols) (i : Int) (hi : i = (j : Int)) :
    inb2 m.rows m.cols r i = true ∧ get2 (embedDisp m) m.rows m.cols r i = m.disp r j := by
  subst hi
  obtain ⟨h1, -, h3⟩ := reads_px m hr hj
  exact ⟨h1, h3⟩

/-- `interpolate_occlusion_mc_cnn`; `Res.ok` includes: no `argmax` of an empty mask. -/
theorem occlusionMcCnn_generated_eq (m : DMap) (r c : Nat) (hr : r < m.rows) (hc : c < m.cols) :
    occlusionMcCnnPx (embedDisp m) m.rows m.cols (embedFlag m) m.rows m.cols r c
      = .ok ((occlMcPixel ⟨true, .or⟩ m r c).1, (((occlMcPixel ⟨true, .or⟩ m r c).2 : Nat) : Int)) := by
  obtain ⟨ib, gf, gd⟩ := reads_px m hr hc
  have hrR : inb (m.rows : Int) (r : Int) = true := inb_nat (Int.ofNat_lt.mpr hr)
  have hft := flag_test (m.flag r c) 256 256 rfl
  have hL := rowMask_eq m r 0 (c + 1) (r : Int) 0 ((c : Int) + 1) rfl rfl (by push_cast; rfl) (by omega) (by omega)
  have hR := rowMask_eq m r c m.cols (r : Int) (c : Int) (m.cols : Int) rfl rfl rfl (by omega) (by omega)
  rw [Nat.sub_zero, ← List.range_eq_range'] at hL
  rw [range'_map_shift] at hR
  simp only [occlusionMcCnnPx, ib, gf, gd, hrR, Int.natCast_nonneg, decide_true, Bool.and_true, Bool.true_and,
    rowNonneg_embedFlag, hL, hR, hft]
  unfold occlMcPixel occlMcCore
  simp only [show occlusion = 256 from rfl, show filledOcclusion = 16 from rfl]
  by_cases hocc : ((m.flag r c &&& 256) != 0) = true
  · have hle : 256 ≤ m.flag r c := le_of_and_two_pow (k := 8) hocc
    generalize hLdef : ((List.range (c + 1)).map fun j => m.valid r j).reverse = L
    generalize hRdef : ((List.range (m.cols - c)).map fun k => m.valid r (c + k)) = R
    have hLlen : L.length = c + 1 := by rw [← hLdef]; simp
    have hRlen : R.length = m.cols - c := by rw [← hRdef]; simp
    have haL : argmaxBool L < c + 1 := hLlen ▸ argmaxBool_lt L (hLlen ▸ Nat.succ_pos c)
    have haR : argmaxBool R < m.cols - c := hRlen ▸ argmaxBool_lt R (hRlen ▸ Nat.sub_pos_of_lt hc)
    have hLne : L.isEmpty = false := by cases L with | nil => cases hLlen | cons _ _ => rfl
    have hRne : R.isEmpty = false := by
      cases R with
      | nil => exact absurd (hRlen ▸ Nat.sub_pos_of_lt hc : 0 < ([] : List Bool).length) (Nat.lt_irrefl 0)
      | cons _ _ => rfl
    simp only [hocc, if_true, PyInterp.argmax, hLne, hRne, Bool.not_false, Bool.and_true, vget_natCast,
      vinb_natCast L _ (hLlen ▸ haL), vinb_natCast R _ (hRlen ▸ haR)]
    have hfu := fun b => flag_update (m.flag r c) b hle
    have hrdR := fun (j : Int) (hj : j = (c : Int) + ((argmaxBool R : Nat) : Int)) =>
      reads_row m hr (Nat.add_lt_of_lt_sub' haR) j (hj.trans (Nat.cast_add c _).symm)
    have hrdL := fun (j : Int) (hj : j = (c : Int) - ((argmaxBool L : Nat) : Int)) =>
      reads_row m hr (Nat.lt_of_le_of_lt (Nat.sub_le c _) hc) j (hj.trans (Nat.cast_sub (Nat.lt_succ_iff.mp haL)).symm)
    simp (disch := first | rfl | omega) only [fun b => (hfu b).1, fun b => (hfu b).2.1, fun b => (hfu b).2.2,
      fun j hj => (hrdR j hj).1, fun j hj => (hrdR j hj).2, fun j hj => (hrdL j hj).1, fun j hj => (hrdL j hj).2,
      Int.natCast_eq_zero, decide_true, Bool.and_true, Bool.and_self]
    by_cases ha0 : argmaxBool L = 0 <;> simp [ha0]
  · simp [hocc]

/-- Python `int(q)` of `q = (n / 2) * i` is the hand model's `truncHalf n i` (`Int.tdiv (n * i) 2`) -/
theorem truncRat_half (n i : Int) : truncRat (((n : Rat) / 2) * (i : Rat)) = Int.tdiv (n * i) 2 := by
  rw [truncRat_eq, show ((n : Rat) / 2) * (i : Rat) = ((n * i : Int) : ℚ) / ((2 : Nat) : ℚ) by push_cast; ring]
  exact rtrunc_div (n * i) 2 (by decide)

theorem forLoop_scanLoop (m : DMap) (pos : Nat → Int × Int) (body : Int → Bool × Val → Bool × (Bool × Val))
    (h : ∀ (i : Nat) (ok : Bool) (out : Val), body (i : Int) (ok, out) =
      if !m.inside (pos i) then (true, (ok, Val.nan))
      else if m.validAt (pos i) then (true, (ok, m.dispAt (pos i)))
      else (false, (ok, out))) :
    ∀ (n i : Nat) (ok : Bool), forLoop body 1 n (i : Int) (ok, Val.nan) = (ok, scanLoop Val.nan m pos n i) := by
  intro n
  induction n with
  | zero => intro i ok; simp [forLoop, scanLoop]
  | succ n ih =>
    intro i ok
    simp only [forLoop, h, scanLoop]
    by_cases hin : m.inside (pos i) = true
    · by_cases hv : m.validAt (pos i) = true
      · simp [hin, hv]
      · simp only [hin, hv, Bool.not_true, Bool.false_eq_true, if_false]
        have := ih (i + 1) ok
        rw [show (((i + 1 : Nat)) : Int) = (i : Int) + 1 by push_cast; rfl] at this
        exact this
    · simp [hin]

theorem forRange_scanLoop (m : DMap) (pos : Nat → Int × Int) (b : Int) (body : Int → Bool × Val → Bool × (Bool × Val))
    (h : ∀ (i : Nat) (ok : Bool) (out : Val), body (i : Int) (ok, out) =
      if !m.inside (pos i) then (true, (ok, Val.nan))
      else if m.validAt (pos i) then (true, (ok, m.dispAt (pos i)))
      else (false, (ok, out))) :
    forRange 1 b 1 body (true, Val.nan) = (true, scanLoop Val.nan m pos (rangeLen 1 b 1) 1) := by
  have := forLoop_scanLoop m pos body h (rangeLen 1 b 1) 1 true
  simpa [forRange] using this

/-- the 16 directions of the mc-cnn mismatch kernel, as the literal `np.array([[0.0, 1.0], [-0.5, 1.0], …])` is translated -/
def mcDirs : List (List Rat) :=
  [[(0 : Rat), (1 : Rat)], [((-1 : Rat) / 2), (1 : Rat)], [(-1 : Rat), (1 : Rat)], [(-1 : Rat), ((1 : Rat) / 2)], [(-1 : Rat), (0 : Rat)], [(-1 : Rat), ((-1 : Rat) / 2)], [(-1 : Rat), (-1 : Rat)], [((-1 : Rat) / 2), (-1 : Rat)], [(0 : Rat), (-1 : Rat)], [((1 : Rat) / 2), (-1 : Rat)], [(1 : Rat), (-1 : Rat)], [(1 : Rat), ((-1 : Rat) / 2)], [(1 : Rat), (0 : Rat)], [(1 : Rat), ((1 : Rat) / 2)], [(1 : Rat), (1 : Rat)], [((1 : Rat) / 2), (1 : Rat)]]

/-- every entry of the source's table is half the model's (doubled, integer) `dirs16` entry -/
theorem mcDirs_half (k : Nat) (hk : k < 16) :
    get2 (tab2 (0 : Rat) mcDirs) 16 2 (k : Int) 0 = (((dirs16.getD k (0, 0)).1 : Int) : Rat) / 2
    ∧ get2 (tab2 (0 : Rat) mcDirs) 16 2 (k : Int) 1 = (((dirs16.getD k (0, 0)).2 : Int) : Rat) / 2 := by
  have hall : ∀ k : Nat, k < 16 →
      (mcDirs.getD k []).getD 0 0 = (((dirs16.getD k (0, 0)).1 : Int) : Rat) / 2
      ∧ (mcDirs.getD k []).getD 1 0 = (((dirs16.getD k (0, 0)).2 : Int) : Rat) / 2 := by decide +kernel
  rw [get2_of_nonneg _ _ _ (Int.natCast_nonneg k) (Int.le_refl 0), get2_of_nonneg _ _ _ (Int.natCast_nonneg k) (by decide : (0 : Int) ≤ 1)]
  exact hall k hk

/-- `interpolate_mismatch_mc_cnn` -/
theorem mismatchMcCnn_generated_eq (m : DMap) (r c : Nat) (hr : r < m.rows) (hc : c < m.cols) :
    mismatchMcCnnPx (embedDisp m) m.rows m.cols (embedFlag m) m.rows m.cols r c
      = .ok ((mismMcPixel ⟨true, .or⟩ m r c).1, (((mismMcPixel ⟨true, .or⟩ m r c).2 : Nat) : Int)) := by
  obtain ⟨ib, gf, gd⟩ := reads_px m hr hc
  have hft := flag_test (m.flag r c) 512 512 rfl
  have htab := mcDirs_half
  simp only [mcDirs] at htab
  simp only [mismatchMcCnnPx, ib, gf, gd, Int.natCast_nonneg, decide_true, Bool.and_true, hft]
  -- the 16 scans first: entry `k` of the source's table, times the step `i` and truncated, is `posMc` of the model's doubled direction
  rw [collect_ok _ (fun k => scanLoop Val.nan m (posMc r c (dirs16.getD k.toNat (0, 0))) (max m.cols m.rows - 1) 1) 16 ?cells]
  · have hmap : ((List.range 16).map fun (j : Nat) =>
          (fun (k : Int) => scanLoop Val.nan m (posMc r c (dirs16.getD k.toNat (0, 0))) (max m.cols m.rows - 1) 1) (j : Int))
        = dirs16.map fun d => scanLoop Val.nan m (posMc r c d) (max m.cols m.rows - 1) 1 := by
      simp only [Int.toNat_natCast]
      rfl
    rw [hmap]
    unfold mismMcPixel
    simp only [show mismatch = 512 from rfl, show filledMismatch = 32 from rfl, Res.isOk, Res.getD, Bool.and_true, if_true]
    generalize (dirs16.map fun d => scanLoop Val.nan m (posMc r c d) (max m.cols m.rows - 1) 1) = V
    by_cases hmis : ((m.flag r c &&& 512) != 0) = true
    · obtain ⟨hnn, hbor⟩ := sub_bor (m.flag r c) 512 32 512 32 rfl rfl (le_of_and_two_pow (k := 9) hmis)
      simp only [hmis, if_true, hnn, hbor, decide_true, Bool.and_true]
      by_cases hg : (nums V).isEmpty = true
      · simp [hg, anyFinite]
      · simp [hg, anyFinite, PyInterp.nanmedian, raise]
    · simp [hmis]
  case cells =>
    intro j hj
    obtain ⟨t0, t1⟩ := htab j hj
    have hj0 : (0 : Int) ≤ (j : Int) := Int.natCast_nonneg j
    have hj16 : (j : Int) < 16 := by exact_mod_cast hj
    simp only [Int.toNat_natCast]
    rw [forRange_scanLoop m (posMc r c (dirs16.getD j (0, 0))) _ _ ?body]
    · simp only [rangeLen_max m 1 1 rfl, Bool.and_self, if_true]
    case body =>
      intro i ok out
      simp only [t0, t1, truncRat_half, inb2_of hj0 hj16 (show (0 : Int) ≤ 0 by omega) (show (0 : Int) < 2 by omega),
        inb2_of hj0 hj16 (show (0 : Int) ≤ 1 by omega) (show (1 : Int) < 2 by omega), Bool.and_true, posMc, truncHalf]
      obtain ⟨dr, hdr⟩ : ∃ dr : Int, Int.tdiv ((dirs16.getD j (0, 0)).1 * (i : Int)) 2 = dr := ⟨_, rfl⟩
      obtain ⟨dc, hdc⟩ : ∃ dc : Int, Int.tdiv ((dirs16.getD j (0, 0)).2 * (i : Int)) 2 = dc := ⟨_, rfl⟩
      simp only [hdr, hdc]
      refine scan_iter m ((r : Int) + dc, (c : Int) + dr) _ ?_ ok _ (fun b v => (true, b, v)) (fun b => (false, b, out))
      simp only [Bool.or_eq_true, decide_eq_true_eq]
      omega

/-- `interpolate_nodata_sgm` of pandora/img_tools.py -/
theorem nodataSgm_generated_eq (m : DMap) (r c : Nat) (hr : r < m.rows) (hc : c < m.cols) :
    nodataSgmPx (embedDisp m) m.rows m.cols (embedFlag m) m.rows m.cols r c
      = .ok ((nodataSgmPixel m r c).1, (((nodataSgmPixel m r c).2 : Nat) : Int)) := by
  obtain ⟨ib, gf, gd⟩ := reads_px m hr hc
  have hcall := findValidNeighbors_generated_eq m r c
  simp only [sgmDirs] at hcall
  have hft := flag_test (m.flag r c) 963 963 rfl
  simp only [nodataSgmPx, ib, gf, gd, Int.natCast_nonneg, decide_true, Bool.and_true, hcall, Res.isOk, Res.getD, hft]
  unfold nodataSgmPixel
  simp only [show pixelInvalid = 963 from rfl, show filledNodata = 1024 from rfl]
  by_cases hinv : ((m.flag r c &&& 963) != 0) = true
  · simp [hinv, PyInterp.nanmedian]
  · simp [hinv]

def exMap : DMap :=
  { rows := 3, cols := 3,
    disp := fun r c => if r = 1 ∧ c = 1 then .nan else .num (3 * r + c + 1),
    flag := fun r c => if r = 1 ∧ c = 1 then 256 else if r = 0 ∧ c = 0 then 1 else 0 }

example : Generated.KernelsInterp.findValidNeighbors (tab2 0 sgmDirs) 8 2 (embedDisp exMap) 3 3 (embedFlag exMap) 3 3 1 1
    = .ok [.num 8, .num 7, .num 4, .nan, .num 2, .num 3, .num 6, .num 9] := by decide +kernel
example : Interp.findValidNeighbors exMap 1 1 = [.num 8, .num 7, .num 4, .nan, .num 2, .num 3, .num 6, .num 9] := by
  decide +kernel
example : occlusionSgmPx (embedDisp exMap) 3 3 (embedFlag exMap) 3 3 1 1 = .ok (.num 3, 16) := by decide +kernel
example : occlSgmPixel ⟨true, .or⟩ exMap 1 1 = (.num 3, 16) := by decide +kernel

/-- a mismatch next to an occlusion (converted) and one away from it (median of its neighbours) -/
def exMap2 : DMap :=
  { rows := 1, cols := 5,
    disp := fun _ c => if c = 1 ∨ c = 3 then .nan else .num (c + 2),
    flag := fun _ c => if c = 0 then 256 else if c = 1 ∨ c = 3 then 512 else 0 }

example : mismatchSgmPx (embedDisp exMap2) 1 5 (embedFlag exMap2) 1 5 0 1 = .ok (.nan, 256) := by decide +kernel
example : mismatchSgmPx (embedDisp exMap2) 1 5 (embedFlag exMap2) 1 5 0 3 = .ok (.num 5, 32) := by decide +kernel
example : mismSgmPixel ⟨true, .or⟩ exMap2 0 3 = (.num 5, 32) := by decide +kernel

-- occlusion at column 0 of `exMap2` (nothing valid on the left: filled from the right)
example : occlusionMcCnnPx (embedDisp exMap2) 1 5 (embedFlag exMap2) 1 5 0 0 = .ok (.num 4, 16) := by decide +kernel
example : occlMcPixel ⟨true, .or⟩ exMap2 0 0 = (.num 4, 16) := by decide +kernel

/-- a mismatch seen from (1, 2) of a 3×5 map: half-step directions reach different pixels than the sgm ones -/
def exMap3 : DMap :=
  { rows := 3, cols := 5,
    disp := fun r c => if r = 1 ∧ c = 2 then .nan else .num (5 * r + c),
    flag := fun r c => if r = 1 ∧ c = 2 then 512 else if r = 0 ∧ c = 4 then 2 else 0 }

example : mismatchMcCnnPx (embedDisp exMap3) 3 5 (embedFlag exMap3) 3 5 1 2 = .ok (.num 7, 32) := by decide +kernel
example : mismMcPixel ⟨true, .or⟩ exMap3 1 2 = (.num 7, 32) := by decide +kernel

example : nodataSgmPx (embedDisp exMap) 3 3 (embedFlag exMap) 3 3 1 1 = .ok (.num 6, 1024) := by decide +kernel
example : nodataSgmPixel exMap 1 1 = (.num 6, 1024) := by decide +kernel

end Pandora.C14Kernels
