/-
  C13 — composition: the cone of a pipeline is the sum of the cones of its steps.

  The pipeline `[matching cost; (aggregation); winner-takes-all; (refinement); (median filter);
  (cross-checking)]` is assembled on partial images from the step functions, each proved equal to its step model in
  its own file.  Three ingredients are hypotheses of the theorems:
    * `agg`   — the aggregation step on (scene, cost rows), local with a cone `Ra` (`noAgg`: `Cone.zero`; cbca:
                `cbcaStep` of `C13CbcaStep.lean`);
    * `flagL` — the validity flags before refinement (C04), local with cone `Rf` (`flagStep` of `C13Flags.lean`);
    * `dispR` — the right disparity map, local with cone `Rr` (`rightDisp`: the same pipeline on the swapped pair).
  `Local.comp` adds the cones of two steps; for an aggregation that reads its two inputs with different radii (cbca reads
  the images within `armBound + max 1 off` of the pixel but the cost rows only within `armBound`) the sum is not tight.
  The stages after the cost stage are therefore proved local from ANY cone `Rc` for which the cost stage is local
  (`…_of_cost`); the statements with an aggregation cone `Ra` are the instance `Rc = costCone C Ra`.
  Each stage also commutes with every re-indexing `φ` of the image its ingredients commute with (`…_commutes`,
  `C13Commutes.lean`): translations give the `…_equivariant` statements, the row negation the `…_vflip` ones of
  `C13FlipPipeline.lean`.
-/
import PandoraModel.Properties.C13Steps
import PandoraModel.Properties.C13MatchingCost
import PandoraModel.Properties.C13Refinement
import PandoraModel.Properties.C13Bilateral
import PandoraModel.Properties.C13CrossCheck

namespace Pandora.C13
open Pandora.Locality

theorem Local.map {α β γ : Type} {R : Cone} {f : Img α → Img β} (hf : Local R f) (g : β → γ) :
    Local R (fun a p => (f a p).map g) := by
  intro a b p hab
  simp only [hf a b p hab]

theorem Local.bind {α β γ : Type} {R : Cone} {f : Img α → Img β} (hf : Local R f) (g : β → Option γ) :
    Local R (fun a p => (f a p).bind g) := by
  intro a b p hab
  simp only [hf a b p hab]

theorem Equivariant.map {α β γ : Type} {f : Img α → Img β} (hf : Equivariant f) (g : β → γ) :
    Equivariant (fun a p => (f a p).map g) :=
  Commutes.equivariant fun t => (hf.commutes t).map g

theorem pairStep_isSome {α β γ : Type} (f : Img α → Img β) (g : Img α → Img γ) (a : Img α) (p : Px) :
    (pairStep f g a p).isSome = ((f a p).isSome && (g a p).isSome) := by
  unfold pairStep
  cases f a p <;> cases g a p <;> rfl

theorem sameDom_pair {α β γ : Type} {a : Img α} {f : Img α → Img β} {g : Img α → Img γ}
    (hf : SameDom a (f a)) (hg : SameDom a (g a)) : SameDom a (pairStep f g a) := by
  intro p
  rw [pairStep_isSome, hf p, hg p, Bool.and_self]

theorem pairStep_toImg {α β γ : Type} (f : Img α → Img β) (g : Img α → Img γ) (a : Img α) (ny nx : Nat)
    (u : Nat → Nat → β) (v : Nat → Nat → γ) (hf : f a = toImg ny nx u) (hg : g a = toImg ny nx v) :
    pairStep f g a = toImg ny nx (zipArr u v) := by
  refine (toImg_eq_of_cells (fun r c hr hc => ?_) fun q hq => ?_).symm
  · unfold pairStep
    rw [hf, hg, toImg_some ny nx u r c hr hc, toImg_some ny nx v r c hr hc]
    rfl
  · unfold pairStep
    rw [hf, toImg_none ny nx u q hq]

variable {D : ∀ {γ : Type}, Img γ → Prop} {φ : Px → Px}

theorem Commutes.pair {α β γ : Type} {f : Img α → Img β}
    {g : Img α → Img γ} (hf : Commutes D φ f) (hg : Commutes D φ g) : Commutes D φ (pairStep f g) := fun b hb => by
  unfold pairStep
  rw [hf b hb, hg b hb]

theorem pairStep_id_fst {α β : Type} (g : Img α → Img β) (a : Img α) (q : Px)
    (hdom : (g a q).isSome = (a q).isSome) :
    (pairStep (fun a => a) g a q).map Prod.fst = a q := by
  unfold pairStep
  cases ha : a q <;> cases hg : g a q <;> simp [ha, hg] at hdom ⊢

theorem id_local {α : Type} : Local Cone.zero (fun (a : Img α) => a) := pointwise_local id

theorem id_equivariant {α : Type} : Equivariant (fun (a : Img α) => a) := fun _ _ => rfl

theorem Local.mono' {α β : Type} {R S : Cone} {f : Img α → Img β} (hf : Local R f) (h : Cone.le R S) : Local S f :=
  Local.mono h hf

structure PipeCfg where
  mc : McParams
  gmin : Int
  gmax : Int
  /-- number of disparity samples of the cost volume -/
  n : Nat
  /-- float value of a cost cell (identity on numbers; the quotient of a zncc cell) -/
  ev : MC.Cell → Val
  isMax : Bool
  disps : List Rat
  invalid : Val
  refine : Refinement.Params
  invalidMask : Nat
  fs : Nat

/-- an aggregation step reads the scene (cbca: the two images and masks) and the cost rows -/
abbrev AggStep := Img (McCell × List Val) → Img (List Val)

def noAgg : AggStep := fun a p => (a p).map (fun x => x.2)

theorem noAgg_local : Local Cone.zero noAgg := Local.map id_local _
theorem noAgg_commutes : Commutes D φ noAgg := Commutes.id.map _
theorem noAgg_equivariant : Equivariant noAgg := Commutes.equivariant fun _ => noAgg_commutes

def mcStage (C : PipeCfg) : Img McCell → Img (List Val) :=
  fun a p => (mcRowStep C.mc C.gmin C.n a p).map (List.map C.ev)

def costStage (C : PipeCfg) (agg : AggStep) : Img McCell → Img (List Val) :=
  fun a => agg (pairStep (fun a => a) (mcStage C) a)

def wtaStage (C : PipeCfg) (agg : AggStep) : Img McCell → Img Val :=
  fun a => wtaStep C.isMax C.disps C.invalid (costStage C agg a)

/-- what refinement reads at a pixel: its cost row, its disparity, its flag (`pmin`/`pmax` are read by the
    specification of C06 only) -/
def mkPixIn : (List Val × Val) × Nat → Refinement.PixIn := fun x => ⟨x.1.1, x.1.2, x.2, 0, 0⟩

/-- (disparity, flag) after refinement; `doRefine = false`: the step is absent -/
def refineStage (C : PipeCfg) (agg : AggStep) (flagL : Img McCell → Img Nat)
    (doRefine : Bool) : Img McCell → Img (Val × Nat) :=
  fun a p =>
    (pairStep (pairStep (costStage C agg) (wtaStage C agg)) flagL a p).bind fun x =>
      if doRefine then
        (Res.toOption (Refinement.refinePixel C.refine (mkPixIn x))).map fun o => (o.d, o.flag)
      else some (x.1.2, x.2)

/-- (disparity, flag) after the median filter (the filter does not write the flags) -/
def medianStage (C : PipeCfg) (agg : AggStep) (flagL : Img McCell → Img Nat)
    (doRefine : Bool) : Img McCell → Img (Val × Nat) :=
  pairStep (medianStep C.invalidMask C.fs ∘ refineStage C agg flagL doRefine)
    (fun a p => (refineStage C agg flagL doRefine a p).map (fun x => x.2))

/-- (disparity, flag) after the optional median filter; `doMedian = false`: the step is absent -/
def filterStage (C : PipeCfg) (agg : AggStep) (flagL : Img McCell → Img Nat)
    (doRefine doMedian : Bool) : Img McCell → Img (Val × Nat) :=
  if doMedian then medianStage C agg flagL doRefine else refineStage C agg flagL doRefine

theorem filterStage_false (C : PipeCfg) (agg : AggStep) (flagL : Img McCell → Img Nat) (doRefine : Bool) :
    filterStage C agg flagL doRefine false = refineStage C agg flagL doRefine := rfl

theorem mcStage_isSome (C : PipeCfg) (a : Img McCell) (q : Px) : (mcStage C a q).isSome = (a q).isSome :=
  ((mcRowStep_sameDom C.mc C.gmin C.n a).trans (sameDom_map _ (List.map C.ev))) q

def costCone (C : PipeCfg) (Ra : Cone) : Cone := (mcCone C.mc C.gmin C.gmax).add Ra

/-- the `n` samples of the cost volume are disparities of `[gmin, gmax]`, at a positive sub-pixel step -/
structure PipeCfg.SamplesOK (C : PipeCfg) : Prop where
  sp_pos : 0 < C.mc.sp
  le_gmax : ∀ j : Nat, j < C.n → C.gmin * (C.mc.sp : Int) + j ≤ C.gmax * (C.mc.sp : Int)

theorem costStage_local (C : PipeCfg) (hs : C.SamplesOK)
    {agg : AggStep} {Ra : Cone} (hA : Local Ra agg) :
    Local (costCone C Ra) (costStage C agg) :=
  -- the scene is read at the pixel, the cost rows within the cone of the matching cost
  Local.mono (Cone.add_le_add (Cone.sup_le (Cone.zero_le _) (Cone.le_refl _)) (Cone.le_refl Ra))
    (Local.comp (Local.pair id_local
      (Local.map (mcRowStep_local C.mc hs.sp_pos C.gmin C.gmax C.n hs.le_gmax) (List.map C.ev))) hA)

/-- the scene paired with its cost rows is defined where the scene is -/
theorem costStage_commutes (C : PipeCfg) (hk : KeepsDom D) (hMc : Commutes D φ (mcRowStep C.mc C.gmin C.n))
    {agg : AggStep} (hA : Commutes D φ agg) : Commutes D φ (costStage C agg) :=
  (Commutes.id.pair (hMc.map (List.map C.ev))).comp
    (fun a ha => hk _ _ (sameDom_pair (fun _ => rfl) (fun q => mcStage_isSome C a q)) ha)
    hA

theorem wtaStage_commutes (C : PipeCfg) {agg : AggStep} (hC : Commutes D φ (costStage C agg)) :
    Commutes D φ (wtaStage C agg) :=
  fun b hb => congrArg (wtaStep C.isMax C.disps C.invalid) (hC b hb)

theorem refineStage_commutes (C : PipeCfg) {agg : AggStep} (hC : Commutes D φ (costStage C agg))
    {flagL : Img McCell → Img Nat} (hF : Commutes D φ flagL) (doRefine : Bool) :
    Commutes D φ (refineStage C agg flagL doRefine) :=
  ((hC.pair (wtaStage_commutes C hC)).pair hF).bind _

theorem costStage_equivariant (C : PipeCfg) {agg : AggStep} (hA : Equivariant agg) :
    Equivariant (costStage C agg) :=
  Commutes.equivariant fun t =>
    costStage_commutes C keepsDom_all ((mcRowStep_equivariant C.mc C.gmin C.n).commutes t) (hA.commutes t)

theorem wtaStage_local_of_cost (C : PipeCfg) {agg : AggStep} {Rc : Cone} (hC : Local Rc (costStage C agg)) :
    Local Rc (wtaStage C agg) :=
  Cone.add_zero Rc ▸ Local.comp hC (wtaStep_local C.isMax C.disps C.invalid)

theorem refineStage_local_of_cost (C : PipeCfg) {agg : AggStep} {Rc : Cone} (hC : Local Rc (costStage C agg))
    {flagL : Img McCell → Img Nat} {Rf : Cone} (hF : Local Rf flagL) (doRefine : Bool) :
    Local (Rc.sup Rf) (refineStage C agg flagL doRefine) :=
  Local.mono (Cone.sup_le (Cone.sup_le (Cone.le_sup_left ..) (Cone.le_sup_left ..)) (Cone.le_sup_right ..))
    (Local.bind (Local.pair (Local.pair hC (wtaStage_local_of_cost C hC)) hF) _)

def refineCone (C : PipeCfg) (Ra Rf : Cone) : Cone := (costCone C Ra).sup Rf

/-- (disparity, flag) after a disparity filter `filt` that does not write the flags -/
def filtStage (C : PipeCfg) (agg : AggStep) (flagL : Img McCell → Img Nat)
    (doRefine : Bool) (filt : Img (Val × Nat) → Img Val) : Img McCell → Img (Val × Nat) :=
  pairStep (filt ∘ refineStage C agg flagL doRefine)
    (fun a p => (refineStage C agg flagL doRefine a p).map (fun x => x.2))

theorem filtStage_local_of_cost (C : PipeCfg) {agg : AggStep} {Rc : Cone} (hC : Local Rc (costStage C agg))
    {flagL : Img McCell → Img Nat} {Rf : Cone} (hF : Local Rf flagL) (doRefine : Bool)
    {filt : Img (Val × Nat) → Img Val} {Rm : Cone} (hM : Local Rm filt) :
    Local ((Rc.sup Rf).add Rm) (filtStage C agg flagL doRefine filt) := by
  have hr := refineStage_local_of_cost C hC hF doRefine
  -- the flags are those before the filter: read within `Rc ⊔ Rf`
  exact Local.mono (Cone.sup_le (Cone.le_refl _) (Cone.le_add_right ..))
    (Local.pair (Local.comp hr hM) (Local.map hr (fun (x : Val × Nat) => x.2)))

theorem filtStage_local (C : PipeCfg) (hs : C.SamplesOK)
    {agg : AggStep} {Ra : Cone} (hA : Local Ra agg)
    {flagL : Img McCell → Img Nat} {Rf : Cone} (hF : Local Rf flagL) (doRefine : Bool)
    {filt : Img (Val × Nat) → Img Val} {Rm : Cone} (hM : Local Rm filt) :
    Local ((refineCone C Ra Rf).add Rm) (filtStage C agg flagL doRefine filt) :=
  filtStage_local_of_cost C (costStage_local C hs hA) hF doRefine hM

/-- the filter may commute on a class `D'` only, which the map before the filter must then belong to -/
theorem filtStage_commutes (C : PipeCfg) {agg : AggStep} (hC : Commutes D φ (costStage C agg))
    {flagL : Img McCell → Img Nat} (hF : Commutes D φ flagL) (doRefine : Bool)
    {D' : ∀ {γ : Type}, Img γ → Prop} (hd : ∀ a, D a → D' (refineStage C agg flagL doRefine a))
    {filt : Img (Val × Nat) → Img Val} (hM : Commutes D' φ filt) :
    Commutes D φ (filtStage C agg flagL doRefine filt) :=
  have hr := refineStage_commutes C hC hF doRefine
  (hr.comp hd hM).pair (hr.map fun x => x.2)

theorem medianStage_eq_filtStage (C : PipeCfg) (agg : AggStep) (flagL : Img McCell → Img Nat) (doRefine : Bool) :
    medianStage C agg flagL doRefine = filtStage C agg flagL doRefine (medianStep C.invalidMask C.fs) := rfl

theorem filterStage_true (C : PipeCfg) (agg : AggStep) (flagL : Img McCell → Img Nat) (doRefine : Bool) :
    filterStage C agg flagL doRefine true = filtStage C agg flagL doRefine (medianStep C.invalidMask C.fs) := rfl

theorem filterStage_commutes (C : PipeCfg) {agg : AggStep} (hC : Commutes D φ (costStage C agg))
    {flagL : Img McCell → Img Nat} (hF : Commutes D φ flagL) (doRefine doMedian : Bool)
    (hM : doMedian = true → Commutes AllImg φ (medianStep C.invalidMask C.fs)) :
    Commutes D φ (filterStage C agg flagL doRefine doMedian) := by
  cases doMedian with
  | false => exact filterStage_false C agg flagL doRefine ▸ refineStage_commutes C hC hF doRefine
  | true => exact filterStage_true C agg flagL doRefine ▸ filtStage_commutes C hC hF doRefine (fun _ _ => trivial) (hM rfl)

theorem filtStage_equivariant (C : PipeCfg) {agg : AggStep} (hA : Equivariant agg)
    {flagL : Img McCell → Img Nat} (hF : Equivariant flagL) (doRefine : Bool)
    {filt : Img (Val × Nat) → Img Val} (hM : Equivariant filt) :
    Equivariant (filtStage C agg flagL doRefine filt) :=
  Commutes.equivariant fun t => filtStage_commutes C ((costStage_equivariant C hA).commutes t) (hF.commutes t) doRefine
    (fun _ _ => trivial) (hM.commutes t)

/-- **The pipeline with the bilateral filter**: cone = cost cone (⊔ flags) + the window of the filter. -/
theorem bilateralStage_local (C : PipeCfg) (hsp : 0 < C.mc.sp)
    (hn : ∀ j : Nat, j < C.n → C.gmin * (C.mc.sp : Int) + j ≤ C.gmax * (C.mc.sp : Int))
    {agg : AggStep} {Ra : Cone} (hA : Local Ra agg)
    {flagL : Img McCell → Img Nat} {Rf : Cone} (hF : Local Rf flagL) (doRefine : Bool)
    (wts : Filter.Weights) (w : Nat) (hw : 0 < w) :
    Local ((refineCone C Ra Rf).add (bilateralCone w))
      (filtStage C agg flagL doRefine (bilateralStep wts C.invalidMask w)) :=
  filtStage_local C ⟨hsp, hn⟩ hA hF doRefine (bilateralStep_local wts C.invalidMask w hw)

def filterConeOf (C : PipeCfg) (Rc Rf : Cone) (doMedian : Bool) : Cone :=
  if doMedian then (Rc.sup Rf).add (Cone.square (C.fs / 2)) else Rc.sup Rf

/-- the cone of the filtered disparity: rows and columns `w/2 + (aggregation) + filter_size/2`, columns
    extended by the interval -/
def filterCone (C : PipeCfg) (Ra Rf : Cone) (doMedian : Bool) : Cone :=
  if doMedian then (refineCone C Ra Rf).add (Cone.square (C.fs / 2)) else refineCone C Ra Rf

theorem filterStage_local_of_cost (C : PipeCfg) {agg : AggStep} {Rc : Cone} (hC : Local Rc (costStage C agg))
    {flagL : Img McCell → Img Nat} {Rf : Cone} (hF : Local Rf flagL) (doRefine doMedian : Bool) :
    Local (filterConeOf C Rc Rf doMedian) (filterStage C agg flagL doRefine doMedian) := by
  cases doMedian with
  | false => exact filterStage_false C agg flagL doRefine ▸ refineStage_local_of_cost C hC hF doRefine
  | true =>
    exact filterStage_true C agg flagL doRefine ▸ filtStage_local_of_cost C hC hF doRefine (medianStep_local C.invalidMask C.fs)

theorem filterStage_local (C : PipeCfg) (hs : C.SamplesOK)
    {agg : AggStep} {Ra : Cone} (hA : Local Ra agg)
    {flagL : Img McCell → Img Nat} {Rf : Cone} (hF : Local Rf flagL) (doRefine doMedian : Bool) :
    Local (filterCone C Ra Rf doMedian) (filterStage C agg flagL doRefine doMedian) :=
  filterStage_local_of_cost C (costStage_local C hs hA) hF doRefine doMedian

theorem filterStage_equivariant (C : PipeCfg) {agg : AggStep} (hA : Equivariant agg)
    {flagL : Img McCell → Img Nat} (hF : Equivariant flagL) (doRefine doMedian : Bool) :
    Equivariant (filterStage C agg flagL doRefine doMedian) :=
  Commutes.equivariant fun t => filterStage_commutes C ((costStage_equivariant C hA).commutes t) (hF.commutes t) doRefine
    doMedian fun _ => (medianStep_equivariant C.invalidMask C.fs).commutes t

/-- cross-checking of any left (disparity, flag) map against any right disparity map -/
def ccOn (left : Img McCell → Img (Val × Nat)) (dispR : Img McCell → Img Val) (V : CrossCheck.Variant)
    (CP : CrossCheck.Params) : Img McCell → Img CrossCheck.PixOut :=
  fun a => ccStep V CP (fun p => (pairStep left dispR a p).map fun x => (x.1.1, x.1.2, x.2))

theorem ccOn_local {left : Img McCell → Img (Val × Nat)} {RL : Cone} (hL : Local RL left)
    {dispR : Img McCell → Img Val} {Rr : Cone} (hR : Local Rr dispR)
    (V : CrossCheck.Variant) (CP : CrossCheck.Params) :
    Local ((RL.sup Rr).add (ccCone CP)) (ccOn left dispR V CP) :=
  Local.comp (Local.map (Local.pair hL hR) (fun (x : (Val × Nat) × Val) => ((x.1.1, x.1.2, x.2) : CcCell)))
    (ccStep_local V CP)

theorem ccOn_commutes {left : Img McCell → Img (Val × Nat)} (hL : Commutes D φ left)
    {dispR : Img McCell → Img Val} (hR : Commutes D φ dispR) (V : CrossCheck.Variant) (CP : CrossCheck.Params)
    (hX : Commutes AllImg φ (ccStep V CP)) : Commutes D φ (ccOn left dispR V CP) :=
  ((hL.pair hR).map fun x => ((x.1.1, x.1.2, x.2) : CcCell)).comp (fun _ _ => trivial) hX

theorem ccOn_equivariant {left : Img McCell → Img (Val × Nat)} (hL : Equivariant left)
    {dispR : Img McCell → Img Val} (hR : Equivariant dispR) (V : CrossCheck.Variant) (CP : CrossCheck.Params) :
    Equivariant (ccOn left dispR V CP) :=
  Commutes.equivariant fun t =>
    ccOn_commutes (hL.commutes t) (hR.commutes t) V CP ((ccStep_equivariant V CP).commutes t)

/-- the whole pipeline: `ccOn` on the filtered left map -/
def ccStage (C : PipeCfg) (agg : AggStep) (flagL : Img McCell → Img Nat)
    (doRefine doMedian : Bool) (dispR : Img McCell → Img Val) (V : CrossCheck.Variant) (CP : CrossCheck.Params) :
    Img McCell → Img CrossCheck.PixOut :=
  fun a => ccStep V CP (fun p =>
    (pairStep (filterStage C agg flagL doRefine doMedian) dispR a p).map fun x => (x.1.1, x.1.2, x.2))

theorem ccStage_eq_ccOn (C : PipeCfg) (agg : AggStep) (flagL : Img McCell → Img Nat) (doRefine doMedian : Bool)
    (dispR : Img McCell → Img Val) (V : CrossCheck.Variant) (CP : CrossCheck.Params) :
    ccStage C agg flagL doRefine doMedian dispR V CP = ccOn (filterStage C agg flagL doRefine doMedian) dispR V CP := rfl

def pipeConeOf (C : PipeCfg) (Rc Rf Rr : Cone) (doMedian : Bool) (CP : CrossCheck.Params) : Cone :=
  ((filterConeOf C Rc Rf doMedian).sup Rr).add (ccCone CP)

/-- the cone of the whole pipeline: (left cone ⊔ right cone) + the interval of cross-checking -/
def pipeCone (C : PipeCfg) (Ra Rf Rr : Cone) (doMedian : Bool) (CP : CrossCheck.Params) : Cone :=
  ((filterCone C Ra Rf doMedian).sup Rr).add (ccCone CP)

theorem ccStage_local_of_cost (C : PipeCfg) {agg : AggStep} {Rc : Cone} (hC : Local Rc (costStage C agg))
    {flagL : Img McCell → Img Nat} {Rf : Cone} (hF : Local Rf flagL) (doRefine doMedian : Bool)
    {dispR : Img McCell → Img Val} {Rr : Cone} (hR : Local Rr dispR)
    (V : CrossCheck.Variant) (CP : CrossCheck.Params) :
    Local (pipeConeOf C Rc Rf Rr doMedian CP) (ccStage C agg flagL doRefine doMedian dispR V CP) :=
  ccStage_eq_ccOn C agg flagL doRefine doMedian dispR V CP ▸
    ccOn_local (filterStage_local_of_cost C hC hF doRefine doMedian) hR V CP

/-- **Composition.**  The pipeline `[matching cost; aggregation; wta; (refinement); (median); cross-checking]`
    is local, its cone being the sum of the step cones (joined with the cone of the right map). -/
theorem ccStage_local (C : PipeCfg) (hs : C.SamplesOK)
    {agg : AggStep} {Ra : Cone} (hA : Local Ra agg)
    {flagL : Img McCell → Img Nat} {Rf : Cone} (hF : Local Rf flagL) (doRefine doMedian : Bool)
    {dispR : Img McCell → Img Val} {Rr : Cone} (hR : Local Rr dispR)
    (V : CrossCheck.Variant) (CP : CrossCheck.Params) :
    Local (pipeCone C Ra Rf Rr doMedian CP) (ccStage C agg flagL doRefine doMedian dispR V CP) :=
  ccStage_local_of_cost C (costStage_local C hs hA) hF doRefine doMedian hR V CP

theorem ccStage_equivariant (C : PipeCfg) {agg : AggStep} (hA : Equivariant agg)
    {flagL : Img McCell → Img Nat} (hF : Equivariant flagL) (doRefine doMedian : Bool)
    {dispR : Img McCell → Img Val} (hR : Equivariant dispR) (V : CrossCheck.Variant) (CP : CrossCheck.Params) :
    Equivariant (ccStage C agg flagL doRefine doMedian dispR V CP) :=
  ccStage_eq_ccOn C agg flagL doRefine doMedian dispR V CP ▸
    ccOn_equivariant (filterStage_equivariant C hA hF doRefine doMedian) hR V CP

theorem pipeline_crop_eq_whole_of_cost (C : PipeCfg) {agg : AggStep} {Rc : Cone} (hC : Local Rc (costStage C agg))
    (hAe : Equivariant agg)
    {flagL : Img McCell → Img Nat} {Rf : Cone} (hF : Local Rf flagL) (hFe : Equivariant flagL)
    (doRefine doMedian : Bool)
    {dispR : Img McCell → Img Val} {Rr : Cone} (hR : Local Rr dispR) (hRe : Equivariant dispR)
    (V : CrossCheck.Variant) (CP : CrossCheck.Params) :
    CropExact (pipeConeOf C Rc Rf Rr doMedian CP)
      (ccStage C agg flagL doRefine doMedian dispR V CP) :=
  crop_run_eq_whole (ccStage_local_of_cost C hC hF doRefine doMedian hR V CP)
    (ccStage_equivariant C hAe hFe doRefine doMedian hRe V CP)

theorem filter_crop_eq_whole_of_cost (C : PipeCfg) {agg : AggStep} {Rc : Cone} (hC : Local Rc (costStage C agg))
    (hAe : Equivariant agg)
    {flagL : Img McCell → Img Nat} {Rf : Cone} (hF : Local Rf flagL) (hFe : Equivariant flagL)
    (doRefine doMedian : Bool) :
    CropExact (filterConeOf C Rc Rf doMedian)
      (filterStage C agg flagL doRefine doMedian) :=
  crop_run_eq_whole (filterStage_local_of_cost C hC hF doRefine doMedian)
    (filterStage_equivariant C hAe hFe doRefine doMedian)

theorem filterConeOf_costCone (C : PipeCfg) (Ra Rf : Cone) (doMedian : Bool) :
    filterConeOf C (costCone C Ra) Rf doMedian = filterCone C Ra Rf doMedian := rfl

/-- **Crop run = whole run for the whole pipeline**, on any scene array. -/
theorem pipeline_crop_eq_whole (C : PipeCfg) (hs : C.SamplesOK)
    {agg : AggStep} {Ra : Cone} (hA : Local Ra agg) (hAe : Equivariant agg)
    {flagL : Img McCell → Img Nat} {Rf : Cone} (hF : Local Rf flagL) (hFe : Equivariant flagL)
    (doRefine doMedian : Bool)
    {dispR : Img McCell → Img Val} {Rr : Cone} (hR : Local Rr dispR) (hRe : Equivariant dispR)
    (V : CrossCheck.Variant) (CP : CrossCheck.Params) :
    CropExact (pipeCone C Ra Rf Rr doMedian CP)
      (ccStage C agg flagL doRefine doMedian dispR V CP) :=
  crop_run_eq_whole (ccStage_local C hs hA hF doRefine doMedian hR V CP)
    (ccStage_equivariant C hAe hFe doRefine doMedian hRe V CP)

/-- … and for the filtered left disparity and flags (pipelines without cross-checking) -/
theorem filter_crop_eq_whole (C : PipeCfg) (hs : C.SamplesOK)
    {agg : AggStep} {Ra : Cone} (hA : Local Ra agg) (hAe : Equivariant agg)
    {flagL : Img McCell → Img Nat} {Rf : Cone} (hF : Local Rf flagL) (hFe : Equivariant flagL)
    (doRefine doMedian : Bool) :
    CropExact (filterCone C Ra Rf doMedian)
      (filterStage C agg flagL doRefine doMedian) :=
  crop_run_eq_whole (filterStage_local C hs hA hF doRefine doMedian)
    (filterStage_equivariant C hAe hFe doRefine doMedian)

theorem Cone.wide_add_square (a l r m : Nat) : (Cone.wide a l r).add (Cone.square m) = Cone.wide (a + m) l r := by
  simp only [Cone.wide, Cone.add, Cone.square, Nat.add_right_comm]

theorem mcCone_add_square (P : McParams) (gmin gmax : Int) (m : Nat) :
    (mcCone P gmin gmax).add (Cone.square m) = Cone.wide (MC.half P.w + m) (-gmin).toNat gmax.toNat :=
  Cone.wide_add_square ..

/-- **The documented cone of the filtered left map** (median filter on), from bounds on the cone of the cost stage and
    of the flags: rows within `w/2 + A + filter_size/2`, columns extended by the interval. -/
theorem filterConeOf_documented (C : PipeCfg) (A : Nat) {Rc Rf : Cone}
    (hRc : Cone.le Rc (costCone C (Cone.square A))) (hRf : Cone.le Rf (costCone C (Cone.square A))) :
    Cone.le (filterConeOf C Rc Rf true) (Cone.wide (MC.half C.mc.w + A + C.fs / 2) (-C.gmin).toNat C.gmax.toNat) := by
  have h := Cone.add_le_add (Cone.sup_le hRc hRf) (Cone.le_refl (Cone.square (C.fs / 2)))
  rwa [costCone, mcCone_add_square, Cone.wide_add_square] at h

/-- **The documented radii from the cone of the cost stage**, with the median filter: cost stage within `w/2 + A`
    (columns extended by the interval), flags within it, right map within the mirrored cone, no `mask_border` offset. -/
theorem pipeConeOf_documented (C : PipeCfg) (A : Nat) (CP : CrossCheck.Params) (hoff : CP.offset = 0)
    (Rc Rf Rr : Cone) (hRc : Cone.le Rc (costCone C (Cone.square A))) (hRf : Cone.le Rf (costCone C (Cone.square A)))
    (hRr : Cone.le Rr ⟨MC.half C.mc.w + A + C.fs / 2, MC.half C.mc.w + A + C.fs / 2,
      MC.half C.mc.w + A + C.fs / 2 + C.gmax.toNat, MC.half C.mc.w + A + C.fs / 2 + (-C.gmin).toNat⟩) :
    Cone.le (pipeConeOf C Rc Rf Rr true CP)
      ⟨MC.half C.mc.w + A + C.fs / 2, MC.half C.mc.w + A + C.fs / 2,
       MC.half C.mc.w + A + C.fs / 2 + max (-C.gmin).toNat C.gmax.toNat + (-CP.dmin).toNat,
       MC.half C.mc.w + A + C.fs / 2 + max (-C.gmin).toNat C.gmax.toNat + CP.dmax.toNat⟩ := by
  rw [pipeConeOf, ccCone_offset_zero CP hoff, Cone.row]
  exact Cone.sup_mirror_add_le (filterConeOf_documented C A hRc hRf) hRr _

/-- **The cone of the pipeline (with the median filter) is the documented one**: rows within
    `w/2 + A + filter_size/2`; columns within that, extended by the disparity interval once for the pipeline and once
    more for cross-checking. -/
theorem pipeCone_documented (C : PipeCfg) (A : Nat) (CP : CrossCheck.Params) (hoff : CP.offset = 0)
    (Rf Rr : Cone) (hRf : Cone.le Rf (costCone C (Cone.square A)))
    (hRr : Cone.le Rr ⟨MC.half C.mc.w + A + C.fs / 2, MC.half C.mc.w + A + C.fs / 2,
      MC.half C.mc.w + A + C.fs / 2 + C.gmax.toNat, MC.half C.mc.w + A + C.fs / 2 + (-C.gmin).toNat⟩) :
    Cone.le (pipeCone C (Cone.square A) Rf Rr true CP)
      ⟨MC.half C.mc.w + A + C.fs / 2, MC.half C.mc.w + A + C.fs / 2,
       MC.half C.mc.w + A + C.fs / 2 + max (-C.gmin).toNat C.gmax.toNat + (-CP.dmin).toNat,
       MC.half C.mc.w + A + C.fs / 2 + max (-C.gmin).toNat C.gmax.toNat + CP.dmax.toNat⟩ :=
  pipeConeOf_documented C A CP hoff _ Rf Rr
    (Cone.le_refl _) hRf hRr

/-- the scene of cross-checking built on the domain of the right map (equal to the paired scene whenever the
    two maps are defined on the same pixels: `ccOnT_eq_ccOn`) -/
def ccInT (left : Img McCell → Img (Val × Nat)) (dispR : Img McCell → Img Val) : Img McCell → Img CcCell :=
  fun a p => (dispR a p).map fun dr =>
    match left a p with
    | some x => (x.1, x.2, dr)
    | none => (.nan, 0, dr)

def ccOnT (left : Img McCell → Img (Val × Nat)) (dispR : Img McCell → Img Val) (V : CrossCheck.Variant)
    (CP : CrossCheck.Params) : Img McCell → Img CrossCheck.PixOut :=
  fun a => ccStep V CP (ccInT left dispR a)

theorem ccOnT_eq_ccOn (left : Img McCell → Img (Val × Nat)) (dispR : Img McCell → Img Val) (V : CrossCheck.Variant)
    (CP : CrossCheck.Params) (a : Img McCell) (hdom : ∀ q, (left a q).isSome = (dispR a q).isSome) :
    ccOnT left dispR V CP a = ccOn left dispR V CP a := by
  unfold ccOnT ccOn
  congr 1
  funext q
  unfold ccInT pairStep
  have := hdom q
  cases hl : left a q <;> cases hr : dispR a q <;> simp [hl, hr] at this ⊢

/-- **Cross-checking on top of a left map with cone `RL` and a right map with cone `Rr`: the cone is
    `RL ⊔ (Rr + interval)`** — the left map is read at the pixel only. -/
theorem ccOnT_local {left : Img McCell → Img (Val × Nat)} {RL : Cone} (hL : Local RL left)
    {dispR : Img McCell → Img Val} {Rr : Cone} (hR : Local Rr dispR)
    (V : CrossCheck.Variant) (CP : CrossCheck.Params) :
    Local (RL.sup (Rr.add (ccCone CP))) (ccOnT left dispR V CP) := by
  intro a b p hab
  unfold ccOnT
  have hr : ∀ q, inCone (ccCone CP) p q → dispR a q = dispR b q := fun q hq =>
    hR a b q fun r hr => hab r (inCone_mono (Cone.le_sup_right ..) (inCone_add hq hr))
  apply ccStep_congr
  · unfold ccInT
    rw [hr p (inCone_self _ p)]
    have : left a p = left b p := hL a b p fun r hr' => hab r (inCone_mono (Cone.le_sup_left ..) hr')
    rw [this]
  · intro q hq
    unfold ccInT
    rw [hr q hq]
    simp only [Option.map_map]
    congr 1
    funext dr
    simp only [Function.comp]
    cases left a q <;> cases left b q <;> rfl

theorem ccOnT_equivariant {left : Img McCell → Img (Val × Nat)} (hL : Equivariant left)
    {dispR : Img McCell → Img Val} (hR : Equivariant dispR) (V : CrossCheck.Variant) (CP : CrossCheck.Params) :
    Equivariant (ccOnT left dispR V CP) :=
  Equivariant.comp (f := ccInT left dispR) (fun t a => by unfold ccInT; rw [hL t a, hR t a]; rfl) (ccStep_equivariant V CP)

/-- **The exact documented cone of the full pipeline** (with the median filter, `ccOnT`): columns extended by the
    whole extent of the disparity interval on both sides, when cross-checking searches the interval of the pipeline
    and has no border offset. -/
theorem pipeConeT_documented (C : PipeCfg) (A : Nat) (CP : CrossCheck.Params) (hoff : CP.offset = 0)
    (hmin : CP.dmin = C.gmin) (hmax : CP.dmax = C.gmax)
    (Rf Rr : Cone) (hRf : Cone.le Rf (costCone C (Cone.square A)))
    (hRr : Cone.le Rr ⟨MC.half C.mc.w + A + C.fs / 2, MC.half C.mc.w + A + C.fs / 2,
      MC.half C.mc.w + A + C.fs / 2 + C.gmax.toNat, MC.half C.mc.w + A + C.fs / 2 + (-C.gmin).toNat⟩) :
    Cone.le ((filterCone C (Cone.square A) Rf true).sup (Rr.add (ccCone CP)))
      ⟨MC.half C.mc.w + A + C.fs / 2, MC.half C.mc.w + A + C.fs / 2,
       MC.half C.mc.w + A + C.fs / 2 + (-C.gmin).toNat + C.gmax.toNat,
       MC.half C.mc.w + A + C.fs / 2 + (-C.gmin).toNat + C.gmax.toNat⟩ := by
  -- the right map is read within the interval of cross-checking, which is the interval of the pipeline
  rw [ccCone_offset_zero CP hoff, Cone.row, hmin, hmax]
  exact Cone.sup_le
    (Cone.le_trans (filterConeOf_documented C A (Cone.le_refl _) hRf)
      ⟨Nat.le_refl _, Nat.le_refl _, Nat.le_add_right .., Nat.add_le_add_right (Nat.le_add_right ..) _⟩)
    (Cone.le_trans (Cone.add_le_add hRr (Cone.le_refl _))
      ⟨Nat.le_refl _, Nat.le_refl _, Nat.le_of_eq (Nat.add_right_comm ..), Nat.le_refl _⟩)

/-- the scene seen from the right image: images and masks swapped, interval mirrored -/
def swapCell : McCell → McCell := fun s => ⟨s.r, s.l, s.mr, s.ml, -s.dmax, -s.dmin⟩

/-- the right disparity map: the left pipeline (configuration `C'`: mirrored interval) on the swapped scene -/
def rightDisp (C' : PipeCfg) (agg : AggStep) (flagR : Img McCell → Img Nat)
    (doRefine doMedian : Bool) : Img McCell → Img Val :=
  fun a p => (filterStage C' agg flagR doRefine doMedian (fun q => (a q).map swapCell) p).map (fun x => x.1)

theorem rightDisp_local_of_cost (C' : PipeCfg) {agg : AggStep} {Rc : Cone} (hC : Local Rc (costStage C' agg))
    {flagR : Img McCell → Img Nat} {Rf : Cone} (hF : Local Rf flagR) (doRefine doMedian : Bool) :
    Local (filterConeOf C' Rc Rf doMedian) (rightDisp C' agg flagR doRefine doMedian) := by
  have h0 : Local Cone.zero (fun (a : Img McCell) q => (a q).map swapCell) := Local.map id_local swapCell
  have h := Local.map (Local.comp h0 (filterStage_local_of_cost C' hC hF doRefine doMedian)) (fun (x : Val × Nat) => x.1)
  rwa [Cone.zero_add] at h

/-- **The hypothesis on the right map is met by the pipeline itself**: its cone is the cone of the
    mirrored configuration. -/
theorem rightDisp_local (C' : PipeCfg) (hs : C'.SamplesOK)
    {agg : AggStep} {Ra : Cone} (hA : Local Ra agg)
    {flagR : Img McCell → Img Nat} {Rf : Cone} (hF : Local Rf flagR) (doRefine doMedian : Bool) :
    Local (filterCone C' Ra Rf doMedian) (rightDisp C' agg flagR doRefine doMedian) :=
  rightDisp_local_of_cost C' (costStage_local C' hs hA) hF doRefine doMedian

/-- swapping the two images of the scene commutes with every `φ` and keeps the domain -/
theorem rightDisp_commutes (C' : PipeCfg) (hk : KeepsDom D) {agg : AggStep} (hC : Commutes D φ (costStage C' agg))
    {flagR : Img McCell → Img Nat} (hF : Commutes D φ flagR) (doRefine doMedian : Bool)
    (hM : doMedian = true → Commutes AllImg φ (medianStep C'.invalidMask C'.fs)) :
    Commutes D φ (rightDisp C' agg flagR doRefine doMedian) :=
  ((Commutes.id.map swapCell).comp (fun a ha => hk _ _ (sameDom_map a swapCell) ha)
    (filterStage_commutes C' hC hF doRefine doMedian hM)).map fun x => x.1

theorem rightDisp_equivariant (C' : PipeCfg) {agg : AggStep} (hA : Equivariant agg)
    {flagR : Img McCell → Img Nat} (hF : Equivariant flagR) (doRefine doMedian : Bool) :
    Equivariant (rightDisp C' agg flagR doRefine doMedian) :=
  Commutes.equivariant fun t => rightDisp_commutes C' keepsDom_all ((costStage_equivariant C' hA).commutes t)
    (hF.commutes t) doRefine doMedian fun _ => (medianStep_equivariant C'.invalidMask C'.fs).commutes t

/-! ### Non-vacuity: the configuration of C02's example pair (window 3, subpix 2, interval [-1, 1], five
    samples), sad, wta, vfit, median 3, without aggregation (identity) and with constant flags, satisfies
    every hypothesis of `filter_crop_eq_whole` -/

def exCfg : PipeCfg where
  mc := paramsOf (C02.Example.exIn .sad)
  gmin := -1
  gmax := 1
  n := 5
  ev := fun c => match c with | .num q => .num q | _ => .nan
  isMax := false
  disps := [-1, -1/2, 0, 1/2, 1]
  invalid := .nan
  refine := { method := .vfit, isMax := false, subpix := 2, dmin := -1, dmax := 1 }
  invalidMask := Flags.pixelInvalid
  fs := 3

theorem exCfg_samplesOK : exCfg.SamplesOK := by
  refine ⟨by decide, fun j hj => ?_⟩
  have h5 : j < 5 := hj
  show (-1 : Int) * ((2 : Nat) : Int) + (j : Int) ≤ 1 * ((2 : Nat) : Int)
  omega

example (ny nx r0 c0 ny' nx' : Nat) (scene : Nat → Nat → McCell) (hfit : r0 + ny' ≤ ny ∧ c0 + nx' ≤ nx) (p : Px)
    (hcone : ∀ q, inCone (filterCone exCfg Cone.zero Cone.zero true) (p.1 + r0, p.2 + c0) q →
      InRect r0 c0 ny' nx' q ∨ ¬ InImage ny nx q) :
    filterStage exCfg noAgg (fun a q => (a q).map fun _ => 0) true true (toImg ny' nx' (cropArr r0 c0 scene)) p
      = filterStage exCfg noAgg (fun a q => (a q).map fun _ => 0) true true (toImg ny nx scene)
          (p.1 + r0, p.2 + c0) :=
  filter_crop_eq_whole exCfg exCfg_samplesOK
    noAgg_local noAgg_equivariant (Local.map id_local _) (Equivariant.map id_equivariant _) true true
    ny nx r0 c0 ny' nx' scene hfit p hcone

example : filterCone exCfg Cone.zero Cone.zero true = ⟨2, 2, 3, 3⟩ := by decide

end Pandora.C13
