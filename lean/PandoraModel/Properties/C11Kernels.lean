/-
  C11 — the cross-support kernel REGENERATED from the Python source (`Generated/KernelsCbca.lean`, written by
  translator/gen_kernels_cbca.py with the statement-level translator translator/pyloops.py, T14) is equal, for every
  image size, every `len_arms`, every intensity, every image and every pixel, to the hand model
  `Cbca.crossSupport .neighbour` of `Model/Cbca.lean` — and never reads outside the image (`Res.ok`).
-/
import PandoraModel.Generated.KernelsCbca
import PandoraModel.Generated.KernelsLoopsSelfTest  -- the translator's own test kernels, checked by evaluation
import PandoraModel.Properties.C11
import PandoraModel.Lemmas.PyLoopsRules
import PandoraModel.Lemmas.PyExprRules


namespace Pandora.C11Kernels
open Pandora.Cbca Pandora.PyLoops Pandora.PyExpr

/-- the image `cross_support` is called with: masked pixels (`Val.nan` in the hand model) are `+inf`, indices are `Int` -/
def embed (img : Img) : Int → Int → Fl := fun i j => Fl.ofMasked (img i.toNat j.toNat)

/-- `cross[col, row, 0..3]` -/
def encArms (a : Arms) : Int × Int × Int × Int := ((a.left : Int), (a.right : Int), (a.top : Int), (a.bot : Int))

theorem get2_embed_nat (img : Img) (n0 n1 : Int) (i j : Nat) :
    get2 (embed img) n0 n1 (i : Int) (j : Int) = Fl.ofMasked (img i j) := by
  rw [get2_nat]; simp only [embed, Int.toNat_natCast]

theorem isFinite_ofMasked (v : Val) : (Fl.ofMasked v).isFinite = v.isNum := by
  cases v <;> rfl

/-- the break test `abs(image[p] - image[q]) >= intensity` on the `+inf` reading is the hand model's `jump`,
    when the anchor `p` is finite (the loops run under `if np.isfinite(image[col, row])`) -/
theorem jump_eq (I : ℚ) (a b : Val) (ha : a.isNum = true) :
    Fl.le (Fl.fin I) (Fl.abs (Fl.sub (Fl.ofMasked a) (Fl.ofMasked b))) = jump I a b := by
  cases a with
  | nan => simp [Val.isNum, Val.isNan] at ha
  | num p =>
    cases b with
    | nan => rfl
    | num q =>
      simp only [Fl.ofMasked, Fl.sub, Fl.neg, Fl.add, Fl.abs, Fl.le, Fl.lt, Fl.eq, jump, absR, rabs]
      rw [show p + -q = p - q by ring]
      simp [le_iff_lt_or_eq]

/-- A generated loop whose body, at its `t`-th iteration, leaves on a jump and otherwise counts — whatever the text of
    the body — computes the arm length of the hand model's `armLoop`. -/
theorem forLoop_arm (I : ℚ) (px : Nat → Val) (body : Int → Bool × Int → Bool × (Bool × Int)) (s a : Int) :
    ∀ (n k : Nat) (ok : Bool),
      (∀ t, k ≤ t → t < k + n → ∀ (ok : Bool) (len : Int), body (a + s * t) (ok, len) =
          if jump I (px 0) (px (t + 1)) then (true, (ok, len)) else (false, (ok, len + 1))) →
      forLoop body s n (a + s * k) (ok, (k : Int)) = (ok, ((armLoop I px n k).1 : Int)) := by
  intro n
  induction n with
  | zero => intro k ok _; simp [forLoop, armLoop]
  | succ n ih =>
    intro k ok h
    have hk := h k (Nat.le_refl k) (by omega) ok (k : Int)
    simp only [forLoop, hk, armLoop]
    by_cases hj : jump I (px 0) (px (k + 1)) = true
    · simp [hj]
    · simp only [hj, Bool.false_eq_true, if_false]
      have := ih (k + 1) ok (fun t h1 h2 => h t (by omega) (by omega))
      rw [show a + s * ((k + 1 : Nat) : Int) = a + s * k + s by push_cast; ring] at this
      rw [show (((k + 1 : Nat) : Int)) = (k : Int) + 1 by push_cast; ring] at this
      exact this

theorem forRange_arm (I : ℚ) (px : Nat → Val) (a b s : Int) (n : Nat)
    (body : Int → Bool × Int → Bool × (Bool × Int))
    (hn : rangeLen a b s = n)
    (h : ∀ t, t < n → ∀ (ok : Bool) (len : Int), body (a + s * t) (ok, len) =
          if jump I (px 0) (px (t + 1)) then (true, (ok, len)) else (false, (ok, len + 1))) :
    forRange a b s body (true, (0 : Int)) = (true, ((armLoop I px n 0).1 : Int)) := by
  have := forLoop_arm I px body s a n 0 true (fun t _ h2 => h t (by omega))
  simpa [forRange, hn] using this

/-- the "minimum 1" rule: `max(len, 1 * (neighbour exists) * np.isfinite(neighbour))` is `armCoded .neighbour` -/
theorem minRule_generated_eq (I : ℚ) (px : Nat → Val) (dist room : Nat) (c p : Bool)
    (hc : c = decide (1 ≤ room)) (hp : c = true → p = (px 1).isNum) :
    imax ((armLoop I px (iters dist room) 0).1 : Int) (1 * b2i c * b2i p)
      = ((armCoded .neighbour I px dist room : Nat) : Int) := by
  simp only [armCoded]
  cases c with
  | false =>
    have : decide (1 ≤ room) = false := hc.symm
    simp [this, b2i, imax_eq_max]
  | true =>
    have hp' := hp rfl
    have : decide (1 ≤ room) = true := hc.symm
    rw [this, ← hp']
    cases p <;> simp [b2i, imax_eq_max]

open Pandora.Generated.KernelsCbca

theorem iters_toNat (L : Int) (room : Nat) (m : Int) (hm : m = min (L - 1) room) : m.toNat = iters L.toNat room := by
  subst hm; unfold iters; omega

theorem iters_le_room {dist room t : Nat} (h : t < iters dist room) : t + 1 ≤ room := by
  unfold iters at h; omega

theorem iters_lt_size {dist n z t : Nat} (h : t < iters dist (n - 1 - z)) : z + (t + 1) < n := by
  unfold iters at h; omega

theorem range_down_index (z t : Nat) (h : t + 1 ≤ z) : (z : Int) - 1 + -1 * (t : Int) = ((z - (t + 1) : Nat) : Int) := by
  omega

theorem range_up_index (z t : Nat) : (z : Int) + 1 + 1 * (t : Int) = ((z + (t + 1) : Nat) : Int) := by
  omega

/-- `len(range(x - 1, max(x - len_arms, -1), -1))`, the bound written either way round, is the hand model's `iters` -/
theorem rangeLen_down (x L b : Int) (room : Nat) (hx : x = room) (hb : b = max (x - L) (-1)) :
    rangeLen (x - 1) b (-1) = iters L.toNat room := by
  rw [rangeLen_neg_one]; exact iters_toNat L room _ (by omega)

theorem rangeLen_up (x L n b : Int) (room : Nat) (hx : n - 1 - x = room) (hb : b = min (x + L) n) :
    rangeLen (x + 1) b 1 = iters L.toNat room := by
  rw [rangeLen_pos_one]; exact iters_toNat L room _ (by omega)

/-- the probe behind the anchor `z` on an axis of `n` cells (right and bottom arms): "there is a neighbour", as the source
    tests it and as the model counts room, and the clamped neighbour index when there is one -/
theorem probe_up (z n : Nat) :
    decide ((z : Int) < (n : Int) - 1) = decide (1 ≤ n - 1 - z)
      ∧ (decide ((z : Int) < (n : Int) - 1) = true → min (n - 1) (z + 1) = z + 1) := by
  refine ⟨?_, fun h => ?_⟩
  · rw [decide_eq_decide]; omega
  · rw [decide_eq_true_eq] at h; omega

-- the simp sets list both spellings of what the source may write (`max(a, b)` / `max(b, a)`, …): on any one text some are unused
set_option linter.unusedSimpArgs false in
/-- **The generated kernel is the hand model**, for any integer `len_arms` (a value `≤ 1` gives empty loops); `Res.ok`: none
    of its reads of `image` is outside the array. -/
theorem crossSupport_generated_eq (H W : Nat) (lenArms : Int) (I : ℚ) (img : Img) (y x : Nat)
    (hy : y < H) (hx : x < W) :
    crossSupportPx (embed img) H W lenArms I y x
      = .ok (encArms (crossSupport .neighbour H W lenArms.toNat I img y x)) := by
  simp only [crossSupportPx, get2_embed_nat, inb2_nat (Int.ofNat_lt.mpr hy) (Int.ofNat_lt.mpr hx), isFinite_ofMasked]
  by_cases ha : (img y x).isNum = true
  · -- the four loops, each recognised by its start and step, whatever its body and its position in the text
    rw [forRange_arm I (fun k => img y (x - k)) ((x : Int) - 1) _ (-1) (iters lenArms.toNat x) _ ?nleft ?left,
        forRange_arm I (fun k => img y (x + k)) ((x : Int) + 1) _ 1 (iters lenArms.toNat (W - 1 - x)) _ ?nright ?right,
        forRange_arm I (fun k => img (y - k) x) ((y : Int) - 1) _ (-1) (iters lenArms.toNat y) _ ?ntop ?top,
        forRange_arm I (fun k => img (y + k) x) ((y : Int) + 1) _ 1 (iters lenArms.toNat (H - 1 - y)) _ ?nbot ?bot]
    · -- the probes of the minimum rule read the pixel next to the anchor, pushed back inside the image at the border
      have hr : min (W - 1) (x + 1) < W := Nat.lt_of_le_of_lt (Nat.min_le_left _ _) (Nat.sub_lt (Nat.zero_lt_of_lt hx) Nat.one_pos)
      have hb : min (H - 1) (y + 1) < H := Nat.lt_of_le_of_lt (Nat.min_le_left _ _) (Nat.sub_lt (Nat.zero_lt_of_lt hy) Nat.one_pos)
      have e0 := minRule_generated_eq I (fun k => img y (x - k)) lenArms.toNat x (decide ((x : Int) ≥ 1)) (img y (x - 1)).isNum
        (by simp) (fun _ => rfl)
      have e1 := minRule_generated_eq I (fun k => img y (x + k)) lenArms.toNat (W - 1 - x) (decide ((x : Int) < (W : Int) - 1))
        (img y (min (W - 1) (x + 1))).isNum (probe_up x W).1 (fun hc => by rw [(probe_up x W).2 hc])
      have e2 := minRule_generated_eq I (fun k => img (y - k) x) lenArms.toNat y (decide ((y : Int) ≥ 1)) (img (y - 1) x).isNum
        (by simp) (fun _ => rfl)
      have e3 := minRule_generated_eq I (fun k => img (y + k) x) lenArms.toNat (H - 1 - y) (decide ((y : Int) < (H : Int) - 1))
        (img (min (H - 1) (y + 1)) x).isNum (probe_up y H).1 (fun hc => by rw [(probe_up y H).2 hc])
      simp only [imax_pred', imax_pred, imin_succ' _ _ (Nat.zero_lt_of_lt hx), imin_succ' _ _ (Nat.zero_lt_of_lt hy),
        imin_succ _ _ (Nat.zero_lt_of_lt hx), imin_succ _ _ (Nat.zero_lt_of_lt hy), get2_embed_nat, isFinite_ofMasked, inb2_nat, Int.ofNat_lt,
        hy, hx, hr, hb, (Nat.sub_le _ 1).trans_lt hx, (Nat.sub_le _ 1).trans_lt hy, e0, e1, e2, e3, ha, if_true,
        Bool.and_true, Bool.true_and, crossSupport, encArms]
    case nleft | ntop => exact rangeLen_down _ lenArms _ _ rfl ((imax_eq_max _ _).trans (by omega))
    case nright => exact rangeLen_up _ lenArms W _ _ (by omega) ((imin_eq_min _ _).trans (by omega))
    case nbot => exact rangeLen_up _ lenArms H _ _ (by omega) ((imin_eq_min _ _).trans (by omega))
    -- iteration `t` reads the pixel `t + 1` places before resp. behind the anchor, inside the image
    case left | top =>
      intro t ht ok len
      rw [range_down_index _ t (iters_le_room ht)]
      simp only [get2_embed_nat, inb2_nat, Int.ofNat_lt, hy, hx, (Nat.sub_le _ (t + 1)).trans_lt hx,
        (Nat.sub_le _ (t + 1)).trans_lt hy, jump_eq I _ _ ha, Nat.sub_zero, Bool.and_true]
    case right | bot =>
      intro t ht ok len
      rw [range_up_index _ t]
      simp only [get2_embed_nat, inb2_nat, Int.ofNat_lt, hy, hx, iters_lt_size ht, jump_eq I _ _ ha, Nat.add_zero,
        Bool.and_true]
  · simp [ha, crossSupport, encArms]

/-- the same, about the rule the fingerprint extractor T-cbca reads in the same file (`Generated.Cbca.minRule`): the two
    readings of the source agree, or this does not build -/
theorem crossSupport_generated_eq_source (H W : Nat) (lenArms : Int) (I : ℚ) (img : Img) (y x : Nat)
    (hy : y < H) (hx : x < W) :
    crossSupportPx (embed img) H W lenArms I y x
      = .ok (encArms (crossSupport Generated.Cbca.minRule H W lenArms.toNat I img y x)) := by
  rw [crossSupport_generated_eq H W lenArms I img y x hy hx]; rfl

/-- the function of the source computes the declarative arms of the specification, for every distance -/
theorem crossSupport_generated_spec (H W : Nat) (lenArms : Int) (I : ℚ) (img : Img) (y x : Nat)
    (hy : y < H) (hx : x < W) :
    crossSupportPx (embed img) H W lenArms I y x = .ok (encArms (crossRef H W lenArms.toNat I img y x)) := by
  rw [crossSupport_generated_eq H W lenArms I img y x hy hx,
    Pandora.C11.crossSupport_eq_crossRef .neighbour H W lenArms.toNat I img (Or.inl rfl) y x]

/-- at every pixel the generated function returns (`Res.ok`) arms that stay inside the image: what steps 2 and 4 need of
    the left cross support (`C11KernelsSteps.ArmsIn`) -/
theorem crossSupport_generated_total (H W : Nat) (lenArms : Int) (I : ℚ) (img : Img) (y x : Nat)
    (hy : y < H) (hx : x < W) :
    ∃ a : Arms, crossSupportPx (embed img) H W lenArms I y x = .ok (encArms a)
      ∧ a.left ≤ x ∧ x + a.right < W ∧ a.top ≤ y ∧ y + a.bot < H := by
  exact ⟨_, crossSupport_generated_eq H W lenArms I img y x hy hx,
    Pandora.C11.armsInImage_spec (Pandora.C11.crossSupport_in_image .neighbour H W lenArms.toNat I img) hy hx⟩

/-- the row `[1, 1, masked, 1, 1]` of finding F9 -/
def exImg : Img := fun _ x => if x = 2 then .nan else .num 1

example : crossSupportPx (embed exImg) 1 5 1 5 0 1 = .ok (1, 0, 0, 0) := by decide +kernel
example : crossSupportPx (embed exImg) 1 5 3 5 0 3 = .ok (0, 1, 0, 0) := by decide +kernel
example : encArms (crossSupport .neighbour 1 5 1 5 exImg 0 1) = (1, 0, 0, 0) := by decide +kernel

end Pandora.C11Kernels
