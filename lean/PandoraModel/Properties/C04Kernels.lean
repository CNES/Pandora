/-
  C04 — the DECISIONS of `pandora/criteria.py` REGENERATED from the Python source
  (`Generated/KernelsCriteria.lean`, written by translator/gen_kernels_criteria.py with translator/pyexpr.py's typed
  tree) are equal, for all integers (no bound on any size or coordinate), to the hand model `Model/Criteria.lean` —
  one theorem per function of criteria.py, each about the whole statement list of that function (which predicate feeds
  which constant, under which branch); through `Lemmas/C04Criteria.lean` the set statements of the property then hold of
  the generated predicates.

  The proofs unfold both sides and decide the resulting linear integer arithmetic: flipped comparisons, commuted `&`
  operands, extra locals of the source still prove; a changed comparison, `&`↔`|`, a shifted bound, a dropped `offset`,
  swapped `d_min`/`d_max`, a swapped constant do not.
-/
import PandoraModel.Generated.KernelsCriteria
import PandoraModel.Lemmas.C04Criteria
import PandoraModel.Lemmas.PyExprRules

namespace Pandora.C04Kernels
open Pandora.Criteria Pandora.Flags Pandora.C04 Pandora.PyExpr
open Pandora.Generated.KernelsCriteria

/-- **the translated first part of `validity_mask`, for one column, is the hand model**: the flag word of the column
    and its membership in `bit_1`, for every coordinate origin, width, interval and offset -/
theorem validityMaskCol_eq (I : Input) (c : Nat) :
    validityMaskCol (I.colAt c) (I.colAt 0) I.colLast I.dmin I.dmax (I.off : Int) = ((vm1 I c : Int), vmBit1 I c) := by
  unfold validityMaskCol vm1 vmBit1 vmBit2 rightIncompleteRange rightNodataOrRangeMissing
  -- the sign case of the model first: what is left in each has two tests on either side
  by_cases h1 : I.dmax < 0 <;> by_cases h2 : 0 < I.dmin <;>
    simp only [h1, h2, gt_iff_lt, ge_iff_le, decide_true, decide_false, if_true, if_false, Bool.false_eq_true,
      Prod.mk.injEq, Bool.and_eq_true, Bool.or_eq_true, decide_eq_true_eq, and_true] <;>
    split_ifs <;> omega

/-- bit_1 of the generated function ⇔ no disparity of the interval has its window inside the right image -/
theorem validityMaskCol_bit1_iff (I : Input) (c : Nat) (hc : ColInterior I c) (hd : I.dmin ≤ I.dmax) :
    (validityMaskCol (I.colAt c) (I.colAt 0) I.colLast I.dmin I.dmax (I.off : Int)).2 = true ↔ inSet I c = [] := by
  rw [validityMaskCol_eq]; exact vmBit1_iff I c hc hd

/-- the flag word of the generated function is `4·[part of the interval inside, part outside] + 2·[nothing inside]` -/
theorem validityMaskCol_flag (I : Input) (c : Nat) (hc : ColInterior I c) (hd : I.dmin ≤ I.dmax) :
    ∃ b2 b1 : Bool,
      (b2 = true ↔ (inSet I c ≠ [] ∧ ∃ d : Int, I.dmin ≤ d ∧ d ≤ I.dmax ∧ inIdx I c d = false))
      ∧ (b1 = true ↔ inSet I c = [])
      ∧ (validityMaskCol (I.colAt c) (I.colAt 0) I.colLast I.dmin I.dmax (I.off : Int)).1
          = (if b2 then 4 else 0) + (if b1 then 2 else 0) := by
  refine ⟨vmBit2 I c, vmBit1 I c, vmBit2_iff I c hc hd, vmBit1_iff I c hc hd, ?_⟩
  rw [validityMaskCol_eq]
  simp only [vm1, rightIncompleteRange, rightNodataOrRangeMissing]
  cases vmBit1 I c <;> cases vmBit2 I c <;> rfl

/-- class of a mask code as `criteria.py` tests it (`== no_data_mask` is what the dilation reads) -/
def clsOfCode (m noData valid : Int) : Cls :=
  if m = noData then .nodata else if m = valid then .valid else .invalid

theorem clsOfCode_invalid_iff (m nd v : Int) : clsOfCode m nd v = Cls.invalid ↔ (¬ m = nd ∧ ¬ m = v) := by
  unfold clsOfCode
  by_cases h1 : m = nd
  · simp [h1]
  · by_cases h2 : m = v
    · rw [if_neg h1, if_pos h2]; simp [h2]
    · rw [if_neg h1, if_neg h2]; simp [h1, h2]

theorem leftMaskedPred_eq (m nd v : Int) : leftMaskedPred m nd v = (clsOfCode m nd v == Cls.invalid) := by
  unfold leftMaskedPred
  rw [Bool.eq_iff_iff, beq_iff_eq, clsOfCode_invalid_iff]
  simp only [Bool.and_eq_true, Bool.not_eq_true', decide_eq_false_iff_not]

theorem rightMaskedPred_eq (m nd v : Int) : rightMaskedPred m nd v = (clsOfCode m nd v == Cls.invalid) := by
  unfold rightMaskedPred
  rw [Bool.eq_iff_iff, beq_iff_eq, clsOfCode_invalid_iff]
  simp only [Bool.and_eq_true, Bool.not_eq_true', decide_eq_false_iff_not]

/-- **both `+=` of `allocate_left_mask`**, for a pixel whose mask cell has the code `m` -/
theorem allocLeftPx_eq (I : Input) (f r c : Nat) (m nd v : Int) (hm : I.mL r c = clsOfCode m nd v) :
    allocLeftPx (f : Int) (dilated I.rows I.cols I.off I.mL r c) m nd v = (allocLeft I f r c : Int) := by
  unfold allocLeftPx allocLeft leftNodataOrBorder inValidityMaskLeft
  rw [hm]
  have hk := clsOfCode_invalid_iff m nd v
  generalize dilated I.rows I.cols I.off I.mL r c = dl
  generalize clsOfCode m nd v = k at hk ⊢
  simp only [Bool.and_eq_true, Bool.not_eq_true', decide_eq_false_iff_not, ← hk, beq_iff_eq]
  cases dl <;> simp only [Bool.false_eq_true, if_true, if_false] <;> split_ifs <;> omega

/-- `valid_index` of the loop (array indices: `col_range[0] = 0`, `col_range[-1] = cols − 1`) -/
theorem validIndex_eq (I : Input) (c : Nat) (dsp : Int) :
    validIndex (c : Int) 0 ((I.cols : Int) - 1) dsp (I.off : Int) = inIdx I c dsp := by
  unfold validIndex inIdx
  rw [Bool.eq_iff_iff]
  simp only [Bool.and_eq_true, decide_eq_true_eq]
  omega

theorem validIndex_iff (I : Input) (c : Nat) (dsp : Int) :
    validIndex (c : Int) 0 ((I.cols : Int) - 1) dsp (I.off : Int) = true
      ↔ (I.off : Int) ≤ (c : Int) + dsp ∧ (c : Int) + dsp ≤ (I.cols : Int) - 1 - (I.off : Int) := by
  rw [validIndex_eq]; exact inIdx_iff I c dsp

/-- `len(range(d_min, d_max + 1))` is the number of iterations of the model's loop (also for an empty range) -/
theorem rangeLen_eq (a b : Int) : rangeLen a b = ((dispList a b).length : Int) := by
  rw [length_dispList, rangeLen, imax_eq_max]
  omega

/-- **the body of the loop over the disparities, for one pixel**: the counters `b_2_7` / `no_data_right`, their reset
    on the `bit_1` columns, the two `== len(range(…))` tests and the constants they add are the model's `rightIter`;
    the right cells are gathered at column `c + dsp` -/
theorem rightIterPx_eq (I : Input) (r c : Nat) (st : RState) (dsp : Int) :
    rightIterPx (c : Int) 0 ((I.cols : Int) - 1) dsp (I.off : Int) I.dmin I.dmax (vmBit1 I c)
        (if rInvAt I r ((c : Int) + dsp) then 1 else 0) (rDilAt I r ((c : Int) + dsp))
        (st.b27 : Int) (st.ndr : Int) (st.flag : Int)
      = (((rightIter I r c (dispList I.dmin I.dmax).length st dsp).b27 : Int),
         ((rightIter I r c (dispList I.dmin I.dmax).length st dsp).ndr : Int),
         ((rightIter I r c (dispList I.dmin I.dmax).length st dsp).flag : Int), (c : Int) + dsp) := by
  have hn := rangeLen_eq I.dmin I.dmax
  have hv := validIndex_eq I c dsp
  unfold rangeLen at hn
  unfold validIndex at hv
  unfold rightIterPx rightIter inValidityMaskRight rightNodataOrRangeMissing
  dsimp only [] at hv ⊢
  simp only [hn, hv, Prod.mk.injEq]
  generalize (dispList I.dmin I.dmax).length = n
  generalize inIdx I c dsp = v
  generalize vmBit1 I c = b1
  generalize rInvAt I r ((c : Int) + dsp) = ri
  generalize rDilAt I r ((c : Int) + dsp) = rd
  obtain ⟨b, nd, f⟩ := st
  -- the two counters first (a truth table each); the `== len` tests then read them through `hb`, `hnd`
  refine (fun hb hnd => ⟨hb, hnd, ?flag, trivial⟩) ?b27 ?ndr
  case b27 => cases v <;> cases b1 <;> cases ri <;> rfl
  case ndr => cases v <;> cases b1 <;> cases rd <;> rfl
  case flag =>
    rw [hb, hnd]
    generalize (if b1 = true then 0 else b + _) = x
    generalize (if b1 = true then 0 else nd + _) = y
    simp only [decide_eq_true_eq, beq_iff_eq, Int.natCast_inj]
    split_ifs <;> omega

/-- **`mask_invalid_variable_disparity_range`: the update of a pixel whose costs are all NaN** -/
theorem maskInvalidPx_eq (f : Nat) : maskInvalidPx (f : Int) = (maskInvalidVar true f : Int) := by
  unfold maskInvalidPx maskInvalidVar rightNodataOrRangeMissing
  dsimp only []
  rw [show pyBand = PyInterp.band from rfl, show (2 : Int) = ((2 : Nat) : Int) from rfl]
  simp only [PyInterp.band_eq_zero_iff, decide_eq_true_eq, beq_iff_eq, if_true]
  split <;> rfl

/-- **the four slice assignments of `mask_border`**, for a pixel of the image and a positive offset (the call sites
    test `offset > 0`: with `offset = 0` the slice `-0:` is the whole axis) -/
theorem maskBorderPx_eq (I : Input) (f r c : Nat) (ho : 0 < I.off) (hr : r < I.rows) (hc : c < I.cols) :
    maskBorderPx (r : Int) (c : Int) (I.rows : Int) (I.cols : Int) (I.off : Int) (f : Int)
      = (maskBorder I f r c : Int) := by
  -- the sign tests of the slice bounds `offset` and `-offset`, decided before the four assignments are split
  have hpos : ¬ (I.off : Int) < 0 := by omega
  have hneg : -(I.off : Int) < 0 := by omega
  unfold maskBorderPx maskBorder inBorder leftNodataOrBorder pySlice pySliceFrom pySliceTo pySliceBound
  simp only [if_pos ho, if_pos hneg, if_neg hpos, Bool.and_eq_true, Bool.or_eq_true, decide_eq_true_eq]
  split_ifs <;> omega

/-- a 7-column row starting at coordinate 3, window 3, interval [-3, -1]: columns 0..2 of the interior get 2 / 4 / 0 -/
def exI : Input :=
  { rows := 3, cols := 7, off := 1, col0 := 3, dmin := -3, dmax := -1, hasL := true,
    mL := fun r c => if (r, c) = (1, 2) then Cls.invalid else Cls.valid, hasR := true,
    mR := fun _ c => if c = 2 then Cls.invalid else Cls.valid }

example : (List.range 7).map (fun c => validityMaskCol (exI.colAt c) (exI.colAt 0) exI.colLast exI.dmin exI.dmax exI.off)
    = [(2, true), (2, true), (4, false), (4, false), (0, false), (0, false), (0, false)] := by decide +kernel
example : ColInterior exI 2 ∧ exI.dmin ≤ exI.dmax := by unfold ColInterior; decide
example : leftMaskedPred 2 1 0 = true ∧ leftMaskedPred 1 1 0 = false ∧ leftMaskedPred 0 1 0 = false := by decide
example : exI.mL 1 2 = clsOfCode 2 1 0 := by decide
example : allocLeftPx 4 (dilated exI.rows exI.cols exI.off exI.mL 1 2) 2 1 0 = 68 := by decide +kernel
example : rightIterPx 3 0 6 (-1) 1 (-3) (-1) false 1 false 2 0 4 = (3, 0, 132, 2) := by decide +kernel
example : maskInvalidPx 4 = 6 ∧ maskInvalidPx 6 = 6 := by decide +kernel
example : maskBorderPx 1 1 3 7 1 70 = 70 ∧ maskBorderPx 1 6 3 7 1 70 = 1 ∧ maskBorderPx 0 3 3 7 1 70 = 1 := by decide +kernel

end Pandora.C04Kernels
