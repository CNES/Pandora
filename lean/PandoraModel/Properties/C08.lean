/-
  C08 — Right-image products equal the left products of the mirrored problem.

  The wiring of every run callback is regenerated from pandora/state_machine.py on every run
  (`Generated/Wiring.lean`).  It is proved (decide, over the generated table) that each callback
  repeats its left-data operations on the exchanged data with no interference between the two sides,
  and (for any meaning of the operations, any store, any sequence of callbacks — induction) that running
  on the exchanged store gives the exchanged result.
-/
import PandoraModel.Lemmas.Wiring
import PandoraModel.Generated.Wiring

namespace Pandora.C08
open Pandora.Wiring

def pairNames : List (String × String) → List String
  | [] => []
  | (a, b) :: ps => a :: b :: pairNames ps

theorem swapIn_ne (ps : List (String × String)) (x n : String) (hx : x ∉ pairNames ps) (hn : n ≠ x) : swapIn ps n ≠ x := by
  induction ps with
  | nil => exact hn
  | cons p ps ih =>
    obtain ⟨a, b⟩ := p
    simp only [pairNames, List.mem_cons, not_or] at hx
    unfold swapIn
    split
    · exact Ne.symm hx.2.1
    · split
      · exact Ne.symm hx.1
      · exact ih hx.2.2

theorem swapIn_invol (ps : List (String × String)) (hnd : (pairNames ps).Nodup) (n : String) :
    swapIn ps (swapIn ps n) = n := by
  induction ps with
  | nil => rfl
  | cons p ps ih =>
    obtain ⟨a, b⟩ := p
    simp only [pairNames, List.nodup_cons, List.mem_cons, not_or] at hnd
    obtain ⟨⟨hab, ha⟩, hb, hps⟩ := hnd
    by_cases h1 : n = a
    · subst h1; simp [swapIn, Ne.symm hab]
    · by_cases h2 : n = b
      · subst h2; simp [swapIn, h1]
      · have hr : swapIn ((a, b) :: ps) n = swapIn ps n := by simp [swapIn, h1, h2]
        rw [hr]
        simp [swapIn, swapIn_ne ps a n ha h1, swapIn_ne ps b n hb h2, ih hps]

theorem swapName_invol (n : String) : swapName (swapName n) = n :=
  swapIn_invol swapPairs (by decide +kernel) n

theorem swapEffect_invol (e : Effect) : swapEffect (swapEffect e) = e := by
  cases e
  simp [swapEffect, List.map_map, Function.comp_def, swapName_invol]

theorem swapStore_invol {V : Type} (s : Store V) : swapStore (swapStore s) = s := by
  funext n; simp [swapStore, swapName_invol]

theorem assignFrom_swap {V : Type} (f : Nat → V) : ∀ (ts : List String) (i : Nat) (s : Store V),
    assignFrom (swapStore s) f i (ts.map swapName) = swapStore (assignFrom s f i ts) := by
  intro ts
  induction ts with
  | nil => intro i s; rfl
  | cons t ts ih =>
    intro i s
    simp only [List.map_cons, assignFrom]
    rw [← ih]
    congr 1
    funext n
    simp only [swapStore]
    by_cases h : n = swapName t
    · simp [h, swapName_invol]
    · have : ¬ swapName n = t := fun h' => h (by rw [← h', swapName_invol])
      simp [h, this]

theorem exec_swap {V : Type} (sem : Sem V) (e : Effect) (s : Store V) :
    exec sem (swapEffect e) (swapStore s) = swapStore (exec sem e s) := by
  unfold exec
  have hargs : (swapEffect e).args.map (swapStore s) = e.args.map s := by
    simp [swapEffect, List.map_map, Function.comp_def, swapStore, swapName_invol]
  simp only [hargs]
  exact assignFrom_swap _ e.targets 0 s

theorem execs_swap {V : Type} (sem : Sem V) : ∀ (es : List Effect) (s : Store V),
    execs sem (es.map swapEffect) (swapStore s) = swapStore (execs sem es s) := by
  intro es
  induction es with
  | nil => intro s; rfl
  | cons e es ih =>
    intro s
    simp only [List.map_cons, execs, List.foldl_cons]
    rw [exec_swap]
    exact ih _

/-- two effects of which neither writes what the other reads or writes commute: on a target of one of them that effect
    reads arguments the other did not write, and the other leaves the attribute alone -/
theorem exec_comm {V : Type} (sem : Sem V) (a b : Effect) (h : indep a b = true) (s : Store V) :
    exec sem a (exec sem b s) = exec sem b (exec sem a s) := by
  simp only [indep, Bool.and_eq_true, List.all_eq_true, Bool.not_eq_true', List.contains_eq_mem,
    decide_eq_false_iff_not] at h
  obtain ⟨hab, hba⟩ := h
  have argsA : ∀ x ∈ a.args, exec sem b s x = s x := fun x hx => exec_frame sem b s fun hxb => (hba x hxb).1 hx
  have argsB : ∀ x ∈ b.args, exec sem a s x = s x := fun x hx => exec_frame sem a s fun hxa => (hab x hxa).1 hx
  funext n
  by_cases hna : n ∈ a.targets
  · rw [exec_congr sem a _ s argsA (.inl hna), exec_frame sem b _ (hab n hna).2]
  · rw [exec_frame sem a _ hna]
    by_cases hnb : n ∈ b.targets
    · rw [exec_congr sem b _ s argsB (.inl hnb)]
    · rw [exec_frame sem b _ hnb, exec_frame sem b _ hnb, exec_frame sem a _ hna]

theorem exec_execs_comm {V : Type} (sem : Sem V) (x : Effect) : ∀ (ys : List Effect) (s : Store V),
    (∀ y ∈ ys, indep x y = true) → exec sem x (execs sem ys s) = execs sem ys (exec sem x s) := by
  intro ys
  induction ys with
  | nil => intro s _; rfl
  | cons y ys ih =>
    intro s h
    simp only [execs, List.foldl_cons]
    have := ih (exec sem y s) (fun z hz => h z (by simp [hz]))
    simp only [execs] at this
    rw [this, exec_comm sem x y (h y (by simp))]

theorem execs_comm {V : Type} (sem : Sem V) : ∀ (xs ys : List Effect) (s : Store V),
    crossIndep xs ys = true → execs sem ys (execs sem xs s) = execs sem xs (execs sem ys s) := by
  intro xs
  induction xs with
  | nil => intro ys s _; rfl
  | cons x xs ih =>
    intro ys s h
    simp only [crossIndep, List.all_cons, Bool.and_eq_true] at h
    have hx : ∀ y ∈ ys, indep x y = true := by simpa [List.all_eq_true] using h.1
    have hxs : crossIndep xs ys = true := h.2
    simp only [execs, List.foldl_cons]
    have e1 := ih ys (exec sem x s) hxs
    simp only [execs] at e1
    rw [e1]
    have e2 := exec_execs_comm sem x ys s hx
    simp only [execs] at e2
    rw [e2]

theorem execs_append {V : Type} (sem : Sem V) (a b : List Effect) (s : Store V) :
    execs sem (a ++ b) s = execs sem b (execs sem a s) := by
  simp [execs, List.foldl_append]

theorem neutral_execs_swap {V : Type} (sem : Sem V) (zs : List Effect) (s : Store V) (h : zs.all isNeutral = true) :
    execs sem zs (swapStore s) = swapStore (execs sem zs s) := by
  have hmap : zs.map swapEffect = zs :=
    (List.map_congr_left fun z hz => of_decide_eq_true (List.all_eq_true.mp h z hz)).trans (List.map_id zs)
  rw [← execs_swap, hmap]

theorem symParts_equivariant {V : Type} (sem : Sem V) (x z : List Effect)
    (hci : crossIndep x (x.map swapEffect) = true) (hz : z.all isNeutral = true) (s : Store V) :
    execs sem (x ++ x.map swapEffect ++ z) (swapStore s)
      = swapStore (execs sem (x ++ x.map swapEffect ++ z) s) := by
  rw [execs_append, execs_append, execs_append, execs_append]
  have h1 : execs sem x (swapStore s) = swapStore (execs sem (x.map swapEffect) s) := by
    have := execs_swap sem (x.map swapEffect) s
    simpa [List.map_map, Function.comp_def, swapEffect_invol] using this
  rw [h1, execs_swap sem x, neutral_execs_swap sem z _ hz, execs_comm sem x (x.map swapEffect) s hci]


def Equivariant {V : Type} (sem : Sem V) (es : List Effect) : Prop :=
  ∀ s : Store V, execs sem es (swapStore s) = swapStore (execs sem es s)

theorem Equivariant.append {V : Type} {sem : Sem V} {a b : List Effect}
    (ha : Equivariant sem a) (hb : Equivariant sem b) : Equivariant sem (a ++ b) := by
  intro s
  rw [execs_append, execs_append, ha, hb]

theorem Equivariant.nil {V : Type} (sem : Sem V) : Equivariant sem [] := fun _ => rfl

theorem symBlock_equivariant {V : Type} (sem : Sem V) (b : List Effect) (h : symBlock b = true) :
    Equivariant sem b := by
  unfold symBlock at h
  simp only [Bool.and_eq_true, decide_eq_true_eq] at h
  obtain ⟨⟨hy, hz⟩, hci⟩ := h
  generalize hk : (b.length - (b.filter isNeutral).length) / 2 = k at hy hz hci
  have hb : b = b.take k ++ (b.take k).map swapEffect ++ b.drop (2 * k) := by
    rw [← hy, List.append_assoc, Nat.two_mul, ← List.drop_drop, List.take_append_drop, List.take_append_drop]
  intro s
  rw [hb]
  have hci' : crossIndep (b.take k) ((b.take k).map swapEffect) = true := hy ▸ hci
  exact symParts_equivariant sem (b.take k) (b.drop (2 * k)) hci' hz s

def nonOpt (cb : Callback) : List Effect := cb.right.filter (fun e => !e.optional)
def opt (cb : Callback) : List Effect := cb.right.filter (fun e => e.optional)

/-- the wiring of a callback is left/right symmetric: the right part repeats the left part on the
    exchanged data (then the optional operations, symmetric among themselves), the trailing part is
    symmetric, and the two sides never touch each other's data -/
def symCallback (cb : Callback) : Bool :=
  symBlock (cb.left ++ nonOpt cb) && symBlock (opt cb) && symBlock cb.after
    && decide (cb.right = nonOpt cb ++ opt cb)

theorem effectsOf_right (cb : Callback) (interp : Bool) (h : cb.right = nonOpt cb ++ opt cb) :
    effectsOf cb true interp = (cb.left ++ nonOpt cb) ++ (if interp then opt cb else []) ++ cb.after := by
  unfold effectsOf
  cases interp
  · simp only [if_true, Bool.or_false, Bool.false_eq_true, if_false, List.append_nil]
    rfl
  · have : cb.right.filter (fun e => !e.optional || true) = cb.right := by simp
    simp only [if_true, this]
    conv => lhs; rw [h]
    simp [List.append_assoc]

theorem symCallback_equivariant {V : Type} (sem : Sem V) (cb : Callback) (interp : Bool)
    (h : symCallback cb = true) : Equivariant sem (effectsOf cb true interp) := by
  unfold symCallback at h
  simp only [Bool.and_eq_true, decide_eq_true_eq] at h
  obtain ⟨⟨⟨h1, h2⟩, h3⟩, h4⟩ := h
  rw [effectsOf_right cb interp h4]
  apply Equivariant.append
  · apply Equivariant.append (symBlock_equivariant sem _ h1)
    cases interp
    · exact Equivariant.nil sem
    · exact symBlock_equivariant sem _ h2
  · exact symBlock_equivariant sem _ h3

theorem wiring_callbacks :
    Generated.Wiring.callbacks.map (·.name) =
      ["matching_cost_prepare", "matching_cost_run", "aggregation_run", "semantic_segmentation_run",
       "optimization_run", "disparity_run", "filter_run", "refinement_run", "validation_run",
       "run_multiscale", "cost_volume_confidence_run"] := by decide +kernel

/-- `run_prepare` derives the right interval as (-max, -min) -/
theorem prepare_mirrors_interval : Generated.Wiring.prepareRightIntervalNegatedSwapped = true := by decide

def ccL : Effect := { targets := ["left_disparity"], fn := "disparity_checking", args := ["left_disparity", "right_disparity"] }
def interpL : Effect := { targets := ["left_disparity"], fn := "interpolated_disparity", args := ["left_disparity"], optional := true }

/-- the callback table read once: the validation callback of the source has exactly this shape — cross-check
    left against right, then right against the (already checked) left, then — optionally — fill both —; every
    other callback except `semantic_segmentation_run` is left/right symmetric -/
theorem wiring_facts : ∀ cb ∈ Generated.Wiring.callbacks,
    if cb.name = "validation_run" then
      (cb.left, cb.right, cb.after) = ([ccL], [swapEffect ccL, interpL, swapEffect interpL], [])
    else cb.name = "semantic_segmentation_run" ∨ symCallback cb = true := by decide +kernel

/-- every run callback of the source is left/right symmetric, except `validation_run` (its right check reads the already
    checked left map: `validation_equivariant`) and `semantic_segmentation_run` (its right call reads the left image its
    left call has just replaced: excluded from `mirror`) -/
theorem wiring_symmetric :
    (Generated.Wiring.callbacks.filter fun cb =>
        cb.name != "validation_run" && cb.name != "semantic_segmentation_run").all symCallback = true := by
  simp only [List.all_eq_true, List.mem_filter, Bool.and_eq_true, bne_iff_ne, ne_eq, and_imp]
  intro cb hm hv hs
  have := wiring_facts cb hm
  rw [if_neg hv] at this
  exact this.resolve_left hs

/-- what C07 establishes about cross-checking, stated on the abstract semantics: the result depends on
    the other side only through its disparity map, and the disparity map of the checked side is kept -/
structure CrossCheckFacts {V W : Type} (sem : Sem V) (dispOf : V → W) : Prop where
  reads_disp_only : ∀ a b b', dispOf b = dispOf b' →
    sem "disparity_checking" 0 [a, b] = sem "disparity_checking" 0 [a, b']
  keeps_disp : ∀ a b, dispOf (sem "disparity_checking" 0 [a, b]) = dispOf a

theorem exec_single {V : Type} (sem : Sem V) (t fn : String) (args : List String) (o : Bool) (s : Store V) :
    exec sem { targets := [t], fn := fn, args := args, optional := o } s
      = fun n => if n = t then sem fn 0 (args.map s) else s n := by
  rfl

theorem validation_cc_equivariant {V W : Type} (sem : Sem V) (dispOf : V → W)
    (hcc : CrossCheckFacts sem dispOf) : Equivariant sem [ccL, swapEffect ccL] := by
  intro s
  have hL : swapName "left_disparity" = "right_disparity" := by decide +kernel
  have hR : swapName "right_disparity" = "left_disparity" := by decide +kernel
  have hsw : swapEffect ccL =
      { targets := ["right_disparity"], fn := "disparity_checking", args := ["right_disparity", "left_disparity"] } := by
    decide +kernel
  rw [hsw]
  simp only [execs, List.foldl_cons, List.foldl_nil, ccL, exec_single]
  funext n
  simp only [swapStore, List.map_cons, List.map_nil]
  have hne : ("right_disparity" : String) ≠ "left_disparity" := by decide +kernel
  by_cases h1 : n = "right_disparity"
  · subst h1
    simp only [hR, hL, if_true, hne, if_false]
    -- mirrored run: right' = cc(s L, cc(s R, s L)) ; original left' = cc(s L, s R)
    exact hcc.reads_disp_only _ _ _ (hcc.keeps_disp _ _)
  · by_cases h2 : n = "left_disparity"
    · subst h2
      simp only [hL, hR, hne.symm, if_false, if_true, hne]
      exact (hcc.reads_disp_only _ _ _ (hcc.keeps_disp _ _)).symm
    · have h3 : swapName n ≠ "right_disparity" := fun h => h2 (by rw [← swapName_invol n, h, hR])
      have h4 : swapName n ≠ "left_disparity" := fun h => h1 (by rw [← swapName_invol n, h, hL])
      simp [h1, h2, h3, h4]

theorem validation_equivariant {V W : Type} (sem : Sem V) (dispOf : V → W)
    (hcc : CrossCheckFacts sem dispOf) (cb : Callback)
    (hshape : (cb.left, cb.right, cb.after) = ([ccL], [swapEffect ccL, interpL, swapEffect interpL], []))
    (interp : Bool) : Equivariant sem (effectsOf cb true interp) := by
  simp only [Prod.mk.injEq] at hshape
  obtain ⟨hl, hr, ha⟩ := hshape
  have hopt : symBlock [interpL, swapEffect interpL] = true := by decide +kernel
  cases interp
  · have : effectsOf cb true false = [ccL, swapEffect ccL] := by
      simp only [effectsOf, hl, hr, ha]; decide +kernel
    rw [this]
    exact validation_cc_equivariant sem dispOf hcc
  · have : effectsOf cb true true = [ccL, swapEffect ccL] ++ [interpL, swapEffect interpL] := by
      simp only [effectsOf, hl, hr, ha]; decide +kernel
    rw [this]
    exact Equivariant.append (validation_cc_equivariant sem dispOf hcc) (symBlock_equivariant sem _ hopt)

/-- a run is a sequence of callback executions (which ones, and in which order, is C01's subject and
    does not depend on the data) -/
def runSeq {V : Type} (sem : Sem V) : List (Callback × Bool) → Store V → Store V
  | [], s => s
  | (cb, interp) :: rest, s => runSeq sem rest (runCb sem true interp cb s)

theorem runSeq_equivariant {V : Type} (sem : Sem V) :
    ∀ (seq : List (Callback × Bool)),
      (∀ p ∈ seq, Equivariant sem (effectsOf p.1 true p.2)) →
      ∀ s : Store V, runSeq sem seq (swapStore s) = swapStore (runSeq sem seq s) := by
  intro seq
  induction seq with
  | nil => intro _ s; rfl
  | cons p rest ih =>
    intro h s
    obtain ⟨cb, interp⟩ := p
    simp only [runSeq, runCb]
    rw [h (cb, interp) (by simp)]
    exact ih (fun q hq => h q (by simp [hq])) _

/-- **Mirror theorem.** For every meaning of the step operations that satisfies the cross-checking
    facts, every store and every sequence of callbacks of the source other than
    `semantic_segmentation_run`: running on the exchanged data (images, cost volumes, maps and
    intervals exchanged) produces exactly the exchanged products — the right products of a run are
    the left products of the mirrored run and conversely. -/
theorem mirror {V W : Type} (sem : Sem V) (dispOf : V → W) (hcc : CrossCheckFacts sem dispOf)
    (seq : List (Callback × Bool))
    (hsrc : ∀ p ∈ seq, p.1 ∈ Generated.Wiring.callbacks ∧ p.1.name ≠ "semantic_segmentation_run")
    (s : Store V) :
    runSeq sem seq (swapStore s) = swapStore (runSeq sem seq s) := by
  apply runSeq_equivariant
  intro p hp
  obtain ⟨hmem, hne⟩ := hsrc p hp
  by_cases hv : p.1.name = "validation_run"
  · have hshape := wiring_facts p.1 hmem
    rw [if_pos hv] at hshape
    exact validation_equivariant sem dispOf hcc p.1 hshape p.2
  · apply symCallback_equivariant
    have hall := wiring_facts p.1 hmem
    rw [if_neg hv] at hall
    exact hall.resolve_left hne

theorem right_eq_mirror_left {V W : Type} (sem : Sem V) (dispOf : V → W) (hcc : CrossCheckFacts sem dispOf)
    (seq : List (Callback × Bool))
    (hsrc : ∀ p ∈ seq, p.1 ∈ Generated.Wiring.callbacks ∧ p.1.name ≠ "semantic_segmentation_run")
    (s : Store V) :
    runSeq sem seq (swapStore s) "left_disparity" = runSeq sem seq s "right_disparity"
    ∧ runSeq sem seq (swapStore s) "right_disparity" = runSeq sem seq s "left_disparity"
    ∧ runSeq sem seq (swapStore s) "left_cv" = runSeq sem seq s "right_cv" := by
  rw [mirror sem dispOf hcc seq hsrc s]
  refine ⟨?_, ?_, ?_⟩ <;> simp only [swapStore] <;> congr 1

/-- the initial store of the mirrored problem is the exchanged initial store: images exchanged, interval
    negated and swapped (`neg` involutive) -/
def initStore {V : Type} (none : V) (neg : V → V) (left right dmin dmax : V) : Store V := fun n =>
  if n = "left_img" then left else if n = "right_img" then right
  else if n = "disp_min" then dmin else if n = "disp_max" then dmax
  else if n = "right_disp_min" then neg dmax else if n = "right_disp_max" then neg dmin
  else if n = "dmin_user" then dmin else if n = "dmax_user" then dmax
  else if n = "dmin_user_right" then neg dmax else if n = "dmax_user_right" then neg dmin
  else none

theorem initStore_mirror {V : Type} (none : V) (neg : V → V) (hneg : ∀ x, neg (neg x) = x)
    (left right dmin dmax : V) (n : String)
    (hn : n ∈ ["left_img", "right_img", "disp_min", "disp_max", "right_disp_min", "right_disp_max",
               "dmin_user", "dmax_user", "dmin_user_right", "dmax_user_right"]) :
    swapStore (initStore none neg left right dmin dmax) n
      = initStore none neg right left (neg dmax) (neg dmin) n := by
  simp only [List.mem_cons, List.mem_nil_iff, or_false] at hn
  -- the ten names through `swapName` in one evaluation: `decide` on strings is paid per call
  have e : ["left_img", "right_img", "disp_min", "disp_max", "right_disp_min", "right_disp_max",
      "dmin_user", "dmax_user", "dmin_user_right", "dmax_user_right"].map swapName =
      ["right_img", "left_img", "right_disp_min", "right_disp_max", "disp_min", "disp_max",
       "dmin_user_right", "dmax_user_right", "dmin_user", "dmax_user"] := by decide +kernel
  simp only [List.map_cons, List.map_nil, List.cons.injEq, and_true] at e
  obtain ⟨e1, e2, e3, e4, e5, e6, e7, e8, e9, e10⟩ := e
  rcases hn with h | h | h | h | h | h | h | h | h | h <;> subst h <;>
    simp [swapStore, initStore, hneg, e1, e2, e3, e4, e5, e6, e7, e8, e9, e10]

end Pandora.C08
