/-
  C02 — the per-disparity index decisions of `Census / SadSsd / Zncc.compute_cost_volume`, REGENERATED from the Python
  source (`Generated/KernelsMc.lean`, written by translator/gen_kernels_mc.py with translator/pyexpr.py), are the ones
  the hand model `MC.rawSadSsd / rawCensus / rawZncc` uses — for every integer numerator, every positive subpix, every
  odd window and every interval.  Python's `%` takes the sign of the divisor: for a NEGATIVE disparity `-5/4` the shifted
  image is number 3, not 1.
-/
import PandoraModel.Generated.KernelsMc
import PandoraModel.Properties.C02Kernels

-- the second alternative of each `first` below serves the documented rewrite H2 of DESIGN_NOTES/C02.md (`int(self._subpix * (disp % 1))`);
-- on the source as it is the linters call it unused
set_option linter.unusedTactic false
set_option linter.unreachableTactic false

namespace Pandora.C02KernelsMc
open Pandora.MC Pandora.PyExpr Pandora.C02Kernels
open Pandora.Generated

/-- Python's `(k/sp) % 1`, times `sp`, truncated: the remainder of the Euclidean division of `k` by `sp` -/
theorem iRight_core (k : Int) (sp : Nat) (hs : 0 < sp) :
    rtrunc (((k : ℚ) / (sp : ℚ) - (((rfloor ((k : ℚ) / (sp : ℚ) / (1 : ℚ))) : Int) : ℚ) * (1 : ℚ)) * (((sp : Int)) : ℚ))
      = k % (sp : Int) := by
  have hs' : (sp : ℚ) ≠ 0 := by exact_mod_cast (Nat.pos_iff_ne_zero.mp hs)
  rw [div_one, rfloor_div k sp]
  unfold fdiv
  have h : ((k : ℚ) / (sp : ℚ) - (((k / (sp : Int) : Int)) : ℚ) * (1 : ℚ)) * (((sp : Int)) : ℚ) = ((k % (sp : Int) : Int) : ℚ) := by
    rw [Int.emod_def, mul_one, Int.cast_natCast, sub_mul, div_mul_cancel₀ _ hs', Int.cast_sub, Int.cast_mul, Int.cast_natCast, mul_comm]
  rw [h, rtrunc_intCast]

theorem iRight_core_comm (k : Int) (sp : Nat) (hs : 0 < sp) :
    rtrunc ((((sp : Int)) : ℚ) * ((k : ℚ) / (sp : ℚ) - (((rfloor ((k : ℚ) / (sp : ℚ) / (1 : ℚ))) : Int) : ℚ) * (1 : ℚ)))
      = k % (sp : Int) := by
  rw [mul_comm]; exact iRight_core k sp hs

theorem iRightCensus_eq (k : Int) (sp : Nat) (hs : 0 < sp) :
    KernelsMc.iRightCensus ((k : ℚ) / (sp : ℚ)) (sp : Int) = ((MC.iRight k sp : Nat) : Int) := by
  rw [iRight_eq k sp hs]; unfold KernelsMc.iRightCensus
  first | exact iRight_core k sp hs | exact iRight_core_comm k sp hs

theorem iRightSadSsd_eq (k : Int) (sp : Nat) (hs : 0 < sp) :
    KernelsMc.iRightSadSsd ((k : ℚ) / (sp : ℚ)) (sp : Int) = ((MC.iRight k sp : Nat) : Int) := by
  rw [iRight_eq k sp hs]; unfold KernelsMc.iRightSadSsd
  first | exact iRight_core k sp hs | exact iRight_core_comm k sp hs

theorem iRightZncc_eq (k : Int) (sp : Nat) (hs : 0 < sp) :
    KernelsMc.iRightZncc ((k : ℚ) / (sp : ℚ)) (sp : Int) = ((MC.iRight k sp : Nat) : Int) := by
  rw [iRight_eq k sp hs]; unfold KernelsMc.iRightZncc
  first | exact iRight_core k sp hs | exact iRight_core_comm k sp hs

theorem iRight_lt (k : Int) (sp : Nat) (hs : 0 < sp) : MC.iRight k sp < sp := by
  have h := iRight_eq k sp hs
  have : k % (sp : Int) < (sp : Int) := Int.emod_lt_of_pos k (by exact_mod_cast hs)
  omega

/-- negative disparities: the shifted image is chosen by the remainder towards −∞, not by the fractional digits -/
example : KernelsMc.iRightSadSsd ((-5 : ℚ) / 4) 4 = 3 ∧ MC.iRight (-5) 4 = 3 := by decide +kernel

/-- the end of both slices: `max(x1 - int(w / 2) * 2, x0)` for an odd window `w` -/
theorem stdEnd_eq (x0 x1 : Int) (w : Nat) (hw : w % 2 = 1) :
    imax (x1 - rtrunc (((w : Int) : ℚ) / (2 : ℚ)) * 2) x0 = max (x1 - 2 * (MC.half w : Nat)) x0 := by
  have hh : (w : Int) / 2 * 2 = 2 * ((MC.half w : Nat) : Int) := by rw [two_mul_half w hw]; omega
  rw [rtrunc_half _ (Int.natCast_nonneg w), hh, imax_eq_max]

/-- a left column is stored by the zncc loop (`cv_crop[disp_index, point_p[0] : p_std[1], :]`) exactly when the model's
    test holds (odd window `w`, any interval) -/
theorem pStd_mem (p0 p1 q0 q1 c : Int) (w : Nat) (hw : w % 2 = 1) :
    (KernelsMc.pStd0 p0 p1 q0 q1 w ≤ c ∧ c < KernelsMc.pStd1 p0 p1 q0 q1 w) ↔ (p0 ≤ c ∧ c < p1 - 2 * (MC.half w : Nat)) := by
  rw [KernelsMc.pStd0, KernelsMc.pStd1, stdEnd_eq p0 p1 w hw]
  generalize 2 * ((MC.half w : Nat) : Int) = t
  omega

theorem qStd_eq (p0 p1 q0 q1 : Int) (w : Nat) (hw : w % 2 = 1) :
    KernelsMc.qStd0 p0 p1 q0 q1 w = q0 ∧ KernelsMc.qStd1 p0 p1 q0 q1 w = max (q1 - 2 * (MC.half w : Nat)) q0 :=
  ⟨rfl, stdEnd_eq q0 q1 w hw⟩

/-- the two slices have the same length whenever the two intervals have (the product `std_l * std_r` is well formed) -/
theorem std_lengths (p0 p1 q0 q1 : Int) (w : Nat) (hw : w % 2 = 1) (hlen : p1 - p0 = q1 - q0) :
    KernelsMc.pStd1 p0 p1 q0 q1 w - KernelsMc.pStd0 p0 p1 q0 q1 w = KernelsMc.qStd1 p0 p1 q0 q1 w - KernelsMc.qStd0 p0 p1 q0 q1 w := by
  rw [KernelsMc.pStd0, KernelsMc.pStd1, KernelsMc.qStd0, KernelsMc.qStd1, stdEnd_eq p0 p1 w hw, stdEnd_eq q0 q1 w hw]
  rw [← Int.sub_max_sub_right, ← Int.sub_max_sub_right, sub_self, sub_self, sub_right_comm p1, sub_right_comm q1, hlen]

example : KernelsMc.pStd1 0 7 2 9 3 = 5 ∧ (7 : Int) - 2 * (MC.half 3 : Nat) = 5 := by decide +kernel

/-- The wiring the model implements, in the words of the source:
    * every loop asks `point_interval` for the LEFT image first and the shifted right image number `i_right` second, at `disp`
      (`MC.pointInterval L.cols Rk.cols k sp` with `Rk = shiftRight R sp (iRight k sp)`);
    * it stores at plane `disp_index` (the position of `disp` in the disparity axis: `rawPlane x k` for the `k` of
      `dispRange`), columns `point_p[0] : point_p[1]` (zncc: `: p_std[1]`) — `pq.p0 ≤ c ∧ c < pq.p1`;
    * the pixel-wise functions read the left image on `point_p`, the right one on `point_q`
      (`L.px r c` against `Rk.px r (pq.q0 + (c - pq.p0))`), each with the band index looked up in ITS OWN image. -/
def expectedShapes : List (String × List (String × List String)) := [
  ("Census", [("point_interval", ["(point_p, point_q)", "left", "img_right_shift[i_right]", "disp"]),
              ("store", ["cv_crop", "disp_index", "point_p[0]:point_p[1]", ":"]),
              ("value", ["self.census_cost", "point_p", "point_q", "left", "img_right_shift[i_right]"])]),
  ("SadSsd", [("point_interval", ["(point_p, point_q)", "img_left", "img_right_shift[i_right]", "disp"]),
              ("store", ["cv", "disp_index", "point_p[0]:point_p[1]", ":"]),
              ("value", ["self._pixel_wise_methods[self._method]", "point_p", "point_q", "img_left", "img_right_shift[i_right]"])]),
  ("Zncc", [("point_interval", ["(point_p, point_q)", "img_left", "img_right_shift[i_right]", "disp"]),
            ("store", ["cv_crop", "disp_index", "point_p[0]:p_std[1]", ":"]),
            ("value", ["zncc_"])]),
  ("ad_cost", [("slices", ["img_left['im'].data[(:, point_p[0]:point_p[1])]",
                           "img_left['im'].data[(band_index_left, :, point_p[0]:point_p[1])]",
                           "img_right['im'].data[(:, point_q[0]:point_q[1])]",
                           "img_right['im'].data[(band_index_right, :, point_q[0]:point_q[1])]"]),
               ("bands", ["band_index_left = list(img_left.band_im.data).index(self._band)",
                          "band_index_right = list(img_right.band_im.data).index(self._band)"])]),
  ("sd_cost", [("slices", ["img_left['im'].data[(:, point_p[0]:point_p[1])]",
                           "img_left['im'].data[(band_index_left, :, point_p[0]:point_p[1])]",
                           "img_right['im'].data[(:, point_q[0]:point_q[1])]",
                           "img_right['im'].data[(band_index_right, :, point_q[0]:point_q[1])]"]),
               ("bands", ["band_index_left = list(img_left.band_im.data).index(self._band)",
                          "band_index_right = list(img_right.band_im.data).index(self._band)"])]),
  ("census_cost", [("slices", ["img_left['im'].data[(:, point_p[0]:point_p[1])]",
                               "img_right['im'].data[(:, point_q[0]:point_q[1])]"]),
                   ("bands", [])])
]

/-- a textual pin of what the loops combine with what, as the generator reads it off the source: a renamed local is a
    failing proof with no failing input; a swapped interval, image or band lookup is a failing proof AND a failing input of
    the differential check.  That the table is the wiring of the model is the reading given above `expectedShapes`. -/
theorem shapes_eq_model : KernelsMc.shapes = expectedShapes := rfl

end Pandora.C02KernelsMc
