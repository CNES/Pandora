/-
  C12 — the segment extraction of `pandora/interval_tools.py: interval_regularization` REGENERATED from the Python source
  (`Generated/KernelsRegul.lean: regulBorders`, whole-array numpy statements over `Model/PyRows.lean`) yields, for every
  ambiguity map, threshold and kernel size, the hand model's `Confidence.borders`; and the whole generated
  `interval_regularization` (segments → `create_connected_graph` → `graph_regularization`) is the hand model's for every
  input with a threshold `≤ 1` (what the configuration enforces; above 1 the source itself reads `border_right` out of
  bounds: a row then has a left end without a right end).
-/
import PandoraModel.Properties.C12KernelsGraphReg
import PandoraModel.Lemmas.IntervalRuns


namespace Pandora.C12KernelsRegul
open Pandora.Confidence Pandora.PyRows

/-- `np.diff` of the 0/1 row, positions of `-1`: the model's left ends -/
theorem whereEq_left (prev : Bool) (j : Nat) (flags : List Bool) :
    whereEq (-1) j (diffRow (b2i prev :: flags.map b2i)) = leftBorders prev j flags := by
  induction flags generalizing prev j with
  | nil => rfl
  | cons f fs ih =>
    simp only [List.map_cons, diffRow, whereEq, leftBorders, ih]
    cases prev <;> cases f <;> simp [b2i]

/-- positions of `+1`, minus one: the model's (inclusive) right ends -/
theorem whereEq_right (prev : Bool) (j : Nat) (flags : List Bool) :
    (whereEq 1 j (diffRow (b2i prev :: flags.map b2i))).map (fun c => c - 1) = rightBorders prev j flags := by
  induction flags generalizing prev j with
  | nil => rfl
  | cons f fs ih =>
    simp only [List.map_cons, diffRow, whereEq, rightBorders, List.map_append, ih]
    cases prev <;> cases f <;> simp [b2i]

theorem map_geThr_lastCol (thr : Rat) (m : List Val) :
    (if m.isEmpty then [] else m.take (m.length - 1) ++ [Val.num 1]).map (geThr thr)
      = (m.take (m.length - 1)).map (geThr thr) ++ (if m.isEmpty then [] else [decide (thr ≤ 1)]) := by
  cases m with
  | nil => rfl
  | cons x xs => simp [geThr]

theorem ge_lastCol_eq_confidentFlags (amb : Grid Val) (thr : Rat) (k : Nat) :
    ge (setLastCol (slidingNanmin (hstackConst 1 (k / 2) (k / 2) amb) k) 1) thr = amb.map (confidentFlags thr k) := by
  simp only [ge, setLastCol, slidingNanmin, hstackConst, List.map_map]
  apply List.map_congr_left
  intro row _
  simp only [Function.comp]
  exact map_geThr_lastCol thr _

theorem argwhere_left (fl : List (List Bool)) :
    argwhere (diffOnes fl) (-1) = fl.zipIdx.flatMap (fun p => (leftBorders true 0 p.1).map (fun c => (p.2, c))) := by
  simp only [argwhere, diffOnes, List.zipIdx_map, List.flatMap_map]
  apply List.flatMap_congr
  intro p _
  simp only [Prod.map_fst, Prod.map_snd, id]
  exact congrArg (List.map _) (whereEq_left true 0 p.1)

theorem argwhere_right (fl : List (List Bool)) :
    subCol1 (argwhere (diffOnes fl) 1) 1 = fl.zipIdx.flatMap (fun p => (rightBorders true 0 p.1).map (fun c => (p.2, c))) := by
  simp only [subCol1, argwhere, diffOnes, List.zipIdx_map, List.flatMap_map, List.map_flatMap, List.map_map]
  apply List.flatMap_congr
  intro p _
  simp only [Prod.map_fst, Prod.map_snd, id]
  rw [← whereEq_right true 0 p.1, List.map_map]
  rfl

theorem regulBorders_generated_eq (amb : Grid Val) (thr : Rat) (k : Nat) :
    Generated.KernelsRegul.regulBorders amb thr k = borders thr k amb := by
  simp only [Generated.KernelsRegul.regulBorders, ge_lastCol_eq_confidentFlags, argwhere_left, argwhere_right, borders, List.zipIdx_map,
    List.flatMap_map]
  rfl

/-- as many left ends as right ends (threshold `≤ 1`: the last flag of every row is set) -/
theorem length_borders (amb : Grid Val) (thr : Rat) (k : Nat) (h : thr ≤ 1) :
    (borders thr k amb).1.length = (borders thr k amb).2.length := by
  simp only [borders, List.length_flatMap, List.length_map]
  congr 1
  apply List.map_congr_left
  intro p _
  exact IntervalRuns.row_borders_length thr k p.1 h

/-- `interval_regularization`: the generated function (`np.nanquantile` read as the model's `nanQuantile`) is the hand
    model for every threshold `≤ 1` -/
theorem intervalRegularization_generated_eq (inf sup amb : Grid Val) (thr : Rat) (k depth : Nat) (q : Rat) (h : thr ≤ 1) :
    Generated.KernelsRegul.intervalRegularization nanQuantile inf sup amb thr k depth q
      = Confidence.intervalRegularization inf sup amb thr k depth q := by
  have hlen := length_borders amb thr k h
  rw [intervalRegularization_all_generated]
  simp only [Generated.KernelsRegul.intervalRegularization, regulBorders_generated_eq]
  have h1 : ((borders thr k amb).1.zip (borders thr k amb).2).map Prod.fst = (borders thr k amb).1 :=
    List.map_fst_zip (by omega)
  have h2 : ((borders thr k amb).1.zip (borders thr k amb).2).map Prod.snd = (borders thr k amb).2 :=
    List.map_snd_zip (by omega)
  have h3 : ((borders thr k amb).1.zip (borders thr k amb).2).length = (borders thr k amb).1.length := by
    simp [hlen]
  simp only [← cell_fst, ← cell_snd, h1, h2, h3]

/-- **quantile1_widens** about the whole generated `interval_regularization` -/
theorem quantile1_widens_whole_generated (inf sup amb : Grid Val) (thr : Rat) (k depth : Nat) (h : thr ≤ 1) :
    let out := Generated.KernelsRegul.intervalRegularization nanQuantile inf sup amb thr k depth 1
    (∀ r c a, C12.cell? inf r c = some (Val.num a) → ∃ a', C12.cell? out.1 r c = some (Val.num a') ∧ a' ≤ a)
    ∧ (∀ r c a, C12.cell? sup r c = some (Val.num a) → ∃ a', C12.cell? out.2 r c = some (Val.num a') ∧ a ≤ a') := by
  rw [intervalRegularization_generated_eq inf sup amb thr k depth 1 h]
  exact C12.intervalRegularization_widens inf sup amb thr k depth

end Pandora.C12KernelsRegul
