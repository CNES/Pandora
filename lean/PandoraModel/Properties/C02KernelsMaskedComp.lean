/-
  C02 / C04 — the GENERATED per-cell decisions of `cv_masked` (`Generated/KernelsCvMasked.lean`) folded over the
  disparities the way the source loops, then the generated interval test, give the NaN pattern of the model's cost volume;
  composed with `Properties/C04C02.lean`: a cost cell is NaN ⇔ it is not `computable`, stated about the generated decisions.
-/
import PandoraModel.Properties.C02KernelsMasked
import PandoraModel.Properties.C04C02

namespace Pandora.C02KernelsMasked
open Pandora.MC
open Pandora.Generated.KernelsCvMasked

abbrev NanVol := Int → Int → Nat → Bool

/-- the interval `point_interval` returns for the disparity `k / sp` (the model's; regenerated for C02 in KernelsGlue) -/
def pqOf (x : Input) (k : Int) : PQ := pointInterval x.L.cols (shiftRight x.R x.sp (iRight k x.sp)).cols k x.sp

/-- one iteration of the first loop of `cv_masked` on NaN-ness, built from the generated decision -/
def genStep (x : Input) (gmin : Int) (nv : NanVol) (k : Int) : NanVol := fun r c j =>
  if j = (k - gmin * (x.sp : Int)).toNat then
    (cvMaskedNanCell c (pqOf x k).p0 (pqOf x k).p1 (pqOf x k).q0 (pqOf x k).q1 (nv r c j)
      (maskRaster x.w x.L.rows x.L.cols x.mL r c).isNan
      (maskShift x.w x.R.rows x.R.cols x.mR (min 1 (iRight k x.sp)) r
        (cvMaskedNanCell c (pqOf x k).p0 (pqOf x k).p1 (pqOf x k).q0 (pqOf x k).q1 false false false).2).isNan).1
  else nv r c j

/-- the NaN pattern after `compute_cost_volume` + `cv_masked`, from the generated decisions -/
def genCvMaskedNan (x : Input) : NanVol :=
  let gmin := gridMin x.dminG x.L.rows x.L.cols
  let gmax := gridMax x.dmaxG x.L.rows x.L.cols
  let ks := dispRange gmin gmax x.sp
  fun r c j =>
    intervalNanCell (((gmin * (x.sp : Int) + j : Int) : ℚ) / (x.sp : ℚ)) (x.dminG r c : ℚ) (x.dmaxG r c : ℚ)
      ((ks.foldl (genStep x gmin) (fun r c j => (rawPlane x (ks.getD j 0) r c).isNan)) r c j)

theorem genStep_eq (x : Input) (gmin : Int) (cv : Volume) (k : Int) :
    genStep x gmin (fun r c j => (cv r c j).isNan) k = fun r c j => ((cvMaskedStep x gmin cv k) r c j).isNan := by
  funext r c j
  unfold genStep
  by_cases hj : j = (k - gmin * (x.sp : Int)).toNat
  · rw [if_pos hj, hj]
    exact (cvMaskedStep_isNan x gmin cv k r c).symm
  · rw [if_neg hj, cvMaskedStep_other x gmin cv k r c j hj]

/-- **the fold of the generated iteration is the NaN pattern of the model's first loop**, for every list of disparities
    and every starting volume -/
theorem cvMaskedFold_generated_eq (x : Input) (gmin : Int) (ks : List Int) (cv : Volume) (r c : Int) (j : Nat) :
    (ks.foldl (genStep x gmin) (fun r c j => (cv r c j).isNan)) r c j = ((ks.foldl (cvMaskedStep x gmin) cv) r c j).isNan := by
  induction ks generalizing cv with
  | nil => rfl
  | cons k ks ih =>
    rw [List.foldl_cons, List.foldl_cons, genStep_eq]
    exact ih (cvMaskedStep x gmin cv k)

theorem genCvMaskedNan_eq (x : Input) (hs : 0 < x.sp) (r c : Int) (j : Nat) :
    genCvMaskedNan x r c j = (costVolume x r c j).isNan := by
  unfold genCvMaskedNan costVolume
  rw [intervalMask_isNan x _ _ r c j hs, cvMaskedFold_generated_eq]

/-- **a cost cell is NaN ⇔ it is not computable, about the GENERATED decisions**: every measure, window, subpix, mask
    layout and grid the model covers (step_col = 1) -/
theorem generated_nan_iff_not_computable (x : Input) (h : Shape x)
    (hg : gridMin x.dminG x.L.rows x.L.cols ≤ gridMax x.dmaxG x.L.rows x.L.cols) (r c j : Nat)
    (hj : j < nDisp (gridMin x.dminG x.L.rows x.L.cols) (gridMax x.dmaxG x.L.rows x.L.cols) x.sp) :
    genCvMaskedNan x (r : Int) (c : Int) j = ! Criteria.computable (C04C02.toCv x) r c j := by
  rw [genCvMaskedNan_eq x h.sp_pos]
  exact C04C02.nan_iff_not_computable x h hg r c j hj

end Pandora.C02KernelsMasked
