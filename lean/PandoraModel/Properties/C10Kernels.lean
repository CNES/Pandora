/-
  C10 — the numpy glue of the median and bilateral filters, regenerated from the source (`Generated/KernelsFilter.lean`,
  written by `translator/gen_kernels_filter.py` on `translator/pyarr.py`), equals the hand model `Model/Filter.lean` —
  for every map size, validity mask, filter size, block split and store.  Each regenerated function returns a FRESH
  array holding the model's result (or leaves it in the disparity map) and writes no other array that existed before
  the call, in particular not its input.
-/
import PandoraModel.Properties.C10
import PandoraModel.Lemmas.StorePush
import PandoraModel.Generated.KernelsFilter

namespace Pandora.C10Kernels
open Pandora.PyArr Pandora.Filter

section store
variable {α : Type}

@[simp] theorem set_next (s : Store α) (k : Nat) (a : Arr α) : (s.set k a).next = s.next := rfl
@[simp] theorem copy_snd (s : Store α) (k : Nat) : (s.copy k).2 = s.next := rfl
@[simp] theorem copy_next (s : Store α) (k : Nat) : (s.copy k).1.next = s.next + 1 := rfl

/-- This is where `np.copy` matters: with `data_median = data` the hypothesis `h` is `data ≠ data`. -/
theorem blockedSt_eq (p : Blocks.Plan) (kern : Arr α → Nat → Nat → α) (dst base : Nat) (h : dst ≠ base) (s : Store α) :
    blockedSt p kern dst base s = s.set dst (Blocks.blocked p (kern (s.arr base)) (s.arr dst)) :=
  outerLoopSt_eq kern dst base h _ _ _ _ s

end store

/-- `out = np.copy(data); invalid = np.isnan(out); <block loops writing kernel(windows of data) into out>;
    out[invalid] = nan; return out` returns a fresh array: NaN where the input is NaN, elsewhere the pure blocked
    computation of the kernel of the input's content. -/
theorem windowFilter_eq (p : Blocks.Plan) (kern : Arr Val → Nat → Nat → Val) (data : Nat) (s0 : Store Val)
    (hd : data < s0.next) :
    ((blockedSt p kern (s0.copy data).2 data (s0.copy data).1).maskFill (s0.copy data).2
        (maskOf Val.isNan ((s0.copy data).1.arr (s0.copy data).2)) Val.nan, (s0.copy data).2)
      = (s0.push [fun r c => if (s0.arr data r c).isNan then .nan
          else Blocks.blocked p (kern (s0.arr data)) (s0.arr data) r c], s0.next) := by
  simp only [copy_eq, alloc_eq_push, blockedSt_push _ _ _ _ _ hd, maskFill_eq, push_set_next _ _ rfl,
    push_arr_next _ _ rfl, List.getD_cons_zero]
  rfl

theorem medianFilter_eq (fs ny nx data : Nat) (s0 : Store Val) (hd : data < s0.next) :
    Generated.KernelsFilter.medianFilter fs ny nx data s0
      = (s0.push [Filter.medianFilter (Generated.Blocks.median fs) fs ny nx (s0.arr data)], s0.next) :=
  windowFilter_eq _ _ data s0 hd

/-- **`median_filter` regenerated = model.**  For every store and every input array of it: the result is a fresh
    array (`s0.next`), it holds the model's `medianFilter` of the input's content — with the loop literals T8 reads in
    the same source —, and no other array is written: the input keeps its content. -/
theorem medianFilter_generated (fs ny nx data : Nat) (s0 : Store Val) (hd : data < s0.next) :
    (Generated.KernelsFilter.medianFilter fs ny nx data s0).2 = s0.next
    ∧ (Generated.KernelsFilter.medianFilter fs ny nx data s0).1.next = s0.next + 1
    ∧ (Generated.KernelsFilter.medianFilter fs ny nx data s0).1.arr s0.next
        = Filter.medianFilter (Generated.Blocks.median fs) fs ny nx (s0.arr data)
    ∧ ∀ k, k ≠ s0.next → (Generated.KernelsFilter.medianFilter fs ny nx data s0).1.arr k = s0.arr k :=
  alloc_spec_of_eq_push s0 (medianFilter_eq fs ny nx data s0 hd)

/-! ### the bilateral filter: `bilateral_kernel`, `filter_bilateral`

  The two Gaussians are UNINTERPRETED: `G kernel_size sigma` stands for `gauss_spatial_kernel(kernel_size, sigma)` (a table),
  `N x sigma` for `normalized_gaussian(x, sigma)`.  What is proved is the wiring: the model's `Weights` are
  `spatial := G win_width sigma_space`, `range := fun d => N d sigma_color`, the centre is the window cell
  `(offset, offset)` with `offset = win_width / 2`, `win_width` is T8's formula. -/

def sourceWeights (G : Nat → Rat → Nat → Nat → Rat) (N : Rat → Rat → Rat) (w : Nat) (sigmaSpace sigmaColor : Rat) :
    Weights := ⟨G w sigmaSpace, fun d => N d sigmaColor⟩

/-- **`bilateral_kernel` regenerated = model**, on every window: `nansum(windows·weights) / nansum(weights)` with
    `weights = table · N(windows − windows[offset, offset], sigma_color)` -/
theorem bilateralKernel_generated (N : Rat → Rat → Rat) (w : Nat) (K : Nat → Nat → Rat) (sc : Rat) (off : Nat)
    (win : Nat → Nat → Val) :
    Generated.KernelsFilter.bilateralKernel N w K sc off win = Filter.bilateralKernel ⟨K, fun d => N d sc⟩ w off win :=
  rfl

/-- the window width and the kernel are the model's by unfolding (`source_bilateral_window`, `bilateralKernel_generated`) -/
theorem filterBilateral_eq (G : Nat → Rat → Nat → Nat → Rat) (N : Rat → Rat → Rat) (ss sc : Rat)
    (ny nx data : Nat) (s0 : Store Val) (hd : data < s0.next) :
    Generated.KernelsFilter.filterBilateral G N ss sc ny nx data s0
      = (s0.push [Filter.bilateralFilter (Generated.Blocks.bilateral (Filter.winWidth ny nx ss))
            (sourceWeights G N (Filter.winWidth ny nx ss) ss sc) (Filter.winWidth ny nx ss) ny nx (s0.arr data)], s0.next) :=
  windowFilter_eq _ _ data s0 hd

/-- **`filter_bilateral` regenerated = model.**  Fresh result holding the model's `bilateralFilter` of the input's
    content for the window width, offsets, chunk literals and weight wiring read in the source; nothing else written. -/
theorem filterBilateral_generated (G : Nat → Rat → Nat → Nat → Rat) (N : Rat → Rat → Rat) (ss sc : Rat)
    (ny nx data : Nat) (s0 : Store Val) (hd : data < s0.next) :
    (Generated.KernelsFilter.filterBilateral G N ss sc ny nx data s0).2 = s0.next
    ∧ (Generated.KernelsFilter.filterBilateral G N ss sc ny nx data s0).1.next = s0.next + 1
    ∧ (Generated.KernelsFilter.filterBilateral G N ss sc ny nx data s0).1.arr s0.next
        = Filter.bilateralFilter (Generated.Blocks.bilateral (Filter.winWidth ny nx ss))
            (sourceWeights G N (Filter.winWidth ny nx ss) ss sc) (Filter.winWidth ny nx ss) ny nx (s0.arr data)
    ∧ ∀ k, k ≠ s0.next → (Generated.KernelsFilter.filterBilateral G N ss sc ny nx data s0).1.arr k = s0.arr k :=
  alloc_spec_of_eq_push s0 (filterBilateral_eq G N ss sc ny nx data s0 hd)

/-- `masked = copy(disparity_map); masked[(validity_mask & C) != 0] = nan; valid = isfinite(masked);
    filtered = filt(masked); disparity_map[valid] = filtered[valid]` -/
def filterDisparityWith (filt : Nat → Store Val → Store Val × Nat) (C : Nat) (flags : Nat → Nat → Nat) (dm : Nat)
    (s0 : Store Val) : Store Val :=
  let p1 := s0.copy dm
  let s2 := p1.1.maskFill p1.2 (flagMask true flags C) Val.nan
  let p3 := filt p1.2 s2
  p3.1.maskCopy dm (maskOf isfinite (s2.arr p1.2)) p3.2

/-- For ANY filter that returns a fresh array holding `model` of its input: the disparity map ends up holding `model` of the
    NaN-masked map on the valid pixels and its old content elsewhere; no other array that existed is written.
    (`np.isfinite(x)` is `~np.isnan(x)` on a map without infinities.) -/
theorem filterDisparityWith_eq (filt : Nat → Store Val → Store Val × Nat) (model : Img → Img)
    (hfilt : ∀ data s, data < s.next → filt data s = (s.push [model (s.arr data)], s.next))
    (C : Nat) (flags : Nat → Nat → Nat) (dm : Nat) (s0 : Store Val) (hd : dm < s0.next) :
    (filterDisparityWith filt C flags dm s0).arr dm
        = (fun r c => if (masked C flags (s0.arr dm) r c).isNum then model (masked C flags (s0.arr dm)) r c
            else s0.arr dm r c)
    ∧ ∀ k, k < s0.next → k ≠ dm → (filterDisparityWith filt C flags dm s0).arr k = s0.arr k := by
  generalize hR : filterDisparityWith filt C flags dm s0 = R
  unfold filterDisparityWith at hR
  simp only [copy_eq, alloc_eq_push, maskFill_eq, push_set_next _ _ rfl, push_arr_next _ _ rfl, List.getD_cons_zero] at hR
  rw [hfilt _ _ (Nat.lt_succ_self _)] at hR
  simp only [push_push, push_next, push_arr_next _ _ rfl, maskCopy_eq, push_set_old _ _ hd, push_arr_old _ _ hd,
    push_arr_new _ _ rfl, List.cons_append, List.nil_append, List.length_cons, List.length_nil, List.getD_cons_zero,
    List.getD_cons_succ] at hR
  subst hR
  refine ⟨?_, fun k hk hkd => ?_⟩ <;>
    simp only [push_arr_old, next_set, set_arr_self, set_arr_ne, Ne, not_false_eq_true, *]
  rfl

/-- **`filter_disparity` regenerated = model.**  For every store: the disparity map ends up holding the model's
    `medianFilterDisparity` (mask constant and loop literals read in the source), and every other array that existed
    before the call keeps its content. -/
theorem filterDisparityMedian_generated (fs ny nx : Nat) (flags : Nat → Nat → Nat) (dm : Nat) (s0 : Store Val)
    (hd : dm < s0.next) :
    (Generated.KernelsFilter.filterDisparityMedian fs ny nx flags dm s0).arr dm
        = Filter.medianFilterDisparity (Generated.Blocks.median fs) Generated.Constants.PANDORA_MSK_PIXEL_INVALID
            fs ny nx flags (s0.arr dm)
    ∧ ∀ k, k < s0.next → k ≠ dm → (Generated.KernelsFilter.filterDisparityMedian fs ny nx flags dm s0).arr k = s0.arr k :=
  filterDisparityWith_eq (Generated.KernelsFilter.medianFilter fs ny nx) _ (medianFilter_eq fs ny nx) _ flags dm s0 hd

theorem filterDisparityBilateral_generated (G : Nat → Rat → Nat → Nat → Rat) (N : Rat → Rat → Rat) (ss sc : Rat)
    (ny nx : Nat) (flags : Nat → Nat → Nat) (dm : Nat) (s0 : Store Val) (hd : dm < s0.next) :
    (Generated.KernelsFilter.filterDisparityBilateral G N ss sc ny nx flags dm s0).arr dm
        = Filter.bilateralFilterDisparity (Generated.Blocks.bilateral (Filter.winWidth ny nx ss))
            (sourceWeights G N (Filter.winWidth ny nx ss) ss sc) Generated.Constants.PANDORA_MSK_PIXEL_INVALID
            (Filter.winWidth ny nx ss) ny nx flags (s0.arr dm)
    ∧ ∀ k, k < s0.next → k ≠ dm →
        (Generated.KernelsFilter.filterDisparityBilateral G N ss sc ny nx flags dm s0).arr k = s0.arr k :=
  filterDisparityWith_eq (Generated.KernelsFilter.filterBilateral G N ss sc ny nx) _
    (filterBilateral_eq G N ss sc ny nx) _ flags dm s0 hd

/-- **C10 for the regenerated `filter_disparity`**: every pixel of the map it leaves satisfies the per-pixel
    specification w.r.t. the NaN-masked input. -/
theorem filterDisparityMedian_spec (fs ny nx : Nat) (flags : Nat → Nat → Nat) (dm : Nat) (s0 : Store Val)
    (hd : dm < s0.next) (hodd : fs % 2 = 1) (hny : fs ≤ ny) (hnx : fs ≤ nx) (r c : Nat) :
    medianCellSpec (masked Generated.Constants.PANDORA_MSK_PIXEL_INVALID flags (s0.arr dm)) fs ny nx r c
      (s0.arr dm r c) ((Generated.KernelsFilter.filterDisparityMedian fs ny nx flags dm s0).arr dm r c) = true := by
  rw [(filterDisparityMedian_generated fs ny nx flags dm s0 hd).1]
  exact C10.medianFilterDisparity_spec _ _ fs ny nx flags (s0.arr dm) rfl rfl hodd hny hnx r c

/-- the same for `median_filter` on a band (`intervals_same_median`) -/
theorem medianFilter_generated_spec (fs ny nx data : Nat) (s0 : Store Val) (hd : data < s0.next)
    (hodd : fs % 2 = 1) (hny : fs ≤ ny) (hnx : fs ≤ nx) (r c : Nat) :
    medianCellSpec (s0.arr data) fs ny nx r c (s0.arr data r c)
      ((Generated.KernelsFilter.medianFilter fs ny nx data s0).1.arr (Generated.KernelsFilter.medianFilter fs ny nx data s0).2 r c) = true := by
  obtain ⟨h1, _, h3, _⟩ := medianFilter_generated fs ny nx data s0 hd
  rw [h1, h3]
  exact C10.medianBand_spec _ fs ny nx (s0.arr data) rfl rfl hodd hny hnx r c

/-- **C10 for the regenerated bilateral `filter_disparity`**: `invalid_disp_unchanged`, `edge_untouched`,
    `is_weighted_mean` (tolerance 0) and `between_window_min_max` hold at every pixel, for every pair of functions
    standing for the two Gaussians whose values met in the pixel's window are non-negative with a positive total
    (`wfWeightsAt` — true of Gaussians: the pixel itself weighs `G(centre)·N(0) > 0`). -/
theorem filterDisparityBilateral_spec (G : Nat → Rat → Nat → Nat → Rat) (N : Rat → Rat → Rat) (ss sc : Rat)
    (ny nx : Nat) (flags : Nat → Nat → Nat) (dm : Nat) (s0 : Store Val) (hd : dm < s0.next)
    (hw : 0 < Filter.winWidth ny nx ss) (r c : Nat)
    (hwf : ∀ ctr, masked Generated.Constants.PANDORA_MSK_PIXEL_INVALID flags (s0.arr dm) r c = .num ctr →
      wfWeightsAt (sourceWeights G N (Filter.winWidth ny nx ss) ss sc) (Filter.winWidth ny nx ss)
        (fun a b => masked Generated.Constants.PANDORA_MSK_PIXEL_INVALID flags (s0.arr dm)
          (r - Filter.winWidth ny nx ss / 2 + a) (c - Filter.winWidth ny nx ss / 2 + b)) ctr = true) :
    bilateralCellSpec (sourceWeights G N (Filter.winWidth ny nx ss) ss sc) 0
      (masked Generated.Constants.PANDORA_MSK_PIXEL_INVALID flags (s0.arr dm)) (Filter.winWidth ny nx ss) ny nx r c
      (s0.arr dm r c)
      ((Generated.KernelsFilter.filterDisparityBilateral G N ss sc ny nx flags dm s0).arr dm r c) = true := by
  rw [(filterDisparityBilateral_generated G N ss sc ny nx flags dm s0 hd).1]
  exact C10.source_bilateral_spec _ _ _ ny nx flags (s0.arr dm) hw (Nat.min_le_left _ _)
    (Nat.le_trans (Nat.min_le_right _ _) (Nat.min_le_left _ _)) r c hwf

/-- non-vacuity: with constant positive stand-ins for the Gaussians the weights met in a window are usable -/
example : wfWeightsAt (sourceWeights (fun _ _ _ _ => 1) (fun _ _ => 1 / 2) 3 1 2) 3
    (fun a b => if a = 1 ∧ b = 1 then .nan else .num ((a : Int) + 2 * (b : Int) : Int)) 3 = true := by decide +kernel

example : (0 : Nat) < (Store.init [Generated.KernelsFilter.goldenImg] Generated.KernelsFilter.goldenImg).next := by decide

/-- without the copy (`dst = base`) the block statement is NOT the pure blocked computation: the second block reads
    a cell the first has written (a two-block instance) -/
example :
    let s : Store Nat := Store.init [fun _ c => c + 5] (fun _ _ => 0)
    let p : Blocks.Plan := { ly := 1, lx := 3, startY := 1, stopY := 1, stepY := 1, startX := 1, stopX := 3, stepX := 1,
                             offY := 0, offX := 1 }
    let kern : Arr Nat → Nat → Nat → Nat := fun a i j => a i j + a i (j + 1)
    (blockedSt p kern 0 0 s).arr 0 0 2 ≠ (s.set 0 (Blocks.blocked p (kern (s.arr 0)) (s.arr 0))).arr 0 0 2 := by
  decide +kernel

end Pandora.C10Kernels
