/-
  C06 — the per-pixel bodies of `loop_refinement` and `loop_approximate_refinement` regenerated from the Python source
  (`Generated/KernelsRefine.lean`, translator/gen_kernels_refine.py), calling the regenerated methods of `Generated/Kernels.lean`,
  are the hand model's `refinePixel` / `approxPixel` for all inputs with a sub-pixel factor > 0; the map over rows and columns
  is `loopRefinement`.
-/
import PandoraModel.Properties.C06Kernels
import PandoraModel.Generated.KernelsRefine

namespace Pandora.C06KernelsLoop
open Pandora.Refinement Pandora.PyExpr Pandora.C06 Pandora.C06Kernels Pandora.Generated.KernelsRefine

/-- what the loop leaves for the pixel, as the generated function returns it: `(itp_coeff, disp, mask)` at `[row, col]` -/
def encPix : Res PixOut → Res (Val × Val × Nat)
  | .ok o => .ok (o.coeff, o.d, o.flag)
  | .err e => .err e

theorem getG_eq (l : List Val) (i : Int) : getG l i = pyGet l i := rfl

@[simp] theorem vsub_nan_left (b : Val) : vsub .nan b = .nan := by cases b <;> rfl
@[simp] theorem vmul_nan_left (b : Val) : vmul .nan b = .nan := by cases b <;> rfl

@[simp] theorem bind_ok {α β : Type} (a : α) (f : α → Res β) : Generated.KernelsRefine.bind (.ok a) f = f a := rfl
@[simp] theorem bind_err {α β : Type} (e : Err) (f : α → Res β) : Generated.KernelsRefine.bind (.err e) f = .err e := rfl

theorem readAt_eq (l : List Val) (i : Int) :
    readAt l i = match pyGet l i with | some v => .ok v | none => .err .outOfBounds := rfl

theorem isInvalid_mask (flag : Nat) : ((flag &&& (963 : Nat)) != (0 : Nat)) = Flags.isInvalid flag := rfl

/-- the model's flag update at the source's variant is the operator T12p read in the source -/
theorem addFlag_source (P : Params) (hP : P.variant = sourceVariant) (flag v : Nat) :
    addFlag P.variant.fixOr flag v
      = if Generated.KernelsRefine.flagUpdateIsOr then flag ||| v else flag + v := by
  simp [addFlag, hP, sourceVariant, Generated.RefineCC.flagUpdateIsOr, Generated.KernelsRefine.flagUpdateIsOr]

/-- Both pixel bodies below the read of a numeric centre: under the guard two more reads (`o0`, `o2`: what the unchecked reads
    find), the call of the regenerated method, `sub_disp / subpixel` added to the disparity and the flag update; else the
    stopped flag.  The flag update is written with `flagUpdateIsOr`, so that the generated text matches for `|=` as for `+=`;
    `g` is the guard as the source writes it, `g'` as the model does. -/
theorem belowCentre_eq (P : Params) (hP : P.variant = sourceVariant) (hsp : 0 < P.subpix) {g g' : Bool} (hg : g = g')
    (o0 o2 : Option Val) (c1 dv : ℚ) (flag : Nat) :
    (if g then
      Generated.KernelsRefine.bind (match o0 with | some v => Res.ok v | none => .err .outOfBounds) fun t0 =>
      Generated.KernelsRefine.bind (match o2 with | some v => Res.ok v | none => .err .outOfBounds) fun t2 =>
      Generated.KernelsRefine.bind (liftPy (kernelMethod P.method t0 (.num c1) t2 (.num dv) (measureOf P.isMax))) fun m =>
      Generated.KernelsRefine.bind (divBy m.1 ((P.subpix : Int) : ℚ)) fun q =>
        Res.ok (m.2.1, vadd (.num dv) q,
          if Generated.KernelsRefine.flagUpdateIsOr then flag ||| Int.toNat m.2.2 else flag + Int.toNat m.2.2)
    else Res.ok (Val.num c1, Val.num dv, if Generated.KernelsRefine.flagUpdateIsOr then flag ||| 8 else flag + 8))
      = encPix (if g' then
          match o0, o2 with
          | some c0, some c2 =>
            match runMethod P.variant.fixFlat P.method P.isMax c0 c1 c2 with
            | .ok r => .ok ⟨.num r.cost, .num (dv + r.shift / (P.subpix : ℚ)), addFlag P.variant.fixOr flag r.flag⟩
            | .err e => .err e
          | _, _ => .err .outOfBounds
        else .ok ⟨.num c1, .num dv, addFlag P.variant.fixOr flag stoppedBit⟩) := by
  subst hg
  cases g
  · rw [addFlag_source P hP]; rfl
  · cases o0 with
    | none => rfl
    | some c0 =>
    cases o2 with
    | none => rfl
    | some c2 =>
    simp only [↓reduceIte, bind_ok, kernelMethod_eq, measureOf_eq, hP]
    cases hr : runMethod sourceVariant.fixFlat P.method P.isMax c0 c1 c2 with
    | err e =>
      have he := runMethod_err _ _ _ _ _ _ e hr
      simp [encRes, liftPy, encPix, he]
    | ok r =>
      have hne : P.subpix ≠ 0 := by omega
      simp [encRes, encOut, liftPy, divBy, hne, encPix, addFlag, sourceVariant,
        Generated.RefineCC.flagUpdateIsOr, Generated.KernelsRefine.flagUpdateIsOr]

-- the closing `simp` lists `Bool.and_comm` and `Nat.or_assoc` for the documented rewrites H1, H3 of DESIGN_NOTES/C06.md
-- (swapped guard operands, the flag update written twice); on the source as it is they are unused
set_option linter.unusedSimpArgs false in
/-- **the regenerated pixel body is the hand model's `refinePixel`** — for every cost row, disparity (NaN included), flag word,
    interval, sub-pixel factor > 0 (`x / subpixel` raises on 0), method and measure; the method it calls is the regenerated
    `Vfit` / `Quadratic.refinement_method`.  `hP`: the model follows the variant T11 reads in the source (`|=`, end test on the
    sample index, `alpha == 0` guard). -/
theorem loopRefinementPx_eq (P : Params) (hP : P.variant = sourceVariant) (hsp : 0 < P.subpix) (x : PixIn) :
    loopRefinementPx (kernelMethod P.method) x.costs x.d x.flag P.dmin P.dmax (P.subpix : Int) (measureOf P.isMax)
      = encPix (refinePixel P x) := by
  unfold loopRefinementPx refinePixel
  simp only [isInvalid_mask, readAt_eq]
  by_cases hi : Flags.isInvalid x.flag = true
  · simp [hi, encPix]
  · simp only [hi]
    cases hd : x.d with
    | nan => simp [intOf, encPix]
    | num dv =>
      simp only [vsub_num, vmul_num, intOf, bind_ok, Int.cast_natCast]
      generalize pyInt ((dv - P.dmin) * (P.subpix : ℚ)) = dsp
      cases hc : pyGet x.costs dsp with
      | none => simp [encPix]
      | some c =>
        cases c with
        | nan => simp [encPix, Val.isNan]
        | num c1 =>
          simp only [Val.isNan, bind_ok, Bool.not_false, if_true]
          refine Eq.trans ?_ (belowCentre_eq P hP hsp (g := dsp != 0 && dsp != (x.costs.length : Int) - 1)
            (by simp [notAtEnd, hP, sourceVariant, Generated.RefineCC.endTestOnIndex]) _ _ c1 dv x.flag)
          -- the generated text, up to the order of the guard's operands and a repeated flag update
          simp [Generated.KernelsRefine.flagUpdateIsOr, Bool.and_comm, Nat.or_assoc]

def pxGen (P : Params) (x : PixIn) : Res (Val × Val × Nat) :=
  loopRefinementPx (kernelMethod P.method) x.costs x.d x.flag P.dmin P.dmax (P.subpix : Int) (measureOf P.isMax)

def encGrid : Res (List (List PixOut)) → Res (List (List (Val × Val × Nat)))
  | .ok g => .ok (g.map (List.map fun o => (o.coeff, o.d, o.flag)))
  | .err e => .err e

def _root_.Pandora.Refinement.Res.map {β γ : Type} (h : β → γ) : Res β → Res γ
  | .ok b => .ok (h b)
  | .err e => .err e

theorem mapRes_map {α β γ : Type} (h : β → γ) (f : α → Res β) (l : List α) :
    mapRes (fun a => (f a).map h) l = (mapRes f l).map (List.map h) := by
  induction l with
  | nil => rfl
  | cons a l ih =>
    simp only [mapRes, ih]
    cases f a with
    | err e => rfl
    | ok b => cases mapRes f l <;> rfl

/-- **the whole `prange` nest, read as a map of the generated pixel function, is the model's `loopRefinement`** (first error
    wins; that the parallel schedule cannot change the result — disjoint write sets — is C18's subject) -/
theorem loopRefinementGen_eq (P : Params) (hP : P.variant = sourceVariant) (hsp : 0 < P.subpix) (g : List (List PixIn)) :
    mapRes (mapRes (pxGen P)) g = encGrid (loopRefinement P g) := by
  have h1 : pxGen P = fun x => (refinePixel P x).map fun o => (o.coeff, o.d, o.flag) :=
    funext fun x => (loopRefinementPx_eq P hP hsp x).trans (by cases refinePixel P x <;> rfl)
  rw [h1, funext (mapRes_map _ _), mapRes_map, loopRefinement]
  cases mapRes (mapRes (refinePixel P)) g <;> rfl

/-- **C06 for the generated pixel function**: `source_pixel_spec` carried over `loopRefinementPx_eq` — the function returns the
    `(itp_coeff, disp, mask)` of an output that satisfies every clause `specOK` evaluates, or it is the unguarded flat
    `quadratic` raising. -/
theorem generated_pixel_spec (P : Params) (x : PixIn) (tol : ℚ) (hP : P.variant = sourceVariant) (hsp : 0 < P.subpix)
    (hp : pixHyp P x = true) (htol : 0 ≤ tol)
    (hnt : P.method = .vfit → tiny ≤ tol ∨ notTinyCosts x.costs = true) :
    (∃ o, pxGen P x = .ok (o.coeff, o.d, o.flag) ∧ specOK P x o tol = true) ∨
    (P.method = .quadratic ∧ P.variant.fixFlat = false ∧ pxGen P x = .err .zeroDivision
      ∧ ∃ d c, classify P x = .refine d c c c) := by
  unfold pxGen
  rw [loopRefinementPx_eq P hP hsp x]
  rcases source_pixel_spec P x tol hP hp htol hnt with ⟨o, ho, hs⟩ | ⟨hm, hf, he, hc⟩
  · exact Or.inl ⟨o, by rw [ho]; rfl, hs⟩
  · exact Or.inr ⟨hm, hf, by rw [he]; rfl, hc⟩

/-- **invalid_untouched, directly on the generated function, for ANY method**: an invalid pixel keeps its disparity and flag
    word, its coefficient is NaN — no read, no call -/
theorem loopRefinementPx_invalid (method : Val → Val → Val → Val → String → PyRes (Val × Val × Int)) (cv : List Val)
    (d : Val) (flag : Nat) (dmin dmax : ℚ) (sp : Int) (measure : String) (h : Flags.isInvalid flag = true) :
    loopRefinementPx method cv d flag dmin dmax sp measure = .ok (.nan, d, flag) := by
  unfold loopRefinementPx
  simp only [isInvalid_mask, h, if_true]

/-- the same for the right-map approximation `loop_approximate_refinement` -/
theorem loopApproxRefinementPx_invalid (method : Val → Val → Val → Val → String → PyRes (Val × Val × Int))
    (cvRow : List (List Val)) (col : Int) (d : Val) (flag : Nat) (dmin dmax : ℚ) (sp : Int) (measure : String)
    (h : Flags.isInvalid flag = true) :
    loopApproxRefinementPx method cvRow col d flag dmin dmax sp measure = .ok (.nan, d, flag) := by
  unfold loopApproxRefinementPx
  simp only [isInvalid_mask, h, if_true]

theorem readAt2_eq (m : List (List Val)) (i j : Int) :
    readAt2 m i j = match pyGet2 m i j with | some v => .ok v | none => .err .outOfBounds := by
  have hg : getG m i = pyGetG m i := rfl
  unfold readAt2 pyGet2
  rw [hg]
  cases pyGetG m i with
  | none => rfl
  | some l => simp only [readAt, getG_eq]; rfl

@[simp] theorem vadd_nan_right (a : Val) : vadd a .nan = .nan := by cases a <;> rfl
@[simp] theorem vneg_nan : vneg .nan = .nan := rfl

-- as above: `Nat.or_assoc` serves the flag update written twice
set_option linter.unusedSimpArgs false in
/-- **the regenerated pixel body of `loop_approximate_refinement` is the model's `approxPixel`** — for every row of cost rows,
    column, disparity (NaN included), flag word, interval, sub-pixel factor > 0, method and measure -/
theorem loopApproxRefinementPx_eq (P : Params) (hP : P.variant = sourceVariant) (hsp : 0 < P.subpix) (x : ApxIn) :
    loopApproxRefinementPx (kernelMethod P.method) x.rows (x.col : Int) x.d x.flag P.dmin P.dmax (P.subpix : Int)
        (measureOf P.isMax) = encPix (approxPixel P x) := by
  unfold loopApproxRefinementPx approxPixel
  simp only [isInvalid_mask, readAt2_eq]
  by_cases hi : Flags.isInvalid x.flag = true
  · simp [hi, encPix]
  · simp only [hi]
    cases hd : x.d with
    | nan => simp [intOf, encPix]
    | num dv =>
      simp only [vneg_num, vsub_num, vmul_num, vadd_num, intOf, bind_ok, Int.cast_natCast, Int.one_mul]
      generalize pyInt ((-dv - P.dmin) * (P.subpix : ℚ)) = dsp
      generalize pyInt ((x.col : ℚ) + dv) = diag
      cases hc : pyGet2 x.rows diag dsp with
      | none => simp [encPix]
      | some c =>
        cases c with
        | nan => simp [encPix, Val.isNan]
        | num c1 =>
          simp only [Val.isNan, bind_ok, Bool.not_false, if_true]
          refine Eq.trans ?_ (belowCentre_eq P hP hsp
            (g := dv != -P.dmin && dv != -P.dmax && diag != 0 && diag != (x.rows.length : Int) - 1) rfl _ _ c1 dv x.flag)
          simp [Generated.KernelsRefine.flagUpdateIsOr, bne, beq_eq_decide, and_assoc, Nat.or_assoc]

/-! ## The specification of the approximation, on the model

  What `apxClauses` claims of `approxPixel`, as a statement; it is proved below for invalid pixels only
  (`approxPixel_spec_partial`), for valid pixels the harness evaluates the clauses on the real kernel on every run:

    theorem approxPixel_spec (P : Params) (hO : P.variant.fixOr = true) (hF : P.variant.fixFlat = true) (hsp : 0 < P.subpix)
        (A B : Int) (hA : P.dmin = A) (hB : P.dmax = B) (x : ApxIn) (n : Nat)
        (hn : (n : Int) = (B - A) * P.subpix + 1) (hrows : ∀ i, i < x.rows.length → (x.rows.getD i []).length = n)
        (tol : ℚ) (htol : 0 ≤ tol) (hc : apxClassify P x ≠ .illFormed) :
        ∃ o, approxPixel P x = .ok o ∧ apxFailing P x o tol = []

  No clause is known to be false of the model: for an INTEGER right disparity strictly inside `[−B, −A]` a shift of at most half a
  sample stays inside the interval (there is no analogue of C06-F5 here), so no counterexample theorem is stated.
  `pyGet2_costAt2` (inside the arrays the unchecked read is the plain read), `pyInt_intCast` and `stopped_clauses` (the three
  clauses of a stopped pixel for the `|=` update) are facts about the model that the statement rests on. -/

theorem pyGet2_costAt2 (m : List (List Val)) (i j : Int) (n : Nat) (hi : 0 ≤ i) (hi' : i < m.length)
    (hrow : (m.getD i.toNat []).length = n) (hj : 0 ≤ j) (hj' : j < n) :
    pyGet2 m i j = some (costAt2 m i j) := by
  obtain ⟨a, rfl⟩ := Int.eq_ofNat_of_zero_le hi
  obtain ⟨b, rfl⟩ := Int.eq_ofNat_of_zero_le hj
  have ha : a < m.length := by exact_mod_cast hi'
  have hb : b < n := by exact_mod_cast hj'
  simp only [Int.toNat_natCast] at hrow
  have hrow' : (m[a]).length = n := by simpa [List.getD_eq_getElem?_getD, ha] using hrow
  simp [pyGet2, pyGetG, pyGet, costAt2, costAt, ha, List.getD_eq_getElem?_getD, hrow', hb]

theorem pyInt_intCast (z : Int) : pyInt (z : ℚ) = z := (pyInt_eq _).trans (rtrunc_intCast z)

theorem stopped_clauses (f : Nat) (c1 tol : ℚ) (htol : 0 ≤ tol) (d : Val) :
    (d == d && (addFlag true f stoppedBit) / 8 % 2 == 1) = true ∧
    ((addFlag true f stoppedBit) % 8 == f % 8 && (addFlag true f stoppedBit) / 16 == f / 16) = true ∧
    close c1 c1 tol = true := by
  obtain ⟨h1, h2⟩ := addFlag_stopped true f (Or.inl rfl)
  refine ⟨?_, ?_, ?_⟩
  · simp only [bitAt] at h1
    simp [h1]
  · simpa [sameExceptBit3] using h2
  · simp [close, htol]

theorem approxPixel_spec_partial (P : Params) (x : ApxIn) (tol : ℚ) (hi : Flags.isInvalid x.flag = true) :
    ∃ o, approxPixel P x = .ok o ∧ apxFailing P x o tol = [] := by
  refine ⟨⟨.nan, x.d, x.flag⟩, by simp [approxPixel, hi], ?_⟩
  simp [apxFailing, apxClauses, apxClassify, hi]

theorem generated_approx_pixel_spec_partial (P : Params) (x : ApxIn) (tol : ℚ)
    (method : Val → Val → Val → Val → String → PyRes (Val × Val × Int)) (hi : Flags.isInvalid x.flag = true) :
    ∃ o : PixOut, loopApproxRefinementPx method x.rows (x.col : Int) x.d x.flag P.dmin P.dmax (P.subpix : Int)
        (measureOf P.isMax) = .ok (o.coeff, o.d, o.flag) ∧ apxFailing P x o tol = [] := by
  refine ⟨⟨.nan, x.d, x.flag⟩, loopApproxRefinementPx_invalid _ _ _ _ _ _ _ _ _ hi, ?_⟩
  simp [apxFailing, apxClauses, apxClassify, hi]

/-- what `subpixel_refinement` passes to `loop_refinement` and does with its results (locals resolved through their single
    assignment; `CV`, `DISP` the two dataset parameters, `ITP` the returned coefficient array) -/
theorem wiring_subpixel : wiringSubpixelRefinement = [
    ("arg:cv", "CV['cost_volume'].data"), ("arg:disp", "DISP['disparity_map'].data"),
    ("arg:mask", "DISP['validity_mask'].data"), ("arg:d_min", "CV.coords['disp'].data[0]"),
    ("arg:d_max", "CV.coords['disp'].data[-1]"), ("arg:subpixel", "CV.attrs['subpixel']"),
    ("arg:measure", "CV.attrs['type_measure']"), ("arg:method", "self.refinement_method"),
    ("result:itp_coeff", "ITP"), ("result:disp", "DISP['disparity_map'].data"),
    ("result:mask", "DISP['validity_mask'].data"),
    ("store:DISP.attrs['refinement']", "self._refinement_method_name"),
    ("store:DISP['interpolated_coeff']",
     "xr.DataArray(ITP, coords=[('row', DISP.coords['row'].data), ('col', DISP.coords['col'].data)], dims=['row', 'col'])")] :=
  rfl

/-- `approximate_subpixel_refinement` wires `loop_approximate_refinement` the same way (left cost volume, right maps) -/
theorem wiring_approximate : wiringApproximateSubpixelRefinement = wiringSubpixelRefinement := rfl

end Pandora.C06KernelsLoop
