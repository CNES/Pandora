/-
  C12 — the aggregation loop of `pandora/interval_tools.py: graph_regularization` REGENERATED from the Python source
  (`Generated/KernelsRegul.lean: graphRegularization`, translator/gen_kernels_regul.py; idioms of `Model/PyAgg.lean`;
  `np.nanquantile` a parameter) is, with the model's `nanQuantile` for that library function, the hand model's
  `Confidence.graphRegularization` — for every pair of grids, every list of segments, every graph with one row per segment
  and every quantile.  So: the values aggregated for segment `i` are exactly the pixels of the segments `j` with
  `graph[i, j]`, in order; the lower bound written is the quantile `1 − q` of the aggregated lower bounds, the upper bound
  the quantile `q` of the aggregated upper bounds, over the pixels of segment `i`.
-/
import PandoraModel.Properties.C12KernelsRegul
import PandoraModel.Lemmas.C12Regul
import Mathlib.Data.List.Basic


namespace Pandora.C12KernelsRegul
open Pandora.Confidence Pandora.PyAgg

theorem sel_map {α β : Type} (f : α → β) (a : List α) (m : List Bool) : sel (a.map f) m = (sel a m).map f := by
  induction a generalizing m with
  | nil => simp [sel]
  | cons x a ih =>
    cases m with
    | nil => simp [sel]
    | cons b m =>
      have := ih m
      simp only [sel, List.map_cons, List.zip_cons_cons, List.filterMap_cons] at this ⊢
      cases b <;> simp [this]

theorem agg_eq (g : Grid Val) (segs : List (Pos × Pos)) (m : List Bool) :
    concat (min (sel (segs.map Prod.fst) m).length (sel (segs.map Prod.snd) m).length)
        (fun j => slice g (PyAgg.cell (sel (segs.map Prod.fst) m) j 0) (PyAgg.cell (sel (segs.map Prod.fst) m) j 1)
          (PyAgg.cell (sel (segs.map Prod.snd) m) j 1 + 1))
      = aggValues g segs m := by
  rw [sel_map, sel_map]
  have hagg : aggValues g segs m = (sel segs m).flatMap (fun s => rowSlice g s.1.1 s.1.2 s.2.2) := by
    unfold aggValues sel
    induction segs generalizing m with
    | nil => simp
    | cons x segs ih =>
      cases m with
      | nil => simp
      | cons b m =>
        have := ih m
        obtain ⟨l, r⟩ := x
        cases b <;> simp [this]
  -- the selected segments read through their positions, as the generated loop reads the coordinate arrays
  rw [hagg]
  conv_rhs => rw [← map_getD_range' (sel segs m) ((0, 0), (0, 0)), List.flatMap_map]
  simp only [concat, List.length_map, Nat.min_self]
  apply List.flatMap_congr
  intro j hj
  have hj' : j < (sel segs m).length := by simpa using hj
  have e : ∀ c : Nat, ((c : Int) + 1).toNat = c + 1 := by intro c; omega
  simp [PyAgg.cell, slice, rowSlice, List.getD_eq_getElem?_getD, List.getElem?_map, List.getElem?_eq_getElem hj', e]

theorem setSlice_eq (g : Grid Val) (r lo hi : Nat) (x : Val) :
    setSlice g (r : Int) (lo : Int) ((hi : Int) + 1) x = setRange g r lo hi x := by
  unfold setSlice setRange
  congr 1
  funext i row
  have e : ((hi : Int) + 1).toNat = hi + 1 := by omega
  simp only [Int.toNat_natCast, e]
  split
  · congr 1
    funext j v
    have : (lo ≤ j ∧ j < hi + 1) ↔ (lo ≤ j ∧ j ≤ hi) := by omega
    simp only [this]
  · rfl

theorem foldl_range'_eq_foldl {σ β : Type} (l : List β) (F : σ → β → σ) (step : Nat → σ → σ) (k : Nat) (init : σ)
    (h : ∀ i (hi : i < l.length) s, step (k + i) s = F s l[i]) :
    (List.range' k l.length).foldl (fun s i => step i s) init = l.foldl F init := by
  induction l generalizing k init with
  | nil => rfl
  | cons x l ih =>
    have h0 := h 0 (by simp) init
    simp only [Nat.add_zero, List.getElem_cons_zero] at h0
    simp only [List.length_cons, List.range'_succ, List.foldl_cons, h0]
    apply ih
    intro i hi s
    have := h (i + 1) (by simpa using hi) s
    simpa [Nat.add_assoc, Nat.add_comm 1 i] using this

/-- the coordinate arrays handed to `graph_regularization` are the ones `create_connected_graph` reads -/
theorem cell_fst (segs : List (Pos × Pos)) : PyAgg.cell (segs.map Prod.fst) = blOf segs := by
  funext a c
  simp only [PyAgg.cell, blOf, List.getD_eq_getElem?_getD, List.getElem?_map]
  cases segs[a]? <;> rfl

theorem cell_snd (segs : List (Pos × Pos)) : PyAgg.cell (segs.map Prod.snd) = brOf segs := by
  funext a c
  simp only [PyAgg.cell, brOf, List.getD_eq_getElem?_getD, List.getElem?_map]
  cases segs[a]? <;> rfl

/-- `graph_regularization`: the generated aggregation loop, with the model's `nanQuantile` for `np.nanquantile`, is the
    hand model, for any graph with one row per segment -/
theorem graphRegularization_generated_eq (inf sup : Grid Val) (segs : List (Pos × Pos)) (graph : List (List Bool)) (q : Rat)
    (hg : graph.length = segs.length) :
    Generated.KernelsRegul.graphRegularization nanQuantile inf sup (segs.map Prod.fst) (segs.map Prod.snd) graph q
      = Confidence.graphRegularization inf sup segs graph q := by
  unfold Generated.KernelsRegul.graphRegularization Confidence.graphRegularization forRange
  have hl : (segs.zip graph).length = graph.length := by simp [hg]
  rw [List.range_eq_range', ← hl]
  apply foldl_range'_eq_foldl
  intro i hi s
  have hi1 : i < segs.length := by simp at hi; omega
  have hi2 : i < graph.length := by simp at hi; omega
  simp only [Generated.KernelsRegul.graphRegStep, Nat.zero_add, agg_eq, List.getElem_zip]
  have hrow : graph.getD i [] = graph[i] := by simp [List.getD_eq_getElem?_getD, List.getElem?_eq_getElem hi2]
  have hseg : segs.getD i ((0, 0), (0, 0)) = segs[i] := by
    simp [List.getD_eq_getElem?_getD, List.getElem?_eq_getElem hi1]
  simp only [hrow, cell_fst, cell_snd, blOf, brOf, hseg, if_true, one_ne_zero, if_false, setSlice_eq]

/-- the model's `interval_regularization` is the generated `graph_regularization` run on the generated
    `create_connected_graph` of the model's segments -/
theorem intervalRegularization_all_generated (inf sup amb : Grid Val) (thr : Rat) (k depth : Nat) (q : Rat) :
    intervalRegularization inf sup amb thr k depth q
      = (let segs := (borders thr k amb).1.zip (borders thr k amb).2
         Generated.KernelsRegul.graphRegularization nanQuantile inf sup (segs.map Prod.fst) (segs.map Prod.snd)
           (Generated.KernelsRegul.createConnectedGraph segs.length (blOf segs) (brOf segs) depth) q) := by
  simp only [intervalRegularization]
  rw [createConnectedGraph_generated_eq, graphRegularization_generated_eq]
  simp [Confidence.connectedGraph]
  split <;> simp

/-- **quantile1_widens** about the generated `graph_regularization` on the generated `create_connected_graph` -/
theorem quantile1_widens_generated (inf sup amb : Grid Val) (thr : Rat) (k depth : Nat) :
    let segs := (borders thr k amb).1.zip (borders thr k amb).2
    let out := Generated.KernelsRegul.graphRegularization nanQuantile inf sup (segs.map Prod.fst) (segs.map Prod.snd)
      (Generated.KernelsRegul.createConnectedGraph segs.length (blOf segs) (brOf segs) depth) 1
    (∀ r c a, C12.cell? inf r c = some (Val.num a) → ∃ a', C12.cell? out.1 r c = some (Val.num a') ∧ a' ≤ a)
    ∧ (∀ r c a, C12.cell? sup r c = some (Val.num a) → ∃ a', C12.cell? out.2 r c = some (Val.num a') ∧ a ≤ a') := by
  have h := C12.intervalRegularization_widens inf sup amb thr k depth
  rw [intervalRegularization_all_generated] at h
  exact h

end Pandora.C12KernelsRegul
