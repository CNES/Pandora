/-
  C06 — the refinement kernels REGENERATED from the Python source (`Generated/Kernels.lean`, written by
  translator/gen_kernels.py with the expression-level translator translator/pyexpr.py) are equal, for all
  inputs, to the hand-written method functions of `Model/Refinement.lean`.  With them and the regenerated guard of the loop
  (`refineGuard_eq`) the pixel and the map of the model are computed by the generated definitions (`refinePixelK_eq`,
  `loopRefinementK_eq`), so C06 for one pixel holds of them (`kernel_pixel_spec`).
-/
import PandoraModel.Lemmas.PyExprRules
import PandoraModel.Generated.Kernels
import PandoraModel.Generated.KernelsSelfTest  -- the translator's own test functions, checked by evaluation
import PandoraModel.Properties.C06

namespace Pandora.C06Kernels
open Pandora.Refinement Pandora.PyExpr

def encOut (r : MOut) : Val × Val × Int := (.num r.shift, .num r.cost, (r.flag : Int))
def encRes : Res MOut → PyRes (Val × Val × Int)
  | .ok r => .ok (encOut r)
  | .err _ => .zeroDivision

theorem clamp1_eq (x : ℚ) : clamp1 x = rmin 1 (rmax (-1) x) := by
  rw [rmin_eq_min, rmax_eq_max]; unfold clamp1
  split_ifs with h1 h2
  · rw [max_eq_left h1.le, min_eq_right (by norm_num)]
  · rw [max_eq_right (not_lt.mp h1), min_eq_left h2.le]
  · rw [max_eq_right (not_lt.mp h1), min_eq_right (not_lt.mp h2)]
theorem rmax_rmin_eq (x : ℚ) : rmax (-1) (rmin 1 x) = rmin 1 (rmax (-1) x) := by
  rw [rmax_eq_max, rmin_eq_min, rmin_eq_min, rmax_eq_max, max_min_distrib_left,
    max_eq_right (by norm_num : (-1 : ℚ) ≤ 1)]
theorem ratAbs_eq_rabs (x : ℚ) : ratAbs x = rabs x := rfl

/-- closes one leaf of the case analysis: no goal left, contradictory guards (linear arithmetic, `≠` split),
    or the equality of the returned numbers (ring normal form / cleared denominators) -/
macro "kernel_leaf" : tactic => `(tactic| first
    | done
    | (exfalso; linarith (config := {splitNe := true}))
    | (ring_nf; done)
    | (field_simp; ring1)
    | linarith
    | (constructor <;> first | (ring_nf; done) | (field_simp; ring1) | linarith | grind)
    | grind)

/-- `generated kernel = encRes (hand model)`: split on the measure and on NaN-ness of the two neighbours, unfold both
    sides to `if` trees over `ℚ` (the hand model's `clamp1` / `ratAbs` rewritten into the translator's `rmin` /
    `rmax` / `rabs`), split every `if`, close each leaf by arithmetic — nothing is closed by syntactic identity of
    the two texts; if a leaf survives, `rabs` / `rmin` / `rmax` are unfolded as well and the leaves split again.
    One procedure for both methods, because what it has to survive is the SOURCE being rewritten (DESIGN.md T12;
    DESIGN_NOTES/C06.md, mutants table rows (c), (d) and the list of variants under it: reordered `alpha`, `x * x` for `x ** 2`,
    `0.5 * (…)` for `(…) / 2`, the mirrored comparison, the reordered `sub_cost`, …): a proof that followed the present case
    tree statement by statement would have to be rewritten with the source, this one decides whatever tree it is given. -/
macro "kernel_eq " f:ident : tactic => `(tactic| (
  intro c0 c2 d c1 measure
  by_cases h : measure = "max" <;> cases c0 <;> cases c2 <;>
    simp [$f:ident, vfit, quadratic, h, stoppedBit, Flags.stoppedInterpolation, sgn, encRes, encOut, clamp1_eq,
      rmax_rmin_eq, ratAbs_eq_rabs, rpow, tiny, Pandora.C06.sourceVariant, Pandora.Generated.RefineCC.quadraticFlatGuard]
  all_goals split_ifs
  all_goals (try simp_all)
  all_goals first
    | kernel_leaf
    | (simp only [rabs, rmin, rmax] at *
       split_ifs at * <;> (try simp_all) <;> kernel_leaf)))

open Pandora.Generated.Kernels Pandora.C06

/-- `Vfit.refinement_method` is the model's `vfit`.  The case tree `kernel_eq` meets: a NaN neighbour, or a centre that is
    not the extremum of the three for the measure → `(0, c1, stopped)`; else the slope `a` of the steeper side; `|a| < 1e-15`
    → `(0, c1, 0)`; else the apex `((c0 - c2) / (2 a), a (x - 1) + c2, 0)`.  The leaves are these returns on both sides
    (`ring_nf` / `field_simp`) or guards that contradict each other (`linarith`). -/
theorem vfitMethod_eq : ∀ (c0 c2 d : Val) (c1 : ℚ) (measure : String),
    vfitMethod c0 (.num c1) c2 d measure = encRes (vfit (measure == "max") c0 c1 c2) := by
  kernel_eq vfitMethod

/-- `sourceVariant.fixFlat` is what T11 read in quadratic.py (the `alpha == 0` guard is present or not): the
    generated kernel is the hand model at that variant — with the guard it never raises, without it it raises
    exactly where the model says `Err.zeroDivision`.  The case tree `kernel_eq` meets: NaN neighbour or no extremum →
    stopped, as for `vfit`; `2 alpha = 0` → `(0, c1, 0)` or the raise; else the vertex `-beta / (2 alpha)` clamped to
    `[-1, 1]` (three leaves) and the value of the parabola there. -/
theorem quadraticMethod_eq : ∀ (c0 c2 d : Val) (c1 : ℚ) (measure : String),
    quadraticMethod c0 (.num c1) c2 d measure
      = encRes (quadratic sourceVariant.fixFlat (measure == "max") c0 c1 c2) := by
  kernel_eq quadraticMethod

/-- back from the generated encoding (total; exact on everything a method returns, `decRes_encRes`) -/
def decRes : PyRes (Val × Val × Int) → Res MOut
  | .ok (s, y, f) => .ok ⟨s.get, y.get, f.toNat⟩
  | .zeroDivision => .err .zeroDivision

theorem runMethod_err (ff : Bool) (m : Method) (isMax : Bool) (c0 c2 : Val) (c1 : ℚ) (e : Err)
    (h : runMethod ff m isMax c0 c1 c2 = .err e) : e = .zeroDivision := by
  rcases runMethod_total ff m isMax c0 c2 c1 with ⟨r, hr⟩ | ⟨_, _, hz⟩
  · rw [hr] at h; cases h
  · rw [hz] at h; cases h; rfl

theorem decRes_encRes (x : Res MOut) (h : ∀ e, x = .err e → e = .zeroDivision) : decRes (encRes x) = x := by
  cases x with
  | ok r => cases r; simp [encRes, encOut, decRes, Val.get]
  | err e => simp [encRes, decRes, h e rfl]

theorem encRes_eq_ok (x : Res MOut) (s y : Val) (f : Int) (h : encRes x = .ok (s, y, f)) :
    ∃ r, x = .ok r ∧ s = .num r.shift ∧ y = .num r.cost ∧ f = (r.flag : Int) := by
  cases x with
  | ok r => simp only [encRes, encOut, PyRes.ok.injEq, Prod.mk.injEq] at h; exact ⟨r, rfl, h.1.symm, h.2.1.symm, h.2.2.symm⟩
  | err e => simp [encRes] at h

/-- the method of the model's `Method`, as read in the source on this run -/
def kernelMethod (m : Method) (c0 c1 c2 d : Val) (measure : String) : PyRes (Val × Val × Int) :=
  match m with
  | .vfit => vfitMethod c0 c1 c2 d measure
  | .quadratic => quadraticMethod c0 c1 c2 d measure

/-- **The generated kernels are the hand model's method functions**, for every input the loop can pass
    (any neighbours, NaN included; a numeric centre; any disparity; any measure string). -/
theorem kernelMethod_eq (m : Method) (c0 c2 d : Val) (c1 : ℚ) (measure : String) :
    kernelMethod m c0 (.num c1) c2 d measure
      = encRes (runMethod sourceVariant.fixFlat m (measure == "max") c0 c1 c2) := by
  cases m <;> simp only [kernelMethod, runMethod, vfitMethod_eq, quadraticMethod_eq]

def measureOf (isMax : Bool) : String := if isMax then "max" else "min"

theorem measureOf_eq (isMax : Bool) : (measureOf isMax == "max") = isMax := by cases isMax <;> decide

theorem runMethod_eq_kernel (m : Method) (isMax : Bool) (c0 c2 d : Val) (c1 : ℚ) :
    runMethod sourceVariant.fixFlat m isMax c0 c1 c2
      = decRes (kernelMethod m c0 (.num c1) c2 d (measureOf isMax)) := by
  rw [kernelMethod_eq, measureOf_eq, decRes_encRes _ (fun e => runMethod_err _ _ _ _ _ _ e)]

theorem kernel_method_stop (m : Method) (c0 c2 d : Val) (c1 : ℚ) (measure : String)
    (h : c0 = .nan ∨ c2 = .nan ∨
      ∃ a0 a2, c0 = .num a0 ∧ c2 = .num a2 ∧ isExtremum (measure == "max") a0 c1 a2 = false) :
    kernelMethod m c0 (.num c1) c2 d measure = .ok (.num 0, .num c1, (stoppedBit : Int)) := by
  rw [kernelMethod_eq, method_stop _ _ _ _ _ _ h]; rfl

/-- `method_refine` for the generated kernels (raising is ZeroDivisionError) -/
theorem kernel_method_refine (m : Method) (d : Val) (measure : String) (a0 c1 a2 tol : ℚ)
    (hext : isExtremum (measure == "max") a0 c1 a2 = true) (htol : 0 ≤ tol)
    (hnt : m = .vfit → (tiny ≤ tol ∨ vslopeOf (measure == "max") a0 c1 a2 = 0
      ∨ tiny ≤ vslopeOf (measure == "max") a0 c1 a2)) :
    (m = .quadratic ∧ sourceVariant.fixFlat = false ∧ a0 = c1 ∧ a2 = c1
      ∧ kernelMethod m (.num a0) (.num c1) (.num a2) d measure = .zeroDivision) ∨
    (¬(m = .quadratic ∧ sourceVariant.fixFlat = false ∧ a0 = c1 ∧ a2 = c1) ∧
     ∃ s y : ℚ, kernelMethod m (.num a0) (.num c1) (.num a2) d measure = .ok (.num s, .num y, 0)
      ∧ -(1/2) ≤ s ∧ s ≤ 1/2 ∧ (if (measure == "max") then c1 ≤ y else y ≤ c1)
      ∧ fitOK m (measure == "max") a0 c1 a2 s y tol = true) := by
  rcases method_refine sourceVariant.fixFlat m (measure == "max") a0 c1 a2 tol hext htol hnt with
    ⟨hm, hff, e0, e2, he⟩ | ⟨hne, r, hr, hf, h1, h2, h3, h4⟩
  · left; refine ⟨hm, hff, e0, e2, ?_⟩; rw [kernelMethod_eq, he]; rfl
  · right; refine ⟨hne, r.shift, r.cost, ?_, h1, h2, h3, h4⟩
    rw [kernelMethod_eq, hr]; simp [encRes, encOut, hf]

theorem vfitMethod_shift_le_half (c0 c2 d : Val) (c1 : ℚ) (measure : String) :
    ∃ (s y : ℚ) (f : Nat), vfitMethod c0 (.num c1) c2 d measure = .ok (.num s, .num y, (f : Int))
      ∧ -(1/2) ≤ s ∧ s ≤ 1/2 := by
  obtain ⟨r, hr⟩ := of_vfit_or_guarded (Or.inl rfl) (runMethod_total false .vfit (measure == "max") c0 c2 c1)
  have hb := vfit_shift_le_half (measure == "max") c0 c2 c1 r hr
  exact ⟨r.shift, r.cost, r.flag, by rw [vfitMethod_eq, show vfit _ c0 c1 c2 = _ from hr]; rfl, hb.1, hb.2⟩

theorem quadraticMethod_raises_iff (d : Val) (measure : String) (a0 c1 a2 : ℚ)
    (hext : isExtremum (measure == "max") a0 c1 a2 = true) :
    quadraticMethod (.num a0) (.num c1) (.num a2) d measure = .zeroDivision
      ↔ (sourceVariant.fixFlat = false ∧ a0 = c1 ∧ a2 = c1) := by
  rw [quadraticMethod_eq, ← quadratic_raises_iff sourceVariant.fixFlat (measure == "max") a0 c1 a2 hext]
  constructor
  · intro h
    cases hq : quadratic sourceVariant.fixFlat (measure == "max") (.num a0) c1 (.num a2) with
    | ok r => rw [hq] at h; simp [encRes] at h
    | err e => rw [runMethod_err sourceVariant.fixFlat .quadratic (measure == "max") (.num a0) (.num a2) c1 e hq]
  · intro h; rw [h]; rfl

theorem kernelMethod_total (hflat : sourceVariant.fixFlat = true) (m : Method) (c0 c2 d : Val) (c1 : ℚ)
    (measure : String) : ∃ (s y : ℚ) (f : Nat), kernelMethod m c0 (.num c1) c2 d measure = .ok (.num s, .num y, (f : Int)) := by
  obtain ⟨r, hr⟩ := of_vfit_or_guarded (Or.inr hflat) (runMethod_total sourceVariant.fixFlat m (measure == "max") c0 c2 c1)
  exact ⟨r.shift, r.cost, r.flag, by rw [kernelMethod_eq, hr]; rfl⟩

/-- the test that lets the method run, as read in the source on this run (`Generated.Kernels.refineGuard`, an expression
    translated out of the loop: `dsp` the sample index, `n_disp` the length of the cost row, `disp[row, col]`,
    `d_min`, `d_max`), is the model's `notAtEnd` at the variant T11 reads in the same file -/
theorem refineGuard_eq (P : Params) (hP : P.variant.fixEnds = sourceVariant.fixEnds) (n : Nat) (dv : ℚ) (dsp : Int) :
    refineGuard dsp (n : Int) dv P.dmin P.dmax = notAtEnd P n dv dsp := by
  simp only [refineGuard, notAtEnd, hP, sourceVariant, Generated.RefineCC.endTestOnIndex]
  rw [Bool.eq_iff_iff]
  simp [bne, beq_eq_decide]

/-- `refinePixel` of Model/Refinement.lean, the test that lets the method run and the call of the method replaced by
    what the source defines (arguments as `loop_refinement` passes them: the three cells, `disp[row, col]`, the
    measure string) -/
def refinePixelK (P : Params) (x : PixIn) : Res PixOut :=
  if Flags.isInvalid x.flag then .ok ⟨.nan, x.d, x.flag⟩
  else
    match x.d with
    | .nan => .err .nanDisparity
    | .num dv =>
      let dsp := pyInt ((dv - P.dmin) * (P.subpix : Rat))
      match pyGet x.costs dsp with
      | none => .err .outOfBounds
      | some .nan => .ok ⟨.nan, x.d, x.flag⟩
      | some (.num c1) =>
        if refineGuard dsp (x.costs.length : Int) dv P.dmin P.dmax then
          match pyGet x.costs (dsp - 1), pyGet x.costs (dsp + 1) with
          | some c0, some c2 =>
            match decRes (kernelMethod P.method c0 (.num c1) c2 x.d (measureOf P.isMax)) with
            | .ok r => .ok ⟨.num r.cost, .num (dv + r.shift / (P.subpix : Rat)), addFlag P.variant.fixOr x.flag r.flag⟩
            | .err e => .err e
          | _, _ => .err .outOfBounds
        else .ok ⟨.num c1, x.d, addFlag P.variant.fixOr x.flag stoppedBit⟩

theorem refinePixelK_eq (P : Params) (hP : P.variant.fixFlat = sourceVariant.fixFlat)
    (hE : P.variant.fixEnds = sourceVariant.fixEnds) (x : PixIn) :
    refinePixelK P x = refinePixel P x := by
  simp only [refinePixelK, refinePixel, ← runMethod_eq_kernel, hP, refineGuard_eq P hE]
  rfl

def loopRefinementK (P : Params) (g : List (List PixIn)) : Res (List (List PixOut)) :=
  mapRes (mapRes (refinePixelK P)) g

/-- the whole step with the regenerated kernels is the model's step: every theorem of `Properties/C06.lean` about
    `refinePixel` / `loopRefinement` at the source's variant (`loop_spec`, `loop_total`, `refinePixel_total`, …) is a
    theorem about the loop running the functions read in the source on this run -/
theorem loopRefinementK_eq (P : Params) (hP : P.variant.fixFlat = sourceVariant.fixFlat)
    (hE : P.variant.fixEnds = sourceVariant.fixEnds) (g : List (List PixIn)) :
    loopRefinementK P g = loopRefinement P g := by
  have : refinePixelK P = refinePixel P := funext (refinePixelK_eq P hP hE)
  simp only [loopRefinementK, loopRefinement, this]

/-- **C06 for the source as read on this run, kernels included**: `source_pixel_spec` with the regenerated kernels.  Of `hP` only the
    components `fixFlat` and `fixEnds` are used (`refinePixelK_eq`); the flag update (`fixOr`) plays no role. -/
theorem kernel_pixel_spec (P : Params) (x : PixIn) (tol : ℚ) (hP : P.variant = sourceVariant)
    (hp : pixHyp P x = true) (htol : 0 ≤ tol)
    (hnt : P.method = .vfit → tiny ≤ tol ∨ notTinyCosts x.costs = true) :
    (∃ o, refinePixelK P x = .ok o ∧ specOK P x o tol = true) ∨
    (P.method = .quadratic ∧ P.variant.fixFlat = false ∧ refinePixelK P x = .err .zeroDivision
      ∧ ∃ d c, classify P x = .refine d c c c) := by
  rw [refinePixelK_eq P (by rw [hP]) (by rw [hP]) x]
  exact source_pixel_spec P x tol hP hp htol hnt

/-! ## Outside the hand model: a NaN centre

  `loop_refinement` never calls a method with a NaN centre (`refinePixel`: `some .nan` is answered before), so the
  hand model takes `c1 : ℚ`.  The generated kernels are defined there too (they are the Python functions): with
  numeric neighbours, NaN is not "greater", so the extremum test passes and NaN propagates; `min(1.0, max(-1.0, nan))`
  is -1.0 (Python's and numba's `max` keep the first argument against NaN). -/

-- one simp set for both methods: it names every value operation either text may use, each text uses some of them
set_option linter.unusedSimpArgs false in
theorem vfitMethod_nan_centre (a0 a2 : ℚ) (d : Val) (measure : String) :
    vfitMethod (.num a0) .nan (.num a2) d measure = .ok (.nan, .nan, 0) := by
  by_cases h : measure = "max" <;>
    simp [vfitMethod, h, vmul, vsub, vlt, vabs, vdiv, vadd, veq, visZero, Val.map2, Val.map]

set_option linter.unusedSimpArgs false in
theorem quadraticMethod_nan_centre (a0 a2 : ℚ) (d : Val) (measure : String) :
    quadraticMethod (.num a0) .nan (.num a2) d measure = .ok (.num (-1), .nan, 0) := by
  by_cases h : measure = "max" <;>
    simp [quadraticMethod, h, vmul, vsub, vlt, vabs, vdiv, vadd, veq, vmin, vmax, vpow, visZero, Val.map2, Val.map]

-- a refined pixel (vfit, cost to be minimised): slope 4 on the left, apex at +1/4 with cost 0
example : vfitMethod (.num 5) (.num 1) (.num 3) (.num 0) "min" = .ok (.num (1/4), .num 0, 0) := by decide +kernel
-- a similarity measure, quadratic: parabola through (-1, 1), (0, 4), (1, 3)
example : quadraticMethod (.num 1) (.num 4) (.num 3) (.num 2) "max" = .ok (.num (1/4), .num (33/8), 0) := by
  decide +kernel
-- stopped: NaN neighbour / not an extremum
example : kernelMethod .quadratic .nan (.num 4) (.num 3) (.num 2) "max" = .ok (.num 0, .num 4, 8) := by decide +kernel
example : kernelMethod .vfit (.num 0) (.num 4) (.num 3) (.num 2) "min" = .ok (.num 0, .num 4, 8) := by decide +kernel
-- the hypotheses of `kernel_method_refine` / `kernel_method_stop` on these inputs
example : isExtremum ("min" == "max") 5 1 3 = true ∧ tiny ≤ vslopeOf ("min" == "max") 5 1 3 := by decide +kernel
example : isExtremum ("max" == "max") 1 4 3 = true := by decide +kernel
example : isExtremum ("min" == "max") 0 4 3 = false := by decide +kernel

end Pandora.C06Kernels
