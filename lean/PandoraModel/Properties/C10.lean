/-
  C10 — Filters change only valid pixels, to an average of their valid neighbours.

  Theorems about the executable model `Model/Filter.lean` (+ `Model/Blocks.lean`), for disparity maps and
  validity masks of any size, any odd filter size, any window width, any non-negative weights, and any
  split of the image into processing blocks; the loop literals and the window formula of the source are
  instantiated from `Generated/Blocks.lean`, the flag constants from `Generated/Constants.lean`.
-/
import PandoraModel.Lemmas.Median
import PandoraModel.Lemmas.Blocks
import PandoraModel.Generated.Blocks
import PandoraModel.Properties.Flags
import PandoraModel.Lemmas.FlagWord
import Mathlib.Algebra.Order.Field.Basic

namespace Pandora.C10
open Pandora.Filter

theorem mem_cells (w a b : Nat) : (a, b) ∈ cells w ↔ a < w ∧ b < w := by
  simp [cells, List.mem_flatMap, List.mem_map, List.mem_range]

theorem val_beq_self (v : Val) : (v == v) = true := beq_self_eq_true v

theorem maskCell_num {invalidMask flag : Nat} {d : Val} {v : Rat}
    (h : maskCell invalidMask flag d = .num v) : d = .num v := by
  unfold maskCell at h
  split at h
  · cases h
  · exact h

theorem interior_centre {before after ny nx r c : Nat} (h : interior before after ny nx r c = true) :
    r - before + before = r ∧ c - before + before = c := by
  simp only [interior, Bool.and_eq_true, decide_eq_true_eq] at h
  exact ⟨Nat.sub_add_cancel h.1.1.1, Nat.sub_add_cancel h.1.2⟩

/-- **The blocked window loop is the unsplit formula** — for every split of the window array (any
    `np.arange(start, stop, step)` on both axes), provided the offsets start at `w / 2`: an interior pixel gets the
    kernel of its own window, every other pixel keeps its value. -/
theorem blocked_windows_eq (s : Blocks.Split) (w ny nx : Nat) (k : Nat → Nat → Val) (data : Img)
    (hy : s.beginY = w / 2) (hx : s.beginX = w / 2) (hw : 0 < w) (hny : w ≤ ny) (hnx : w ≤ nx) (r c : Nat) :
    Blocks.blocked (s.plan (ny - w + 1) (nx - w + 1) [ny, nx]) k data r c
      = if interior (w / 2) (w - 1 - w / 2) ny nx r c then k (r - w / 2) (c - w / 2) else data r c := by
  rw [Blocks.blocked_windows s (w / 2) w ny nx k data hy hx (Nat.div_lt_self hw (by decide)) hny hnx]
  simp only [interior, Bool.and_eq_true, decide_eq_true_eq, and_assoc]

/-- an odd filter size and its radius `fs / 2`: the only place where the parity is used -/
theorem odd_radius {fs : Nat} (hodd : fs % 2 = 1) :
    0 < fs ∧ fs - 1 - fs / 2 = fs / 2 ∧ fs / 2 + fs / 2 + 1 = fs := by omega

theorem medianFilter_eq_direct (s : Blocks.Split) (fs ny nx : Nat) (data : Img)
    (hy : s.beginY = fs / 2) (hx : s.beginX = fs / 2) (hodd : fs % 2 = 1) (hny : fs ≤ ny) (hnx : fs ≤ nx)
    (r c : Nat) :
    medianFilter s fs ny nx data r c =
      if (data r c).isNan then .nan
      else if interior (fs / 2) (fs / 2) ny nx r c then nanmedian (window data fs (r - fs / 2) (c - fs / 2))
      else data r c := by
  have h := blocked_windows_eq s fs ny nx (fun i j => nanmedian (window data fs i j)) data hy hx
    (odd_radius hodd).1 hny hnx r c
  rw [(odd_radius hodd).2.1] at h
  exact congrArg (fun v => if (data r c).isNan then Val.nan else v) h

/-- `blocks_irrelevant` (median): the result does not depend on how the window array is cut into blocks -/
theorem medianFilter_block_independent (s s' : Blocks.Split) (fs ny nx : Nat) (data : Img)
    (hy : s.beginY = s'.beginY) (hx : s.beginX = s'.beginX) :
    medianFilter s fs ny nx data = medianFilter s' fs ny nx data := by
  unfold medianFilter
  rw [Blocks.blocked_plan_independent s s' hy hx]

theorem window_eq_centred (data : Img) (fs r c : Nat) (hodd : fs % 2 = 1) :
    window data fs (r - fs / 2) (c - fs / 2) = centredWindow data (fs / 2) (fs / 2) r c := by
  rw [centredWindow, (odd_radius hodd).2.2, window]

/-- **Per-cell theorem (median).**  `out` is what `filter_disparity` / `median_filter` leave in a cell whose
    previous content is `orig`, `data` being the NaN-masked array the filter works on. -/
theorem median_cell (s : Blocks.Split) (fs ny nx : Nat) (data : Img) (orig : Val) (r c : Nat)
    (hy : s.beginY = fs / 2) (hx : s.beginX = fs / 2) (hodd : fs % 2 = 1) (hny : fs ≤ ny) (hnx : fs ≤ nx)
    (horig : ∀ v, data r c = .num v → orig = .num v) :
    medianCellSpec data fs ny nx r c orig
      (if (data r c).isNum then medianFilter s fs ny nx data r c else orig) = true := by
  rw [medianFilter_eq_direct s fs ny nx data hy hx hodd hny hnx]
  unfold medianCellSpec medianCellFailures
  cases hd : data r c with
  | nan => simp only [Val.isNum, Val.isNan, Bool.not_true, Bool.false_eq_true, if_false, val_beq_self, if_true,
      List.isEmpty_nil]
  | num v =>
    have ho := horig v hd
    simp only [Val.isNum, Val.isNan, Bool.not_false, if_true, Bool.false_eq_true, if_false]
    cases hi : interior (fs / 2) (fs / 2) ny nx r c with
    | true =>
      simp only [if_true, Bool.not_true, Bool.false_eq_true, if_false]
      rw [window_eq_centred data fs r c hodd]
      -- the pixel itself is in its window, so the window has a valid value
      have hmem : Val.num v ∈ centredWindow data (fs / 2) (fs / 2) r c := by
        refine List.mem_map.2 ⟨(fs / 2, fs / 2), (mem_cells _ _ _).2 ⟨Nat.lt_succ_of_le (Nat.le_add_right _ _), Nat.lt_succ_of_le (Nat.le_add_right _ _)⟩, ?_⟩
        simp only [(interior_centre hi).1, (interior_centre hi).2, hd]
      have hne : nums (centredWindow data (fs / 2) (fs / 2) r c) ≠ [] :=
        List.ne_nil_of_mem (List.mem_filterMap.2 ⟨_, hmem, rfl⟩)
      obtain ⟨m, hm, hmed⟩ := nanmedian_isMedian _ hne
      rw [hm]
      simp only [hmed, isMedian_between _ _ hmed, if_true, List.append_nil, List.isEmpty_nil]
    | false =>
      simp only [Bool.false_eq_true, if_false, Bool.not_false, if_true, ho, val_beq_self, List.isEmpty_nil]

/-- **C10 for `MedianFilter.filter_disparity`.**  Every pixel of the new disparity map satisfies the
    per-pixel specification w.r.t. the NaN-masked input: invalid pixels and pixels nearer to an edge than
    the radius keep their disparity, every other valid pixel becomes the median of the valid disparities
    of its window, which lies between their minimum and maximum. -/
theorem medianFilterDisparity_spec (s : Blocks.Split) (invalidMask fs ny nx : Nat) (flags : Nat → Nat → Nat)
    (disp : Img) (hy : s.beginY = fs / 2) (hx : s.beginX = fs / 2) (hodd : fs % 2 = 1)
    (hny : fs ≤ ny) (hnx : fs ≤ nx) (r c : Nat) :
    medianCellSpec (masked invalidMask flags disp) fs ny nx r c (disp r c)
      (medianFilterDisparity s invalidMask fs ny nx flags disp r c) = true :=
  median_cell s fs ny nx (masked invalidMask flags disp) (disp r c) r c hy hx hodd hny hnx
    (fun _ hv => maskCell_num hv)

/-- **`intervals_same_median`**: `median_filter` applied to an interval-bound band satisfies the same
    per-cell specification, "valid" meaning "not NaN in the band". -/
theorem medianBand_spec (s : Blocks.Split) (fs ny nx : Nat) (band : Img)
    (hy : s.beginY = fs / 2) (hx : s.beginX = fs / 2) (hodd : fs % 2 = 1)
    (hny : fs ≤ ny) (hnx : fs ≤ nx) (r c : Nat) :
    medianCellSpec band fs ny nx r c (band r c) (medianFilter s fs ny nx band r c) = true := by
  have h := median_cell s fs ny nx band (band r c) r c hy hx hodd hny hnx (fun v hv => hv)
  -- a NaN cell of the band is NaN after the filter, so the `if` of `median_cell` is the filter's own value
  have e : (if (band r c).isNum then medianFilter s fs ny nx band r c else band r c)
      = medianFilter s fs ny nx band r c := by
    cases hb : band r c with
    | num v => rfl
    | nan => exact ((medianFilter_eq_direct s fs ny nx band hy hx hodd hny hnx r c).trans (by rw [hb]; rfl)).symm
  rwa [e] at h

/-- the two statements for the loop literals found in median.py on this run -/
theorem source_median_spec (invalidMask fs ny nx : Nat) (flags : Nat → Nat → Nat) (disp band : Img)
    (hodd : fs % 2 = 1) (hny : fs ≤ ny) (hnx : fs ≤ nx) (r c : Nat) :
    medianCellSpec (masked invalidMask flags disp) fs ny nx r c (disp r c)
      (medianFilterDisparity (Generated.Blocks.median fs) invalidMask fs ny nx flags disp r c) = true
    ∧ medianCellSpec band fs ny nx r c (band r c)
      (medianFilter (Generated.Blocks.median fs) fs ny nx band r c) = true :=
  ⟨medianFilterDisparity_spec _ invalidMask fs ny nx flags disp rfl rfl hodd hny hnx r c,
   medianBand_spec _ fs ny nx band rfl rfl hodd hny hnx r c⟩

/-- `nansum(windows * weights) / nansum(weights)` is the weighted mean over the valid window cells: a cell counts
    in either sum iff it is not NaN, with the weight and the weight × value of `validPairs` -/
theorem kernel_eq_weightedMean (wts : Weights) (w off : Nat) (win : Nat → Nat → Val) (ctr : Rat)
    (hc : win off off = .num ctr)
    (hden : ((validPairs wts w win ctr).map (fun p => p.1)).sum ≠ 0) :
    bilateralKernel wts w off win = .num (weightedMean (validPairs wts w win ctr)) := by
  unfold bilateralKernel
  simp only [hc, nansum]
  have hwt : ∀ p : Nat × Nat, num? (cellWeight wts win (.num ctr) p)
      = (match win p.1 p.2 with
          | .nan => none
          | .num v => some (wts.spatial p.1 p.2 * wts.range (v - ctr), v)).map (fun q : Rat × Rat => q.1) := fun p => by
    cases hw : win p.1 p.2 <;> simp only [cellWeight, hw] <;> rfl
  have hpw : ∀ p : Nat × Nat, num? (win p.1 p.2 * cellWeight wts win (.num ctr) p)
      = (match win p.1 p.2 with
          | .nan => none
          | .num v => some (wts.spatial p.1 p.2 * wts.range (v - ctr), v)).map (fun q : Rat × Rat => q.1 * q.2) := fun p => by
    cases hw : win p.1 p.2 <;> simp only [cellWeight, hw]
    · rfl
    · exact congrArg some (mul_comm _ _)
  rw [nums_map_filterMap _ _ _ hwt, nums_map_filterMap _ _ _ hpw]
  exact if_neg hden

theorem weightedSum_bounds (lo hi : Rat) : ∀ (ps : List (Rat × Rat)),
    (∀ p ∈ ps, 0 ≤ p.1) → (∀ p ∈ ps, lo ≤ p.2 ∧ p.2 ≤ hi) →
    lo * (ps.map (fun p => p.1)).sum ≤ (ps.map (fun p => p.1 * p.2)).sum
    ∧ (ps.map (fun p => p.1 * p.2)).sum ≤ hi * (ps.map (fun p => p.1)).sum
  | [], _, _ => by simp
  | p :: ps, hw, hv => by
    obtain ⟨ih1, ih2⟩ := weightedSum_bounds lo hi ps (fun q hq => hw q (List.mem_cons_of_mem _ hq))
      (fun q hq => hv q (List.mem_cons_of_mem _ hq))
    have hp := hw p List.mem_cons_self
    obtain ⟨hl, hh⟩ := hv p List.mem_cons_self
    simp only [List.map_cons, List.sum_cons, mul_add]
    rw [mul_comm lo, mul_comm hi]
    exact ⟨add_le_add (mul_le_mul_of_nonneg_left hl hp) ih1, add_le_add (mul_le_mul_of_nonneg_left hh hp) ih2⟩

/-- `weighted_mean_between`: a mean with non-negative weights of positive total lies between any bounds of the values -/
theorem weightedMean_between (lo hi : Rat) (ps : List (Rat × Rat))
    (hw : ∀ p ∈ ps, 0 ≤ p.1) (hpos : 0 < (ps.map (fun p => p.1)).sum)
    (hv : ∀ p ∈ ps, lo ≤ p.2 ∧ p.2 ≤ hi) :
    lo ≤ weightedMean ps ∧ weightedMean ps ≤ hi := by
  obtain ⟨h1, h2⟩ := weightedSum_bounds lo hi ps hw hv
  exact ⟨(le_div_iff₀ hpos).2 h1, (div_le_iff₀ hpos).2 h2⟩

theorem bilateralFilter_eq_direct (s : Blocks.Split) (wts : Weights) (w ny nx : Nat) (data : Img)
    (hy : s.beginY = w / 2) (hx : s.beginX = w / 2) (hw : 0 < w) (hny : w ≤ ny) (hnx : w ≤ nx)
    (r c : Nat) :
    bilateralFilter s wts w ny nx data r c =
      if (data r c).isNan then .nan
      else if interior (w / 2) (w - 1 - w / 2) ny nx r c then
        bilateralKernel wts w (w / 2) (fun a b => data (r - w / 2 + a) (c - w / 2 + b))
      else data r c :=
  congrArg (fun v => if (data r c).isNan then Val.nan else v)
    (blocked_windows_eq s w ny nx (fun i j => bilateralKernel wts w (w / 2) (fun a b => data (i + a) (j + b))) data
      hy hx hw hny hnx r c)

/-- `blocks_irrelevant` (bilateral) -/
theorem bilateralFilter_block_independent (s s' : Blocks.Split) (wts : Weights) (w ny nx : Nat) (data : Img)
    (hy : s.beginY = s'.beginY) (hx : s.beginX = s'.beginX) :
    bilateralFilter s wts w ny nx data = bilateralFilter s' wts w ny nx data := by
  unfold bilateralFilter
  rw [Blocks.blocked_plan_independent s s' hy hx]

theorem closeTo_self (m : Rat) : closeTo 0 m m = true := by
  simp [closeTo, absRat]

/-- **Per-cell theorem (bilateral)**, exact arithmetic (tolerance 0).  `out` is what `filter_disparity` /
    `filter_bilateral` leave in a cell whose previous content is `orig`, `data` being the NaN-masked array the filter works
    on.  The weights are asked to be usable only where they are used: at a valid pixel of the interior. -/
theorem bilateral_cell (s : Blocks.Split) (wts : Weights) (w ny nx : Nat) (data : Img) (orig : Val) (r c : Nat)
    (hy : s.beginY = w / 2) (hx : s.beginX = w / 2) (hw : 0 < w) (hny : w ≤ ny) (hnx : w ≤ nx)
    (horig : ∀ v, data r c = .num v → orig = .num v)
    (hwf : ∀ ctr, data r c = .num ctr → interior (w / 2) (w - 1 - w / 2) ny nx r c = true →
      wfWeightsAt wts w (fun a b => data (r - w / 2 + a) (c - w / 2 + b)) ctr = true) :
    bilateralCellSpec wts 0 data w ny nx r c orig
      (if (data r c).isNum then bilateralFilter s wts w ny nx data r c else orig) = true := by
  rw [bilateralFilter_eq_direct s wts w ny nx _ hy hx hw hny hnx]
  unfold bilateralCellSpec bilateralCellFailures
  cases hd : data r c with
  | nan => simp only [Val.isNum, Val.isNan, Bool.not_true, Bool.false_eq_true, if_false, val_beq_self, if_true,
      List.isEmpty_nil]
  | num ctr =>
    have ho := horig ctr hd
    simp only [Val.isNum, Val.isNan, Bool.not_false, if_true, Bool.false_eq_true, if_false]
    cases hi : interior (w / 2) (w - 1 - w / 2) ny nx r c with
    | true =>
      simp only [if_true, Bool.not_true, Bool.false_eq_true, if_false]
      have hwf' := hwf ctr hd hi
      simp only [wfWeightsAt, Bool.and_eq_true, decide_eq_true_eq, List.all_eq_true] at hwf'
      obtain ⟨hnonneg, hpos⟩ := hwf'
      have hcentre : (fun a b => data (r - w / 2 + a) (c - w / 2 + b)) (w / 2) (w / 2) = .num ctr := by
        simp only [(interior_centre hi).1, (interior_centre hi).2, hd]
      rw [kernel_eq_weightedMean wts w (w / 2) _ ctr hcentre (ne_of_gt hpos)]
      have hb := weightedMean_between _ _ _ hnonneg hpos (fun p hp =>
        ⟨minOf_le _ _ (List.mem_map.2 ⟨p, hp, rfl⟩), le_maxOf _ _ (List.mem_map.2 ⟨p, hp, rfl⟩)⟩)
      simp only [closeTo_self, between_iff.2 hb, if_true, List.append_nil, List.isEmpty_nil]
    | false =>
      simp only [Bool.false_eq_true, if_false, Bool.not_false, if_true, ho, val_beq_self, List.isEmpty_nil]

/-- **C10 for `BilateralFilter.filter_disparity`** (exact arithmetic, tolerance 0): invalid pixels and
    pixels outside the interior keep their disparity; every other valid pixel becomes the weighted mean of
    the valid disparities of its window (weights = spatial factor × range factor), which lies between
    their minimum and maximum whenever the weights are non-negative with a positive total. -/
theorem bilateralFilterDisparity_spec (s : Blocks.Split) (wts : Weights) (invalidMask w ny nx : Nat)
    (flags : Nat → Nat → Nat) (disp : Img)
    (hy : s.beginY = w / 2) (hx : s.beginX = w / 2) (hw : 0 < w) (hny : w ≤ ny) (hnx : w ≤ nx) (r c : Nat)
    (hwf : ∀ ctr, masked invalidMask flags disp r c = .num ctr →
      wfWeightsAt wts w (fun a b => masked invalidMask flags disp (r - w / 2 + a) (c - w / 2 + b)) ctr = true) :
    bilateralCellSpec wts 0 (masked invalidMask flags disp) w ny nx r c (disp r c)
      (bilateralFilterDisparity s wts invalidMask w ny nx flags disp r c) = true :=
  bilateral_cell s wts w ny nx (masked invalidMask flags disp) (disp r c) r c hy hx hw hny hnx
    (fun _ hv => maskCell_num hv) fun ctr hd _ => hwf ctr hd

/-- the window formula found in bilateral.py on this run is the model's -/
theorem source_bilateral_window (ny nx : Nat) (sigmaSpace : Rat) :
    Generated.Blocks.bilateralWinWidth [ny, nx] sigmaSpace = winWidth ny nx sigmaSpace :=
  rfl

/-- the statement for the loop literals found in bilateral.py on this run -/
theorem source_bilateral_spec (wts : Weights) (invalidMask w ny nx : Nat)
    (flags : Nat → Nat → Nat) (disp : Img) (hw : 0 < w) (hny : w ≤ ny) (hnx : w ≤ nx) (r c : Nat)
    (hwf : ∀ ctr, masked invalidMask flags disp r c = .num ctr →
      wfWeightsAt wts w (fun a b => masked invalidMask flags disp (r - w / 2 + a) (c - w / 2 + b)) ctr = true) :
    bilateralCellSpec wts 0 (masked invalidMask flags disp) w ny nx r c (disp r c)
      (bilateralFilterDisparity (Generated.Blocks.bilateral w) wts invalidMask w ny nx flags disp r c) = true :=
  bilateralFilterDisparity_spec _ wts invalidMask w ny nx flags disp rfl rfl hw hny hnx r c hwf

theorem invalidMask_documented :
    Generated.Constants.PANDORA_MSK_PIXEL_INVALID = Flags.pixelInvalid
    ∧ Generated.Constants.PANDORA_MSK_PIXEL_INTERVAL_REGULARIZED = Flags.intervalRegularized := by
  obtain ⟨-, -, -, -, -, -, -, -, -, -, -, h12, h13⟩ := FlagsProps.constants_documented
  exact ⟨h13, h12⟩

/-- `bit11_only`: `|=` changes nothing but bit 11, and only upwards -/
theorem regularize_flagSpec (bit : Nat) (reg : Nat → Nat → Bool) (flags : Nat → Nat → Nat) (r c : Nat) :
    flagSpec bit (flags r c) (regularizeFlags bit reg flags r c) true = true := by
  unfold flagSpec regularizeFlags
  cases reg r c <;> simp

theorem regularize_testBit (f i : Nat) :
    (f ||| Flags.intervalRegularized).testBit i = (f.testBit i || decide (11 = i)) := C04.testBit_or_two_pow f 11 i

theorem regularize_other_bits (f i : Nat) (hi : i ≠ 11) :
    (f ||| Flags.intervalRegularized).testBit i = f.testBit i := by
  rw [regularize_testBit, decide_eq_false (Ne.symm hi), Bool.or_false]

theorem regularize_validity (f : Nat) :
    Flags.isInvalid (f ||| Flags.intervalRegularized) = Flags.isInvalid f :=
  FlagWord.isInvalid_congr fun k hk => regularize_other_bits f k (by rintro rfl; exact absurd hk (by decide))

/-- the flag word after `flags[mask_regularization] |= PANDORA_MSK_PIXEL_INTERVAL_REGULARIZED`, bit by bit -/
theorem regularizeFlags_testBit (reg : Nat → Nat → Bool) (flags : Nat → Nat → Nat) (r c i : Nat) :
    (regularizeFlags Flags.intervalRegularized reg flags r c).testBit i
      = ((flags r c).testBit i || (decide (i = 11) && reg r c)) := by
  unfold regularizeFlags
  cases reg r c
  · rw [if_neg Bool.false_ne_true, Bool.and_false, Bool.or_false]
  · rw [if_pos rfl, Bool.and_true, regularize_testBit, decide_eq_decide.2 eq_comm]

/-- raising the bit twice is raising it once (what `+=` would not give) -/
theorem regularize_idempotent (bit : Nat) (reg : Nat → Nat → Bool) (flags : Nat → Nat → Nat) :
    regularizeFlags bit reg (regularizeFlags bit reg flags) = regularizeFlags bit reg flags := by
  funext r c
  unfold regularizeFlags
  cases reg r c <;> simp [Nat.or_assoc]

def demoDisp : Img := fun r c =>
  .num (([[1, 2, 3, 4], [5, 9, 7, 8], [2, 4, 6, 8], [1, 3, 5, 7]] : List (List Rat)).getD r [] |>.getD c 0)
def demoFlags : Nat → Nat → Nat := fun r c => if r = 1 ∧ c = 2 then 64 else 0

/-- valid interior pixel (1,1) of a 4×4 map with an invalid neighbour: 8 valid values, the median is the
    mean of the two middle ones -/
example : medianFilterDisparity (Generated.Blocks.median 3) 963 3 4 4 demoFlags demoDisp 1 1 = .num (7 / 2) := by
  decide +kernel
/-- the invalid pixel keeps its disparity, an edge pixel too -/
example : medianFilterDisparity (Generated.Blocks.median 3) 963 3 4 4 demoFlags demoDisp 1 2 = .num 7 := by
  decide +kernel
example : medianFilterDisparity (Generated.Blocks.median 3) 963 3 4 4 demoFlags demoDisp 0 1 = .num 2 := by
  decide +kernel
/-- the specification rejects another value at the interior pixel -/
example : medianCellSpec (masked 963 demoFlags demoDisp) 3 4 4 1 1 (.num 9) (.num 4) = false := by decide +kernel
example : medianCellSpec (masked 963 demoFlags demoDisp) 3 4 4 1 1 (.num 9) (.num (7 / 2)) = true := by
  decide +kernel

def demoWeights : Weights :=
  { spatial := fun a b => if a = 1 ∧ b = 1 then 2 else 1, range := fun d => if d = 0 then 1 else 1 / 2 }
/-- the hypothesis on the weights is satisfiable, and the bilateral result differs from the input -/
example : wfWeightsAt demoWeights 3 (fun a b => masked 963 demoFlags demoDisp (1 - 1 + a) (1 - 1 + b)) 9 = true := by
  decide +kernel
example : bilateralFilterDisparity (Generated.Blocks.bilateral 3) demoWeights 963 3 4 4 demoFlags demoDisp 1 1
    = .num (59 / 11) := by
  decide +kernel

end Pandora.C10
