/-
  C19 — Saved products equal the computed ones and the saved configuration replays.

  Theorems about the executable model `Model/Save.lean`, instantiated with what the translator regenerated
  from `pandora/common.py`, `pandora/output_tree_design.py` and `pandora/__init__.py` on this run
  (`Generated/SaveTable.lean`), and with C01's model of the machine for "the right files exist iff the
  pipeline has a validation step".  Everything is proved for all products (any size, any number of
  indicators, any cell values incl. NaN), all pipelines and all input sections.  The replay of the saved
  configuration holds when `main` does not write the derived right interval into it, or the disparities are
  grids, which is the case for the `main` of the source as regenerated (`mainFacts.writesRightDisp = false`); for a
  `main` that writes it, the saved file of every accepted integer-disparity configuration is refused (F13).

  Modelled, not verified: GeoTIFF encoding/decoding (rasterio/GDAL), json.dump/json.load, dtype casts; they
  are sampled by the correspondence through the real `pandora.main`.
-/
import PandoraModel.Model.Save
import PandoraModel.Lemmas.MapValsM
import PandoraModel.Lemmas.Dataset
import PandoraModel.Generated.SaveTable
import PandoraModel.Properties.C01

namespace Pandora.C19
open Pandora.Save Pandora.Dataset

theorem sameGrid_refl (rows cols : Nat) (a : Nat → Nat → FVal) : sameGrid rows cols a a = true := by
  simp [sameGrid, allRC_iff]

/-- **The band loop** `for dsp in range(1, depth + 1): write(data[:, :, dsp - 1], dsp)` writes, for
    every depth, band `k` (0-based) = slice `k`, named after the `k`-th name. -/
theorem bandLoop_eq (depth : Nat) (data : Nat → Nat → Nat → FVal) (names : Option (List String)) :
    bandLoop depth data names =
      (List.range depth).map fun k => { name := names.bind fun l => l[k]?, px := data k } := by
  unfold bandLoop
  rw [List.range'_eq_map_range, List.map_map]
  apply List.map_congr_left
  intro k _
  simp

theorem bandLoop_length (depth : Nat) (data) (names) : (bandLoop depth data names).length = depth := by
  simp [bandLoop]

theorem bandLoop_names (ind : List String) (data : Nat → Nat → Nat → FVal) :
    (bandLoop ind.length data (some ind)).map (·.name) = ind.map some := by
  rw [bandLoop_eq, List.map_map]
  apply List.ext_getElem
  · simp
  · intro i h1 h2
    simp at h1
    simp [h1]

theorem bandLoop_px (depth : Nat) (data : Nat → Nat → Nat → FVal) (names) (k : Nat) (hk : k < depth) :
    ((bandLoop depth data names)[k]?.getD default).px = data k := by
  rw [bandLoop_eq]
  simp [hk]

theorem bandLoop_grid (rows cols depth : Nat) (data : Nat → Nat → Nat → FVal) (names) (k : Nat) (hk : k < depth) :
    sameGrid rows cols ((bandLoop depth data names)[k]?.getD default).px (data k) = true := by
  rw [bandLoop_px _ _ _ k hk]
  exact sameGrid_refl _ _ _

theorem specConf_written (name : String) (p : Product) (ind : List String) (d3 : Nat → Nat → Nat → FVal)
    (hp : p.conf = some (ind, d3)) (files : List OutFile)
    (hf : findFile files name = some (writeDataArray "." name "float32" p.geo p.rows p.cols
            (.inr (ind.length, fun k r c => d3 r c k)) (some ind)))
    (hc : countFile files name = 1) :
    (specConf files name p).all (·.2) = true := by
  simp only [specConf, hp, hf, writeDataArray, hc]
  simp [bandLoop_names, bandLoop_length, allB_iff]
  intro k hk
  exact bandLoop_grid _ _ _ _ _ k hk

theorem writeDataArray_name (dir name dtype geo : String) (rows cols : Nat) (data) (names) :
    (writeDataArray dir name dtype geo rows cols data names).name = name := by
  rcases data with d2 | ⟨depth, d3⟩ <;> rfl

theorem runRow_name {otd : List (String × String)} {left right : Product} {row : SaveRow} {f : OutFile}
    (h : runRow otd left right row = some f) : f.name = row.file := by
  unfold runRow at h
  dsimp only at h
  split at h
  · cases h
  · split at h
    · cases h; exact writeDataArray_name ..
    · cases h; exact writeDataArray_name ..
    · split at h
      · split at h
        · cases h
        · cases h; exact writeDataArray_name ..
      · cases h; exact writeDataArray_name ..

theorem filter_saveResults (otd : List (String × String)) (tbl : List SaveRow) (left right : Product) (name : String) :
    (saveResults otd tbl left right).filter (fun f => f.name == name) =
      saveResults otd (tbl.filter (fun row => row.file == name)) left right := by
  rw [saveResults, saveResults, List.filter_filterMap, List.filterMap_filter]
  refine congrArg (fun g => List.filterMap g tbl) (funext fun row => ?_)
  cases h : runRow otd left right row with
  | none => simp
  | some f => simp [Option.filter, runRow_name h]

theorem saveResults_names (otd : List (String × String)) (tbl : List SaveRow) (left right : Product) :
    ∀ f ∈ saveResults otd tbl left right, f.name ∈ tbl.map (·.file) := by
  intro f hf
  obtain ⟨row, hrow, h⟩ := List.mem_filterMap.1 hf
  exact List.mem_map.2 ⟨row, hrow, (runRow_name h).symm⟩

theorem findFile_saveResults {otd : List (String × String)} {tbl : List SaveRow} {name : String} {row : SaveRow}
    (h : tbl.filter (fun row => row.file == name) = [row]) (left right : Product) :
    findFile (saveResults otd tbl left right) name = runRow otd left right row ∧
    countFile (saveResults otd tbl left right) name = (runRow otd left right row).toList.length := by
  rw [findFile, countFile, ← List.head?_filter, filter_saveResults, h, saveResults, List.filterMap_cons, List.filterMap_nil]
  cases runRow otd left right row <;> exact ⟨rfl, rfl⟩

theorem documentedTable_rows :
    documentedTable.filter (fun row => row.file == "left_disparity.tif") = [documentedTable[0]] ∧
    documentedTable.filter (fun row => row.file == "left_confidence_measure.tif") = [documentedTable[1]] ∧
    documentedTable.filter (fun row => row.file == "left_validity_mask.tif") = [documentedTable[2]] ∧
    documentedTable.filter (fun row => row.file == "right_disparity.tif") = [documentedTable[3]] ∧
    documentedTable.filter (fun row => row.file == "right_confidence_measure.tif") = [documentedTable[4]] ∧
    documentedTable.filter (fun row => row.file == "right_validity_mask.tif") = [documentedTable[5]] := by
  decide +kernel

theorem otdDir_documented :
    otdDir documentedOtd "left_disparity.tif" = "." ∧ otdDir documentedOtd "left_confidence_measure.tif" = "." ∧
    otdDir documentedOtd "left_validity_mask.tif" = "." ∧ otdDir documentedOtd "right_disparity.tif" = "." ∧
    otdDir documentedOtd "right_confidence_measure.tif" = "." ∧ otdDir documentedOtd "right_validity_mask.tif" = "." := by
  decide +kernel

/-- **`save_results` with the documented table writes exactly the documented files**, for every
    pair of products: left disparity / validity always, a confidence file per side iff the side has
    confidence bands (one band per indicator, in order, named after it), the right files iff the right
    dataset is not empty; values, dtype, directory and georeferencing as specified. -/
theorem saveResults_spec (left right : Product) :
    specSave left right (saveResults documentedOtd documentedTable left right) = true := by
  obtain ⟨h0, h1, h2, h3, h4, h5⟩ := documentedTable_rows
  obtain ⟨d0, d1, d2, d3, d4, d5⟩ := otdDir_documented
  have hother : ((saveResults documentedOtd documentedTable left right).all fun f =>
      (leftNames ++ rightNames).contains f.name) = true :=
    List.all_eq_true.2 fun f hf => List.contains_iff_mem.2 (saveResults_names _ _ _ _ f hf)
  -- every clause speaks of one name: replace the search in the file list by what that name's row writes
  simp only [specSave, specSaveClauses, specPlain, specConf, hother,
    findFile_saveResults h0, findFile_saveResults h1, findFile_saveResults h2,
    findFile_saveResults h3, findFile_saveResults h4, findFile_saveResults h5]
  simp only [rightNames, List.all_cons, List.all_nil,
    findFile_saveResults h3, findFile_saveResults h4, findFile_saveResults h5]
  simp only [documentedTable, List.getElem_cons_zero, List.getElem_cons_succ, runRow, d0, d1, d2, d3, d4, d5,
    List.all_append, Bool.and_eq_true, Bool.and_true]
  obtain ⟨lne, lr, lc, ld, lv, lconf, lgeo⟩ := left
  obtain ⟨rne, rr, rc, rd, rv, rconf, rgeo⟩ := right
  refine ⟨⟨⟨⟨?_, ?_⟩, ?_⟩, ?_⟩, ?_⟩
  · simp [writeDataArray, sameGrid_refl]
  · simp [writeDataArray, sameGrid_refl]
  · cases lconf <;> simp [writeDataArray, bandLoop_names, bandLoop_length, allB_iff]
    intro k hk; exact bandLoop_grid _ _ _ _ _ k hk
  · cases rne
    · simp
    · simp only [Bool.not_true, if_true, List.all_append, Bool.and_eq_true]
      refine ⟨⟨?_, ?_⟩, ?_⟩
      · simp [writeDataArray, sameGrid_refl]
      · simp [writeDataArray, sameGrid_refl]
      · cases rconf <;> simp [writeDataArray, bandLoop_names, bandLoop_length, allB_iff]
        intro k hk; exact bandLoop_grid _ _ _ _ _ k hk
  · cases rne <;> simp

/-- the table of `write_data_array` calls and the output tree in the source are the documented ones -/
theorem source_table_documented :
    Pandora.Generated.saveTable = documentedTable ∧ Pandora.Generated.otd = documentedOtd := ⟨rfl, rfl⟩

theorem source_saveResults_spec (left right : Product) :
    specSave left right (saveResults Pandora.Generated.otd Pandora.Generated.saveTable left right) = true := by
  rw [source_table_documented.1, source_table_documented.2]
  exact saveResults_spec left right

theorem complete_asUser (isRight : Bool) (s : SideCfg) : complete isRight s.asUser = some s := by
  cases s; simp [complete, SideCfg.asUser]

theorem checkInput_asUser (l r : SideCfg) :
    checkInput l.asUser r.asUser = if schemaOk l r then some (l, r) else none := by
  simp [checkInput, complete_asUser]

/-- whether the derived right interval may be written into the saved configuration without harm:
    never for an integer interval -/
def leftIsPath (l : SideCfg) : Bool :=
  match l.disp with
  | .path _ => true
  | _ => false

theorem derivedRight_path (s : String) (r : DispCfg) : derivedRight (.path s) r = r := by
  cases r <;> rfl

/-- **`config_refeed_accepted`, `config_refeed_same_rasters`, `config_has_margins`.**
    For every accepted input section, the configuration `main` saves is accepted when fed back,
    completes to itself and hands `create_dataset_from_inputs` the same two sections as the first
    run — provided `main` does not write the derived right interval into it, or the disparities are
    grids (nothing is derived then). -/
theorem refeed_spec {P M} (facts : MainFacts) (l r : SideCfg) (pipeline : P) (margins : M)
    (hacc : schemaOk l r = true) (hm : facts.addsMargins = true)
    (hw : facts.writesRightDisp = true → leftIsPath l = true) :
    (specRefeed l r (mainSaved facts l r pipeline margins)).all (·.2) = true := by
  have hsaved : (mainSaved facts l r pipeline margins).right = r := by
    simp only [mainSaved]
    cases hwr : facts.writesRightDisp with
    | false => simp
    | true =>
      have hp := hw hwr
      simp only [if_true, effectiveRight]
      unfold leftIsPath at hp
      split at hp
      · rename_i s hd
        rw [hd, derivedRight_path]
      · cases hp
  have hleft : (mainSaved facts l r pipeline margins).left = l := rfl
  simp only [specRefeed, specRefeedObs, refeedInput, hsaved, hleft, checkInput_asUser, hacc, if_true]
  simp [mainSaved, hm]

/-- **With a `main` that writes the derived interval, the saved file of every integer-disparity run is refused**
    (F13; the `main` of the source as regenerated does not write it, `C19C05.source_main_facts`): then feeding `cfg/config.json` back fails for *every* accepted configuration whose
    disparity is an integer pair. -/
theorem refeed_rejected_when_written {P M} (facts : MainFacts) (l r : SideCfg) (pipeline : P) (margins : M)
    (hacc : schemaOk l r = true) (hwr : facts.writesRightDisp = true) (xs : List Int) (hd : l.disp = .ints xs) :
    refeedInput (mainSaved facts l r pipeline margins) = none := by
  simp only [refeedInput, mainSaved, hwr, if_true, checkInput_asUser]
  simp only [schemaOk, Bool.and_eq_true] at hacc
  obtain ⟨_, hdisp⟩ := hacc
  rw [hd] at hdisp
  simp only [dispOk, Bool.and_eq_true] at hdisp
  obtain ⟨hx, hr⟩ := hdisp
  have hrn : r.disp = .null := by
    cases hrd : r.disp <;> rw [hrd] at hr <;> simp at hr
  match xs, hx with
  | a :: b :: rest, _ =>
    simp [schemaOk, effectiveRight, derivedRight, hd, hrn, dispOk]

/-- **The pipeline section of the saved file completes to itself**, given that each step's check is
    idempotent on its own output (`C05.classCheck_idempotent`, `C19C05.stepCheck_idempotent`): the second run executes the same steps with the
    same parameters. -/
theorem checkPipeline_fixpoint {S} (chk : S → Option S)
    (hidem : ∀ s s', chk s = some s' → chk s' = some s') :
    ∀ (steps out : List (String × S)), checkPipeline chk steps = some out → checkPipeline chk out = some out :=
  fun _ _ h => mapValsM_fixpoint (g := fun _ s => chk s) (fun _ s s' => hidem s s') h

theorem checkPipeline_names {S} (chk : S → Option S) :
    ∀ (steps out : List (String × S)), checkPipeline chk steps = some out → out.map (·.1) = steps.map (·.1) :=
  fun _ _ h => mapValsM_keys (g := fun _ s => chk s) h

section Pipeline
open Pandora.Machine Pandora.C01


/-- the right disparity map is produced: `disparity_run` took effect on the right data -/
def rightDisparityRan (tr : Trace) : Bool :=
  tr.any fun e => match e with
    | .run cb _ _ right => cb == "disparity_run" && right
    | _ => false

def isRightEvent : Event → Bool
  | .run _ _ _ right => right
  | _ => false

theorem stepEvents_false_noRight (n : String) (s : Nat) : ∀ e ∈ stepEvents n s false, isRightEvent e = false := by
  intro e he
  unfold stepEvents at he
  split at he
  · split at he
    · cases he
    · simp [sideEvents] at he; subst he; rfl
  · simp only [List.mem_flatMap, sideEvents] at he
    obtain ⟨cb, _, hcb⟩ := he
    simp at hcb; subst hcb; rfl
  · cases he

theorem expectedRun_false_noRight (names : List String) (n : Nat) :
    ∀ e ∈ expectedRun names n false, isRightEvent e = false := by
  have hflat : ∀ (l : List String) (s : Nat), ∀ e ∈ l.flatMap (fun nm => stepEvents nm s false), isRightEvent e = false := by
    intro l s e he
    simp only [List.mem_flatMap] at he
    obtain ⟨nm, _, h⟩ := he
    exact stepEvents_false_noRight nm s e h
  have hcoarse : ∀ k, ∀ e ∈ expectedCoarse names false k, isRightEvent e = false := by
    intro k
    induction k with
    | zero => intro e he; cases he
    | succ k ih =>
      intro e he
      simp only [expectedCoarse, List.mem_append] at he
      rcases he with h | h
      · exact hflat _ _ e h
      · exact ih e h
  intro e he
  simp only [expectedRun, List.mem_append] at he
  rcases he with h | h
  · exact hcoarse _ e h
  · exact hflat _ _ e h

theorem rightDisparityRan_false_of_noRight (tr : Trace) (h : ∀ e ∈ tr, isRightEvent e = false) :
    rightDisparityRan tr = false := by
  unfold rightDisparityRan
  rw [List.any_eq_false]
  intro e he
  have := h e he
  cases e with
  | check => simp
  | run cb nm s r => simp [isRightEvent] at this; simp [this]

theorem rightDisparityRan_true (names : List String) (n : Nat) (hd : hasKind .disparity names = true) :
    rightDisparityRan (expectedRun names n true) = true := by
  obtain ⟨nm, hmem, hk'⟩ := hasKind_iff.1 hd
  unfold rightDisparityRan
  rw [List.any_eq_true]
  refine ⟨Event.run "disparity_run" nm 0 true, ?_, by simp⟩
  simp only [expectedRun, List.mem_append, List.mem_flatMap]
  right
  refine ⟨nm, hmem, ?_⟩
  have : Kind.ofName? (kindOf nm) = some .disparity := by rw [hk', Kind.ofName?_name]
  simp only [stepEvents, this, runCbsOf, List.flatMap_cons, List.flatMap_nil, List.append_nil, sideEvents, if_true]
  have hs : Kind.disparity.name ++ "_run" = "disparity_run" := by decide
  rw [hs]
  simp

/-- **`right_files_iff_validation`, pipeline half.**  For an accepted pipeline that computes a
    disparity map, run on a machine that has checked it, `disparity_run` takes effect on the right
    data — the right dataset handed to `save_results` is not empty — exactly when the pipeline has a
    validation step. -/
theorem right_product_iff_validation (names : List String) (n : Nat)
    (hp : isPath .begin names = true) (hn : 1 ≤ n) (hms : 2 ≤ n → hasKind .multiscale names = true)
    (hd : hasKind .disparity names = true) :
    rightDisparityRan
      (runPipeline Pandora.Generated.transitionsRun names n { rightDispMap := hasKind .validation names } []).2.2
      = hasKind .validation names := by
  rw [run_accepts runTable_documented names n _ rfl rfl hp hn hms rfl]
  simp only
  cases hv : hasKind .validation names with
  | true => exact rightDisparityRan_true names n hd
  | false => exact rightDisparityRan_false_of_noRight _ (expectedRun_false_noRight names n)

end Pipeline

theorem source_adds_margins : Pandora.Generated.mainFacts.addsMargins = true := by decide

/-- the saved configuration of the source replays: its `main` adds the margins and does not write the derived
    right interval into the configuration -/
theorem source_refeed_spec {P M} (l r : SideCfg) (pipeline : P) (margins : M) (hacc : schemaOk l r = true) :
    (specRefeed l r (mainSaved Pandora.Generated.mainFacts l r pipeline margins)).all (·.2) = true :=
  refeed_spec _ l r pipeline margins hacc source_adds_margins (fun h => absurd h (by decide))

/-- the same for the facts written out (what `proposed_fixes/C19-*.diff` makes of a `main` that writes the interval) -/
theorem fixed_refeed_spec {P M} (l r : SideCfg) (pipeline : P) (margins : M) (hacc : schemaOk l r = true) :
    (specRefeed l r (mainSaved { writesRightDisp := false, addsMargins := true } l r pipeline margins)).all (·.2) = true :=
  refeed_spec _ l r pipeline margins hacc rfl (fun h => by cases h)

def exLeft : SideCfg := { img := "left.tif", nodata := .nan, mask := none, classif := none, segm := none, disp := .ints [-3, 2] }
def exRight : SideCfg := { img := "right.tif", nodata := .int (-9999), mask := some "m.tif", classif := none, segm := none, disp := .null }
def exLeftGrid : SideCfg := { exLeft with disp := .path "grid.tif" }

/-- F13 on a concrete configuration: with a `main` that writes the derived interval it is accepted, saved with
    `right.disp = [-2, 3]` and refused when fed back; it is accepted with a `main` that does not write it, and with grids -/
theorem refeed_current_counterexample :
    schemaOk exLeft exRight = true ∧
    (mainSaved (P := Unit) (M := Unit) { writesRightDisp := true, addsMargins := true } exLeft exRight () ()).right.disp = .ints [-2, 3] ∧
    refeedInput (mainSaved (P := Unit) (M := Unit) { writesRightDisp := true, addsMargins := true } exLeft exRight () ()) = none ∧
    refeedInput (mainSaved (P := Unit) (M := Unit) { writesRightDisp := false, addsMargins := true } exLeft exRight () ()) = some (exLeft, exRight) ∧
    refeedInput (mainSaved (P := Unit) (M := Unit) { writesRightDisp := true, addsMargins := true } exLeftGrid exRight () ()) = some (exLeftGrid, exRight) := by
  decide +kernel

/-- non-vacuity of `refeed_spec`'s hypotheses -/
example : schemaOk exLeftGrid exRight = true ∧ leftIsPath exLeftGrid = true := by decide

/-- non-vacuity of `right_product_iff_validation` -/
example : Pandora.Machine.isPath .begin ["matching_cost", "disparity", "filter", "validation"] = true ∧
    Pandora.Machine.hasKind .disparity ["matching_cost", "disparity", "filter", "validation"] = true ∧
    Pandora.Machine.hasKind .validation ["matching_cost", "disparity", "filter", "validation"] = true ∧
    Pandora.Machine.hasKind .validation ["matching_cost", "disparity", "filter.1"] = false := by decide +kernel

def exProduct : Product :=
  { nonEmpty := true, rows := 2, cols := 2, disparity := fun r c => if r = c then .nan else .num (r - c : Int),
    validity := fun r c => .num (64 * r + c : Nat),
    conf := some (["confidence_from_ambiguity", "confidence_from_intensity_std"], fun r c k => .num (r + 2 * c + 3 * k : Nat)),
    geo := "EPSG:32631|0.5" }

/-- the specification discriminates: a directory without the validity mask is rejected, and so are right products
    without right files -/
example : specSave exProduct Product.empty (saveResults documentedOtd documentedTable exProduct Product.empty) = true ∧
    specSave exProduct Product.empty ((saveResults documentedOtd documentedTable exProduct Product.empty).take 2) = false ∧
    specSave exProduct exProduct (saveResults documentedOtd documentedTable exProduct Product.empty) = false := by
  decide +kernel

end Pandora.C19
