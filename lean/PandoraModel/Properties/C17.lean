/-
  C17 — Malformed inputs are refused up front; well-formed inputs never are: `check_dataset(s)`, the
  entries of the generated input schemas and the two custom checks of `check_input_section`, piece by
  piece, against `Model/InputSpec.lean`.
-/
import PandoraModel.Model.InputSpec
import PandoraModel.Properties.C17Schemas
import PandoraModel.Properties.C17Checks

namespace Pandora.C17
open Pandora.Config Pandora.ConfigSpec Pandora.InputSpec

def featuresOk (isLeft : Bool) (f : DsFeatures) : Bool :=
  f.hasIm && !f.allNan && f.bandNamesStr && f.sameGrid && f.attrs && (!isLeft || f.hasDisp) &&
  (!f.hasDisp || f.dispBands) && (!f.hasDisp || !f.minGtMax)

theorem datasetClauses_all (isLeft : Bool) (d : DsDesc) :
    (datasetClauses isLeft d).all (·.2) = featuresOk isLeft d.features := by
  simp [datasetClauses, featuresOk, Bool.and_assoc]

/-- the sequence of tests of `check_dataset` accepts exactly the conjunction of the requirements
    (a disparity is not mandatory at this level) -/
theorem checkFeatures_ok_iff (f : DsFeatures) :
    checkFeatures f = .ok () ↔ featuresOk false f = true := by
  simp only [checkFeatures, ite_error_eq_ok, featuresOk, Bool.and_eq_true]
  cases f.hasDisp <;> constructor <;> intro h <;> simp_all

theorem checkDataset_ok_iff (d : DsDesc) :
    checkDataset d = .ok () ↔ (datasetClauses false d).all (·.2) = true := by
  rw [datasetClauses_all]; exact checkFeatures_ok_iff d.features

/-- a refusal of `check_dataset` is one of three exception classes, each naming a group of
    requirements: `TypeError` ⇒ band names; `ValueError` ⇒ all-NaN image or a variable off the image
    grid; `AttributeError` ⇒ image / disparity bands / min ≤ max / attributes -/
theorem checkFeatures_error_class (f : DsFeatures) (e : Err) (h : checkFeatures f = .error e) :
    (e = .type ∧ f.bandNamesStr = false) ∨
    (e = .value ∧ (f.allNan = true ∨ f.sameGrid = false)) ∨
    (e = .attr ∧ (f.hasIm = false ∨ (f.hasDisp = true ∧ (f.dispBands = false ∨ f.minGtMax = true)) ∨
      f.attrs = false)) := by
  simp only [checkFeatures, ite_error_eq_error] at h
  -- the seven tests in turn: the one that fired, with the class it raises, or on to the next
  iterate 7
    rcases h with ⟨h, rfl⟩ | ⟨-, h⟩
    · simp_all
  cases h

theorem featuresOk_left (f : DsFeatures) : featuresOk true f = (featuresOk false f && f.hasDisp) := by
  unfold featuresOk
  cases f.hasDisp <;> simp

theorem featuresOk_hasIm (f : DsFeatures) (h : featuresOk false f = true) : f.hasIm = true := by
  simp only [featuresOk, Bool.and_eq_true] at h
  exact h.1.1.1.1.1.1.1

theorem sameSize_eq (l r : DsDesc) (hl : l.features.hasIm = true) (hr : r.features.hasIm = true) :
    sameSize l r = !(((l.shapeOf "im").map lastTwo) != ((r.shapeOf "im").map lastTwo)) := by
  simp only [DsDesc.features] at hl hr
  unfold sameSize
  cases ha : l.shapeOf "im" with
  | none => simp [ha] at hl
  | some a =>
    cases hb : r.shapeOf "im" with
    | none => simp [hb] at hr
    | some b => by_cases hab : lastTwo a = lastTwo b <;> simp [hab, bne]

theorem checkDatasets_ok_iff_parts (l r : DsDesc) :
    checkDatasets l r = .ok () ↔
      checkFeatures l.features = .ok () ∧ checkFeatures r.features = .ok () ∧ l.features.hasDisp = true ∧
      (((l.shapeOf "im").map lastTwo) != ((r.shapeOf "im").map lastTwo)) = false := by
  unfold checkDatasets checkDataset
  cases h1 : checkFeatures l.features with
  | error e => simp
  | ok u =>
    cases h2 : checkFeatures r.features with
    | error e => simp
    | ok u2 =>
      cases hd : l.features.hasDisp
      · simp
      · cases hne : (((l.shapeOf "im").map lastTwo) != ((r.shapeOf "im").map lastTwo)) <;> simp

theorem datasetsWellFormed_eq (l r : DsDesc) :
    datasetsWellFormed l r = (featuresOk true l.features && featuresOk false r.features && sameSize l r) := by
  simp only [datasetsWellFormed, pairClauses, List.all_append, List.all_map, Function.comp_def, List.all_cons,
    List.all_nil, Bool.and_true]
  rw [← datasetClauses_all, ← datasetClauses_all]

/-- **dataset_accept_iff_wf**: `check_datasets` accepts a left/right pair if and only if each has
    an image that is not entirely NaN, string band names, every other variable on the image's
    row/column grid, the five mandatory attributes, a disparity variable (mandatory on the left)
    with min and max bands and no pixel with min > max, and both images the same size. -/
theorem checkDatasets_ok_iff_wellFormed (l r : DsDesc) :
    checkDatasets l r = .ok () ↔ datasetsWellFormed l r = true := by
  rw [checkDatasets_ok_iff_parts, checkFeatures_ok_iff, checkFeatures_ok_iff, datasetsWellFormed_eq, featuresOk_left]
  simp only [Bool.and_eq_true]
  constructor
  · rintro ⟨h1, h2, h3, h4⟩
    exact ⟨⟨⟨h1, h3⟩, h2⟩, by rw [sameSize_eq l r (featuresOk_hasIm _ h1) (featuresOk_hasIm _ h2), h4]; rfl⟩
  · rintro ⟨⟨⟨h1, h3⟩, h2⟩, h4⟩
    rw [sameSize_eq l r (featuresOk_hasIm _ h1) (featuresOk_hasIm _ h2)] at h4
    exact ⟨h1, h2, h3, by simpa using h4⟩

deriving instance DecidableEq for Except

def goodLeft : DsDesc :=
  { vars := [("im", [3, 4, 5]), ("msk", [4, 5]), ("disparity", [2, 4, 5])],
    bandIm := some [true, true, true], bandDisp := some ["min", "max"],
    attrs := ["no_data_img", "valid_pixels", "no_data_mask", "crs", "transform", "disparity_source"] }

def goodRight : DsDesc :=
  { vars := [("im", [3, 4, 5])], bandIm := some [true, true, true],
    attrs := ["crs", "transform", "no_data_img", "valid_pixels", "no_data_mask"] }

example : checkDatasets goodLeft goodRight = .ok () ∧ datasetsWellFormed goodLeft goodRight = true := by
  decide +kernel

-- single violations, each refused with the class the code raises
example : checkDatasets { goodLeft with imAllNan := true } goodRight = .error .value := by decide +kernel
example : checkDatasets { goodLeft with dispMinGtMax := true } goodRight = .error .attr := by decide +kernel
example : checkDatasets { goodLeft with bandIm := some [true, false, true] } goodRight = .error .type := by decide +kernel
example : checkDatasets { goodLeft with vars := [("im", [3, 4, 5]), ("msk", [5, 5]), ("disparity", [2, 4, 5])] }
    goodRight = .error .value := by decide +kernel
example : checkDatasets goodRight goodRight = .error .attr := by decide +kernel       -- no disparity on the left
example : checkDatasets goodLeft { goodRight with vars := [("im", [3, 4, 6])] } = .error .attr := by decide +kernel
example : failingClauses (pairClauses goodLeft { goodRight with attrs := ["crs"] }) = ["right.attrs"] := by
  decide +kernel

open Pandora.Generated.Schemas

/-- what "the check agrees with the documentation on this value" means -/
def Agrees (b : Bool) : Dom → Prop
  | .accept => b = true
  | .reject => b = false
  | .undecided => True

def entryOf (es : List (String × Bool × Schema)) (k : String) : Schema :=
  match es.find? (fun e => e.1 == k) with
  | some e => e.2.2
  | none => .any []

open Pandora.C17W in
theorem base_sides_equal : inputSchemas.baseLeft = inputSchemas.baseRight :=
  generated_input_schemas.1.trans generated_input_schemas.2.1.symm

/-- `img`: a string naming a file rasterio can open -/
theorem img_entry (files : Files) (v : JVal) :
    Schema.accepts (fileOracle files) (entryOf inputSchemas.baseLeft "img") v =
      (match v with | .str p => (files p).isSome | _ => false) := by
  rw [C17W.generated_input_schemas.1]
  exact (C17W.img_entry files v).trans (by cases v <;> rfl)

/-- `mask` / `classif` / `segm`: `None`, or a string that is `"none"` or names a readable file
    (`"none"` passes the schema and is refused later by `check_images`: rasterio cannot open it) -/
theorem aux_entry (files : Files) (k : String) (hk : k = "mask" ∨ k = "classif" ∨ k = "segm") (v : JVal) :
    Schema.accepts (fileOracle files) (entryOf inputSchemas.baseLeft k) v =
      (match v with | .null => true | .str p => p == "none" || (files p).isSome | _ => false) := by
  rw [C17W.generated_input_schemas.1]
  rcases hk with rfl | rfl | rfl <;> exact (C17W.aux_entry files v).trans (by cases v <;> rfl)

/-- `nodata`: an integer or NaN, as documented (`C17W.nodata_entry`: what the entry accepts, for all values) -/
theorem nodata_entry_partial (files : Files) (v : JVal) (hv : v.isList = false) :
    Agrees (Schema.accepts (fileOracle files) (entryOf inputSchemas.baseLeft "nodata") v)
      (nodataVerdict (some v)) := by
  rw [C17W.generated_input_schemas.1]
  refine (C17W.nodata_entry _ v).symm ▸ ?_
  cases v with
  | float f => cases f <;> rfl
  | bool _ => trivial
  | list _ => cases hv
  | _ => rfl

/-- the integer-disparity entry accepts every `[min, max]` pair of integers and refuses everything that
    is not a list (`C17W.range_entry`: exactly the two-element lists of integers) -/
theorem integer_disp_entry (files : Files) :
    (∀ a b : Int, Schema.accepts (fileOracle files) (entryOf inputSchemas.integerLeft "disp")
      (.list [.int a, .int b]) = true) ∧
    (∀ v : JVal, v.isList = false →
      Schema.accepts (fileOracle files) (entryOf inputSchemas.integerLeft "disp") v = false) := by
  rw [C17W.generated_input_schemas.2.2.1]
  refine ⟨fun a b => C17W.range_entry _ _, fun v hv => (C17W.range_entry _ v).trans ?_⟩
  cases v <;> first | rfl | cases hv

/-- a right disparity must be `None` unless both are grids -/
theorem none_disp_entry (files : Files) (v : JVal) :
    Schema.accepts (fileOracle files) (entryOf inputSchemas.integerRight "disp") v = v.isNull ∧
    Schema.accepts (fileOracle files) (entryOf inputSchemas.gridNoneRight "disp") v = v.isNull := by
  rw [C17W.generated_input_schemas.2.2.2.1, C17W.generated_input_schemas.2.2.2.2.2.1]
  exact ⟨C17W.none_entry _ v, C17W.none_entry _ v⟩

/-- a disparity grid: a string that is `"none"` or names a readable file (the content is checked
    by `check_disparities_from_input`) -/
theorem grid_disp_entry (files : Files) (v : JVal) :
    Schema.accepts (fileOracle files) (entryOf inputSchemas.gridNoneLeft "disp") v =
      (match v with | .str p => p == "none" || (files p).isSome | _ => false) ∧
    inputSchemas.gridGridLeft = inputSchemas.gridNoneLeft ∧
    inputSchemas.gridGridRight = inputSchemas.gridNoneLeft := by
  obtain ⟨-, -, -, -, g5, -, g7, g8, -⟩ := C17W.generated_input_schemas
  refine ⟨?_, g7.trans g5.symm, g8.trans g5.symm⟩
  rw [g5]
  exact (C17W.grid_entry files v).trans (by cases v <;> first | rfl | exact Bool.and_true _)

/-- a nodata entry without the `np.isscalar` test of the source's entry (`C17W.nodataS`) -/
def bareNodataEntry : Schema := .any [.type .int, .func (.npIsnan .var)]

/-- Finding `nan_in_list`: without that test `nodata: [NaN]` passes although only an integer or NaN
    is documented (the source's entry refuses it: `C17W.nodata_entry`) -/
theorem nodata_nan_list_counterexample :
    Schema.accepts noOracle bareNodataEntry (.list [.float .nan]) = true ∧
    nodataVerdict (some (.list [.float .nan])) = Dom.reject := by decide +kernel

/-- Finding `disp_list_longer_than_two`: `[1, 2, 3]` passes the bare schema `[int, int]` and the
    min ≤ max test (which reads the first two elements); the documentation says `[min, max]` (the source's
    entry adds `len(x) == 2` and refuses it: `C17W.range_entry`) -/
theorem disp_list_counterexample :
    Schema.accepts noOracle (.listOf [.type .int, .type .int]) (.list [.int 1, .int 2, .int 3]) = true ∧
    checkDisparitiesFromInput (fun _ => none) (.list [.int 1, .int 2, .int 3]) (.str "left.tif") = .ok () ∧
    leftDispVerdict (fun _ => none) none (some (.list [.int 1, .int 2, .int 3])) = Dom.reject := by decide +kernel

def userOf (left right : Dict) : Dict := [("input", .obj [("left", .obj left), ("right", .obj right)])]

def okOf {α} : Except Err α → Bool
  | .ok _ => true
  | .error _ => false

/-- documented forms are accepted and completed with the documented defaults (nodata −9999, mask /
    classif / segm None, right disparity None; `"NaN"` becomes the float) -/
example :
    checkInputSection fs {} inputSchemas
      (userOf [("img", .str "l.tif"), ("disp", .list [.int (-2), .int 2]), ("nodata", .str "NaN")]
              [("img", .str "r.tif")]) =
    .ok [("input", .obj [
      ("left", .obj [("nodata", .float .nan), ("mask", .null), ("classif", .null), ("segm", .null),
                     ("img", .str "l.tif"), ("disp", .list [.int (-2), .int 2])]),
      ("right", .obj [("nodata", .int (-9999)), ("mask", .null), ("classif", .null), ("segm", .null),
                      ("disp", .null), ("img", .str "r.tif")])])] := by decide +kernel

example : okOf (checkInputSection fs {} inputSchemas
    (userOf [("img", .str "l.tif"), ("disp", .str "grid.tif")] [("img", .str "r.tif"), ("disp", .str "grid.tif")])) = true := by
  decide +kernel

-- single violations, each refused with the exception the code raises
example : checkInputSection fs {} inputSchemas
    (userOf [("img", .str "l.tif"), ("disp", .list [.int 2, .int (-2)])] [("img", .str "r.tif")]) = .error .value := by decide +kernel
example : checkInputSection fs {} inputSchemas
    (userOf [("img", .str "l.tif"), ("disp", .list [.int (-2), .int 2])] [("img", .str "small.tif")]) = .error .attr := by decide +kernel
example : checkInputSection fs {} inputSchemas
    (userOf [("img", .str "nowhere.tif"), ("disp", .list [.int (-2), .int 2])] [("img", .str "r.tif")]) = .error .checker := by
  decide +kernel
example : checkInputSection fs {} inputSchemas
    (userOf [("img", .str "l.tif"), ("disp", .str "bad_grid.tif")] [("img", .str "r.tif")]) = .error .value := by decide +kernel
example : checkInputSection fs {} inputSchemas
    (userOf [("img", .str "l.tif"), ("disp", .list [.int (-2), .int 2])] [("img", .str "r.tif"), ("disp", .str "grid.tif")]) =
    .error .checker := by decide +kernel
example : checkInputSection fs {} inputSchemas
    (userOf [("img", .str "l.tif")] [("img", .str "r.tif")]) = .error .key := by decide +kernel
example : checkInputSection fs {} inputSchemas
    (userOf [("img", .str "l.tif"), ("disp", .list [.int (-2), .int 2]), ("mask", .str "small.tif")] [("img", .str "r.tif")]) =
    .error .attr := by decide +kernel
example : okOf (checkInputSection fs {} inputSchemas
    (userOf [("img", .str "l.tif"), ("disp", .list [.int 5])] [("img", .str "r.tif")])) = false := by decide +kernel

end Pandora.C17
