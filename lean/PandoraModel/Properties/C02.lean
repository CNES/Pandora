/-
  C02 — Cost volume holds the configured similarity measure, NaN where not computable.

  Model and specification: `Model/MatchingCost.lean`.  Lemmas: `Lemmas/MC*.lean`.
  The theorems say: for every input of the right shape (odd window, subpix > 0, equal image sizes,
  global min ≤ max), every pixel and every sampled disparity, the cost volume the model computes by following
  the code (shifted images, point intervals, sliding sums / census bit strings / cumulative-sum rasters,
  dilated masks, `dsp` indexing, interval masking) is the cell the statement prescribes: the textbook value
  of the measure when the cost is computable, NaN otherwise.  No size bound appears anywhere.
  `x.gmin`, `x.gmax`, `x.nSamples` (`Lemmas/MCIndex.lean`) abbreviate `gridMin x.dminG x.L.rows x.L.cols`,
  `gridMax x.dmaxG …` and `nDisp x.gmin x.gmax x.sp`, which the statements of the property's clauses spell out.
  Also here: `popcount_correct`, the bounds of the stored `cmax` for sad / ssd / census (`cost_le_cmaxExact`, `cmax_bound_*`;
  zncc's is in `C02Zncc.lean`) and the ties to the regenerated constants (`popcount_source_eq_model`, `typeMeasure_…`, `cmax_…`).
-/
import PandoraModel.Lemmas.MCMasked
import PandoraModel.Lemmas.MCZncc
import PandoraModel.Lemmas.MCCensusBits
import PandoraModel.Lemmas.MCCmax
import PandoraModel.Generated.MatchingCostConsts
import Mathlib.Tactic.FieldSimp

namespace Pandora.C02
open Pandora.MC

/-- the bit-trick program of `Census.popcount32b` in the source text is the model's -/
theorem popcount_source_eq_model : Generated.MatchingCostConsts.popcount32b = MC.popcount32b := by
  funext row; rfl

/-- the `type_measure` literals of the three classes are the model's -/
theorem typeMeasure_source_eq_model : Generated.MatchingCostConsts.typeMeasure = MC.typeMeasure := by
  funext m; cases m <;> rfl

/-- the `cmax` expressions of the three classes are the model's -/
theorem cmax_source_eq_model :
    Generated.MatchingCostConsts.cmax = MC.cmaxOf Generated.MatchingCostConsts.cmaxRoundsUp := by
  funext m a b c d w; cases m <;> rfl

/-- From planes that are right before masking (`RawOK`, proved per measure below) to the whole step:
    `compute_cost_volume` followed by `cv_masked` yields, at every pixel `(r, c)` and every sample `j` of the
    disparity range, exactly the cell the statement prescribes (`val` = the value function of the measure). -/
theorem costVolume_eq_specWith_of_raw (x : Input) (h : Shape x) (val : Int → Int → Int → Cell)
    (hg : x.gmin ≤ x.gmax)
    (hraw : RawOK x val) (r c : Int) (j : Nat)
    (hj : j < x.nSamples) :
    costVolume x r c j = specCellWith val x r c (x.gmin * (x.sp : Int) + j) := by
  rw [costVolume_eq_step x h.sp_pos hg r c j hj]
  have hcause := cause_computable_iff x r c (x.gmin * (x.sp : Int) + j)
  split
  · rename_i h1
    exact (specCellWith_of_not (fun hc => (hcause.mp hc).1 h1)).symm
  · rename_i h1
    rw [cvMaskedStep_eq x h val hraw _ _ _ r c j (by omega) rfl]
    by_cases hc : cause x r c (x.gmin * (x.sp : Int) + j) = .computable
    · rw [specCellWith_of_computable hc, if_pos (hcause.mp hc).2]
    · rw [specCellWith_of_not hc, if_neg (fun hh => hc (hcause.mpr ⟨h1, hh⟩))]

/-- the value as the code forms it where both windows lie inside: the window sum for sad / ssd, the popcount of the
    xor-ed bit strings for census, the quotient of the thresholded radicands for zncc -/
def codeValue (x : Input) (r c k : Int) : Cell :=
  match x.meas with
  | .sad | .ssd => valueSpec x r c k
  | .census => valueCensusBits x r c k
  | .zncc => valueZnccRaw x r c k

/-- the planes of `compute_cost_volume`, every measure, no hypothesis on the data -/
theorem rawOK_code (x : Input) (h : Shape x) : RawOK x (codeValue x) := by
  intro k r c
  unfold rawPlane codeValue
  cases hm : x.meas with
  | sad => exact rawSadSsd_eq x h (Or.inl hm) k r c
  | ssd => exact rawSadSsd_eq x h (Or.inr hm) k r c
  | census => exact rawCensus_eq x h k r c
  | zncc => exact rawZncc_eq x h k r c

theorem codeValue_zncc (x : Input) (hm : x.meas = .zncc) (r c k : Int) : codeValue x r c k = valueZnccRaw x r c k := by
  unfold codeValue
  rw [hm]

theorem valueSpec_isNan (x : Input) (r c k : Int) : (valueSpec x r c k).isNan = false := by
  unfold valueSpec
  cases x.meas with
  | zncc => simp only; split <;> rfl
  | _ => rfl

theorem codeValue_isNan (x : Input) (r c k : Int) : (codeValue x r c k).isNan = false := by
  unfold codeValue
  cases x.meas with
  | zncc => simp only [valueZnccRaw]; split <;> rfl
  | census => rfl
  | _ => exact valueSpec_isNan x r c k

/-- every cell of the cost volume, for every measure and without any hypothesis on the data -/
theorem costVolume_cell (x : Input) (h : Shape x) (hg : x.gmin ≤ x.gmax) (r c : Int) (j : Nat) (hj : j < x.nSamples) :
    costVolume x r c j = specCellWith (codeValue x) x r c (x.gmin * (x.sp : Int) + j) :=
  costVolume_eq_specWith_of_raw x h (codeValue x) hg (rawOK_code x h) r c j hj

/-- where the code's value is the textbook one: always for sad / ssd; census while the bit string fits the 32-bit
    popcount; zncc when the `1e-15` threshold of `compute_std_raster` does not fire on a non-zero variance -/
theorem codeValue_eq_valueSpec (x : Input) (h : Shape x) (r c k : Int) (hc : x.meas = .census → x.w * x.w ≤ 32)
    (hz : x.meas = .zncc → NoTiny x x.L.px r c ∧ NoTiny x (fun a b => interpR x.R x.sp k a b) r c) :
    codeValue x r c k = valueSpec x r c k := by
  unfold codeValue
  cases hm : x.meas with
  | census => exact valueCensusBits_eq x hm (window_eq x h) (hc hm) r c k
  | zncc => exact valueZnccRaw_eq x hm r c k (hz hm).1 (hz hm).2
  | _ => rfl

/-- `popcount_correct`: `Census.popcount32b` returns the number of set bits — here for any 32-bit argument
    written with sixteen base-4 digits (`pop2 d` = number of set bits of the digit `d`), the form the property's
    clause has.  The statement to use is `Popcount.popcount32b_eq_bitCountRec` (every `x < 2³²`), from which this one
    follows; `C02Census.popcount32b_correct` says the same of the copy regenerated with the census kernel. -/
theorem popcount_correct (d0 d1 d2 d3 d4 d5 d6 d7 d8 d9 d10 d11 d12 d13 d14 d15 : Nat)
    (h0 : d0 < 4) (h1 : d1 < 4) (h2 : d2 < 4) (h3 : d3 < 4) (h4 : d4 < 4) (h5 : d5 < 4) (h6 : d6 < 4) (h7 : d7 < 4)
    (h8 : d8 < 4) (h9 : d9 < 4) (h10 : d10 < 4) (h11 : d11 < 4) (h12 : d12 < 4) (h13 : d13 < 4) (h14 : d14 < 4)
    (h15 : d15 < 4) :
    popcount32b (Popcount.digits 4 [d0, d1, d2, d3, d4, d5, d6, d7, d8, d9, d10, d11, d12, d13, d14, d15]) =
      Popcount.pop2 d0 + Popcount.pop2 d1 + Popcount.pop2 d2 + Popcount.pop2 d3 + Popcount.pop2 d4 + Popcount.pop2 d5 +
        Popcount.pop2 d6 + Popcount.pop2 d7 + Popcount.pop2 d8 + Popcount.pop2 d9 + Popcount.pop2 d10 +
        Popcount.pop2 d11 + Popcount.pop2 d12 + Popcount.pop2 d13 + Popcount.pop2 d14 + Popcount.pop2 d15 := by
  have h : ∀ d ∈ [d0, d1, d2, d3, d4, d5, d6, d7, d8, d9, d10, d11, d12, d13, d14, d15], d < 4 := by
    simp only [List.forall_mem_cons, List.not_mem_nil, false_imp_iff, implies_true, and_true]
    exact ⟨h0, h1, h2, h3, h4, h5, h6, h7, h8, h9, h10, h11, h12, h13, h14, h15⟩
  rw [Popcount.popcount32b_eq_bitCountRec _ (Popcount.digits_lt _ h)]
  exact (Popcount.bitCountRec_digits _ h).trans
    (by simp only [List.map_cons, List.map_nil, List.sum_cons, List.sum_nil, Nat.add_zero, Nat.add_assoc])

/-- `nan_iff_not_computable`: for planes that are NaN exactly outside the two images (`RawOK x val` with a `val` that
    is never NaN — each measure has one, zncc without the variance hypothesis), the cost is NaN exactly when one of
    the causes of the statement holds -/
theorem nan_iff_not_computable (x : Input) (h : Shape x) (val : Int → Int → Int → Cell) (hraw : RawOK x val)
    (hval : ∀ r c k, (val r c k).isNan = false)
    (hg : gridMin x.dminG x.L.rows x.L.cols ≤ gridMax x.dmaxG x.L.rows x.L.cols) (r c : Int) (j : Nat)
    (hj : j < nDisp (gridMin x.dminG x.L.rows x.L.cols) (gridMax x.dmaxG x.L.rows x.L.cols) x.sp) :
    (costVolume x r c j).isNan = true ↔
      cause x r c (gridMin x.dminG x.L.rows x.L.cols * (x.sp : Int) + j) ≠ .computable := by
  rw [costVolume_eq_specWith_of_raw x h val hg hraw r c j hj]
  by_cases hc : cause x r c (x.gmin * (x.sp : Int) + j) = .computable
  · simp [specCellWith_of_computable hc, hc, hval]
  · simp [specCellWith_of_not hc, hc, Cell.isNan]

theorem wfShape_iff (x : Input) :
    wfShape x = true ↔
      x.w % 2 = 1 ∧ 0 < x.sp ∧ x.w ≤ x.L.rows ∧ x.w ≤ x.L.cols ∧ x.R.rows = x.L.rows ∧ x.R.cols = x.L.cols ∧
        gridOrdered x = true ∧ (x.meas ≠ .census ∨ x.w = 3 ∨ x.w = 5) := by
  unfold wfShape
  simp only [Bool.and_eq_true, Bool.or_eq_true, decide_eq_true_eq, bne_iff_ne, ne_eq, and_assoc]

theorem shape_of_wf (x : Input) (h : wfShape x = true) : Shape x := by
  obtain ⟨h1, h2, -, h4, h5, h6, -, -⟩ := (wfShape_iff x).mp h
  exact ⟨h1, h2, h5, h6, by omega⟩

theorem gridOK_of_wf (x : Input) (h : wfShape x = true) :
    gridMin x.dminG x.L.rows x.L.cols ≤ gridMax x.dmaxG x.L.rows x.L.cols := by
  obtain ⟨h1, -, h3, h4, -, -, h7, -⟩ := (wfShape_iff x).mp h
  have hw : 0 < x.w := by omega
  have hr : 0 < x.L.rows := Nat.lt_of_lt_of_le hw h3
  have hc : 0 < x.L.cols := Nat.lt_of_lt_of_le hw h4
  apply gridMin_le_gridMax x.dminG x.dmaxG x.L.rows x.L.cols hr hc
  have h0 := (allZ_iff_int _ _ _).mp h7 0 (le_refl _) (by simpa using hr)
  have h00 := (allZ_iff_int _ _ _).mp h0 0 (le_refl _) (by simpa using hc)
  exact of_decide_eq_true h00

theorem census_window_of_wf (x : Input) (h : wfShape x = true) (hm : x.meas = .census) : x.w = 3 ∨ x.w = 5 := by
  obtain ⟨-, -, -, -, -, -, -, hw⟩ := (wfShape_iff x).mp h
  exact hw.resolve_left (fun hne => hne hm)

theorem noTiny_of_bool (x : Input) (k r c : Int) (hr : 0 ≤ r ∧ r < x.L.rows) (hc : 0 ≤ c ∧ c < x.L.cols)
    (h : noTinyVariance x k = true) :
    NoTiny x x.L.px r c ∧ NoTiny x (fun a b => interpR x.R x.sp k a b) r c := by
  unfold noTinyVariance at h
  have h1 := (allZ_iff_int _ _ _).mp h r hr.1 (by omega)
  have h2 := (allZ_iff_int _ _ _).mp h1 c hc.1 (by omega)
  simp only [Bool.and_eq_true, decide_eq_true_eq] at h2
  exact ⟨h2.1, h2.2⟩

/-- the cell of sample `j` is the prescribed one as soon as the variance threshold behaves at that sample's own
    disparity (zncc; nothing to ask for the other measures) -/
theorem costVolume_eq_spec_at (x : Input) (hwf : wfShape x = true) (r c : Int) (j : Nat) (hj : j < x.nSamples)
    (hz : x.meas = .zncc → noTinyVariance x (x.gmin * (x.sp : Int) + j) = true) :
    costVolume x r c j = specVolume x r c j := by
  have hsh := shape_of_wf x hwf
  rw [costVolume_cell x hsh (gridOK_of_wf x hwf) r c j hj]
  refine if_ctx_congr Iff.rfl (fun hc => ?_) (fun _ => rfl)
  -- a computable cell has its left window inside the image: there the threshold hypothesis is available
  obtain ⟨-, ⟨hl1, hl2, hl3, hl4⟩, -⟩ := (cause_computable_iff x r c _).mp hc
  exact codeValue_eq_valueSpec x hsh r c _
    (fun hm => by rcases census_window_of_wf x hwf hm with hw | hw <;> rw [hw] <;> decide)
    (fun hm => noTiny_of_bool x _ r c ⟨by omega, by omega⟩ ⟨by omega, by omega⟩ (hz hm))

/-- **C02 (all measures).**  For every input accepted by the decidable predicate `wfShape` (odd window, positive
    subpix, images of the same size at least as large as the window, per-pixel `min ≤ max`, census window 3 or 5;
    nothing about where the interval lies)
    — and, for zncc, such that the `1e-15` variance threshold never fires on a non-zero variance
    (`noTinyVariance`, decidable) — the cost volume computed by the model of the code equals, cell by cell, the
    volume the statement prescribes: the textbook measure where the cost is computable, NaN otherwise. -/
theorem costVolume_eq_spec (x : Input) (hwf : wfShape x = true)
    (hz : x.meas = .zncc → ∀ k : Int, noTinyVariance x k = true) (r c : Int) (j : Nat)
    (hj : j < nDisp (gridMin x.dminG x.L.rows x.L.cols) (gridMax x.dmaxG x.L.rows x.L.cols) x.sp) :
    costVolume x r c j = specVolume x r c j :=
  costVolume_eq_spec_at x hwf r c j hj fun hm => hz hm _

/-- the quantity whose integer rounding is stored as `cmax` -/
def cmaxExact (x : Input) : Rat :=
  match x.meas with
  | .sad => sadBound x
  | .ssd => ssdBound x
  | .census => (((x.w : Nat) : Rat) * ((x.w : Nat) : Rat))
  | .zncc => 1

theorem cmax_is_rounding (up : Bool) (x : Input) (hm : x.meas = .sad ∨ x.meas = .ssd) :
    cmax up x = roundCmax up (cmaxExact x) := by
  unfold cmax cmaxOf cmaxExact sadBound ssdBound
  rcases hm with hm | hm <;> simp only [hm]

theorem cost_le_cmaxExact (x : Input) (hwf : wfShape x = true) (hm : x.meas ≠ .zncc) (r c : Int) (j : Nat)
    (hj : j < x.nSamples)
    (q : Rat) (hq : costVolume x r c j = .num q) : q ≤ cmaxExact x := by
  have hsh := shape_of_wf x hwf
  rw [costVolume_eq_spec x hwf (fun h => absurd h hm) r c j hj] at hq
  unfold specVolume specCell at hq
  split at hq
  · rename_i hc
    obtain ⟨_, hl, hr, _, _⟩ := (cause_computable_iff x r c _).mp hc
    have hle : ∃ q', valueSpec x r c (x.gmin * (x.sp : Int) + j) = .num q' ∧
        q' ≤ cmaxExact x := by
      unfold cmaxExact
      cases hmeas : x.meas with
      | sad =>
        exact sadSsd_value_le x hsh (Or.inl hmeas) _
          (fun p q l1 l2 r1 r2 => hmeas ▸ sad_pixel_le _ _ _ _ p q l1 l2 r1 r2) r c _ hl hr
      | ssd =>
        exact sadSsd_value_le x hsh (Or.inr hmeas) _
          (fun p q l1 l2 r1 r2 => hmeas ▸ ssd_pixel_le _ _ _ _ p q l1 l2 r1 r2) r c _ hl hr
      | census => exact census_value_le x hsh hmeas r c _
      | zncc => exact absurd hmeas hm
    obtain ⟨q', h1, h2⟩ := hle
    rw [h1] at hq
    exact Cell.num.inj hq ▸ h2
  · exact Cell.noConfusion hq

/-- `cmax_bound` when the source rounds up (`int(np.ceil(..))`, `cmaxRoundsUp = true`): cost ≤ cmax -/
theorem cmax_bound_up (x : Input) (hwf : wfShape x = true) (hm : x.meas = .sad ∨ x.meas = .ssd) (r c : Int) (j : Nat)
    (hj : j < nDisp (gridMin x.dminG x.L.rows x.L.cols) (gridMax x.dmaxG x.L.rows x.L.cols) x.sp)
    (q : Rat) (hq : costVolume x r c j = .num q) : q ≤ ((cmax true x : Int) : Rat) := by
  have hne : x.meas ≠ .zncc := by rcases hm with h | h <;> simp [h]
  have h1 := cost_le_cmaxExact x hwf hne r c j hj q hq
  rw [cmax_is_rounding true x hm]
  exact le_trans h1 Rat.le_ceil

/-- `cmax_bound` when the source truncates (`int(..)`, `cmaxRoundsUp = false`): cost < cmax + 1, i.e. cost ≤ cmax
    whenever the un-rounded bound is an integer (integer radiometry at integer disparities); with non-integer
    radiometry a cost can exceed `cmax` by less than one — finding C02-F3 -/
theorem cmax_bound_partial (x : Input) (hwf : wfShape x = true) (hm : x.meas = .sad ∨ x.meas = .ssd) (r c : Int) (j : Nat)
    (hj : j < nDisp (gridMin x.dminG x.L.rows x.L.cols) (gridMax x.dmaxG x.L.rows x.L.cols) x.sp)
    (q : Rat) (hq : costVolume x r c j = .num q) : q < ((cmax false x + 1 : Int) : Rat) := by
  have hne : x.meas ≠ .zncc := by rcases hm with h | h <;> simp [h]
  have h1 := cost_le_cmaxExact x hwf hne r c j hj q hq
  rw [cmax_is_rounding false x hm]
  exact lt_of_le_of_lt h1 (Rat.lt_floor_add_one _)

/-- `cmax_bound`, census: cost ≤ cmax = w² (either rounding) -/
theorem cmax_bound_census (up : Bool) (x : Input) (hwf : wfShape x = true) (hm : x.meas = .census) (r c : Int) (j : Nat)
    (hj : j < nDisp (gridMin x.dminG x.L.rows x.L.cols) (gridMax x.dmaxG x.L.rows x.L.cols) x.sp)
    (q : Rat) (hq : costVolume x r c j = .num q) : q ≤ ((cmax up x : Int) : Rat) := by
  have h1 := cost_le_cmaxExact x hwf (by simp [hm]) r c j hj q hq
  unfold cmaxExact at h1
  unfold cmax cmaxOf roundCmax
  simp only [hm, Bool.false_eq_true, if_false] at h1 ⊢
  rw [← Nat.cast_mul] at h1 ⊢
  rw [← Int.cast_natCast, Rat.floor_intCast]
  exact_mod_cast h1

/-- finding C02-F3 in numbers: with radiometry in quarters and window 1 the truncated `cmax` is `1` while the
    pixel difference `|maxL − minR|`, a cost that two such images attain, is `3/2` -/
theorem cmax_bound_counterexample :
    ∃ (maxL minL maxR minR : Rat), (cmaxOf false .sad maxL minL maxR minR 1 : Int) = 1 ∧
      ratAbs (maxL - minR) = 3 / 2 := by
  exact ⟨7 / 4, 1 / 4, 7 / 4, 1 / 4, by decide +kernel, by decide +kernel⟩

namespace Example

def exL : Img := { rows := 3, cols := 4, px := fun r c => ((r * r + 2 * c : Int) : Rat) }
def exR : Img := { rows := 3, cols := 4, px := fun r c => ((r * r + 2 * c - 1 : Int) : Rat) }
def exMask : Mask := { present := true, code := fun r c => if r = 1 ∧ c = 2 then 2 else 0, valid := 0, nodata := 1 }
def exIn (m : Measure) : Input where
  meas := m
  w := 3
  sp := 2
  L := exL
  R := exR
  mL := exMask
  mR := exMask
  dminG := fun _ c => if c = 0 then 0 else -1
  dmaxG := fun _ _ => 1

example : wf (exIn .sad) = true := by decide
example : wf (exIn .ssd) = true := by decide
example : wf (exIn .census) = true := by decide
example : wf (exIn .zncc) = true := by decide
example : cause (exIn .sad) 1 1 0 = .computable := by decide
example : cause (exIn .sad) 1 1 2 = .maskedRight := by decide
example : cause (exIn .sad) 1 1 (-1) = .windowRight := by decide
example : cause (exIn .sad) 0 1 0 = .windowLeft := by decide
example : cause (exIn .sad) 1 0 (-2) = .outsideInterval := by decide
example : NoTiny (exIn .zncc) (exIn .zncc).L.px 1 1 := by
  unfold NoTiny
  decide +kernel

end Example

end Pandora.C02
