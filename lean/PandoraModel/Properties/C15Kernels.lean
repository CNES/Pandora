/-
  C15 — `FixedZoomPyramid.disparity_range` and `mask_invalid_disparities`, regenerated from the source
  (`Generated/KernelsMultiscale.lean`, written by `translator/gen_kernels_multiscale.py` on top of `translator/pyarr.py`),
  equal the hand model `Model/Multiscale.lean` for every map size, flags, window size, marge, user interval, scale factor and
  store, with the chunk loop read in the source; and the scalar interval glue of `run_prepare` / `matching_cost_prepare`
  (translator/pyexpr.py) equals `Multiscale.prepareBound` / `boundAfter` for all rationals and naturals.
-/
import PandoraModel.Properties.C15Grids
import PandoraModel.Generated.KernelsMultiscale
import PandoraModel.Lemmas.StorePush

namespace Pandora.C15Kernels
open Pandora.PyArr Pandora.Multiscale Pandora.C15
open Pandora.Generated.KernelsMultiscale (prepareBoundMinAt prepareBoundMin prepareBoundMaxAt prepareBoundMax mcPrepareMin mcPrepareMax
  mcPrepareRightMin mcPrepareRightMax prepareRightMin prepareRightMax)

section store
variable {α : Type} {k1 k2 : Arr α → Nat → Nat → α} {d1 d2 base : Nat}

theorem full_eq (s : Store α) (v : α) : s.full v = s.alloc (fun _ _ => v) := rfl
theorem zoom_eq (s : Store Val) (z : ZoomFn) (a : ZoomArgs) (ny nx f k : Nat) :
    s.zoom z a ny nx f k = s.alloc (z a ny nx f (s.arr k)) := rfl

/-- the step of both loops: a second pair of writes into `d1`, `d2` reads the untouched `base` and what the first pair left -/
theorem set_pair_step (h1 : d1 ≠ base) (h2 : d2 ≠ base) (h12 : d1 ≠ d2) {s s' : Store α} {A B : Arr α}
    (hs : s' = (s.set d1 A).set d2 B) (F1 F2 : Arr α → Arr α → Arr α) :
    (s'.set d1 (F1 (s'.arr base) (s'.arr d1))).set d2 (F2 (s'.arr base) (s'.arr d2))
      = (s.set d1 (F1 (s.arr base) A)).set d2 (F2 (s.arr base) B) := by
  subst hs
  simp only [set_arr_ne _ h1.symm, set_arr_ne _ h2.symm, set_arr_ne _ h12, set_arr_self]
  rw [set_comm _ h12.symm, set_set, set_set]

theorem innerLoopSt2_eq (h1 : d1 ≠ base) (h2 : d2 ≠ base) (h12 : d1 ≠ d2) (yb ylen ys : Nat) :
    ∀ (chunks : List (Nat × Nat)) (xb : Nat) (s : Store α),
      innerLoopSt2 k1 d1 k2 d2 base yb ylen ys chunks xb s =
        (s.set d1 (Blocks.innerLoop (k1 (s.arr base)) yb ylen ys chunks xb (s.arr d1))).set d2
          (Blocks.innerLoop (k2 (s.arr base)) yb ylen ys chunks xb (s.arr d2))
  | [], xb, s => by
    simp only [innerLoopSt2, Blocks.innerLoop, set_same]
  | (xs, xlen) :: rest, xb, s => by
    rw [innerLoopSt2, innerLoopSt2_eq h1 h2 h12 yb ylen ys rest (xb + xlen) _]
    refine set_pair_step h1 h2 h12 ?_ (fun b x => Blocks.innerLoop (k1 b) yb ylen ys rest (xb + xlen) x)
      (fun b x => Blocks.innerLoop (k2 b) yb ylen ys rest (xb + xlen) x)
    simp only [assignSt, set_arr_ne _ h1.symm, set_arr_ne _ h12.symm]

theorem outerLoopSt2_eq (h1 : d1 ≠ base) (h2 : d2 ≠ base) (h12 : d1 ≠ d2) (xchunks : List (Nat × Nat)) (offx : Nat) :
    ∀ (chunks : List (Nat × Nat)) (yb : Nat) (s : Store α),
      outerLoopSt2 k1 d1 k2 d2 base xchunks offx chunks yb s =
        (s.set d1 (Blocks.outerLoop (k1 (s.arr base)) xchunks offx chunks yb (s.arr d1))).set d2
          (Blocks.outerLoop (k2 (s.arr base)) xchunks offx chunks yb (s.arr d2))
  | [], yb, s => by
    simp only [outerLoopSt2, Blocks.outerLoop, set_same]
  | (ys, ylen) :: rest, yb, s => by
    rw [outerLoopSt2, outerLoopSt2_eq h1 h2 h12 xchunks offx rest (yb + ylen) _]
    exact set_pair_step h1 h2 h12 (innerLoopSt2_eq h1 h2 h12 yb ylen ys xchunks offx s)
      (fun b x => Blocks.outerLoop (k1 b) xchunks offx rest (yb + ylen) x)
      (fun b x => Blocks.outerLoop (k2 b) xchunks offx rest (yb + ylen) x)

/-- **The block statement with two private outputs.**  When the two destinations are different arrays and neither is
    the array the windows are read from, processing the blocks one after the other on the store — first write, second
    write, next block — is two independent pure blocked computations of the kernels of the initial content, for every
    plan (any split points, any offsets). -/
theorem blockedSt2_eq (p : Blocks.Plan) (k1 k2 : Arr α → Nat → Nat → α) (d1 d2 base : Nat)
    (h1 : d1 ≠ base) (h2 : d2 ≠ base) (h12 : d1 ≠ d2) (s : Store α) :
    blockedSt2 p k1 d1 k2 d2 base s =
      (s.set d1 (Blocks.blocked p (k1 (s.arr base)) (s.arr d1))).set d2 (Blocks.blocked p (k2 (s.arr base)) (s.arr d2)) := by
  unfold blockedSt2 Blocks.blocked
  exact outerLoopSt2_eq h1 h2 h12 _ _ _ _ s

theorem innerLoopSt2_next (yb ylen ys : Nat) :
    ∀ (chunks : List (Nat × Nat)) (xb : Nat) (s : Store α),
      (innerLoopSt2 k1 d1 k2 d2 base yb ylen ys chunks xb s).next = s.next
  | [], _, _ => rfl
  | (xs, xlen) :: rest, xb, s => by
    rw [innerLoopSt2, innerLoopSt2_next yb ylen ys rest]
    rfl

theorem outerLoopSt2_next (xchunks : List (Nat × Nat)) (offx : Nat) :
    ∀ (chunks : List (Nat × Nat)) (yb : Nat) (s : Store α),
      (outerLoopSt2 k1 d1 k2 d2 base xchunks offx chunks yb s).next = s.next
  | [], _, _ => rfl
  | (ys, ylen) :: rest, yb, s => by
    rw [outerLoopSt2, outerLoopSt2_next xchunks offx rest, innerLoopSt2_next]

@[simp] theorem blockedSt2_next (p : Blocks.Plan) (k1 k2 : Arr α → Nat → Nat → α) (d1 d2 base : Nat) (s : Store α) :
    (blockedSt2 p k1 d1 k2 d2 base s).next = s.next := by
  unfold blockedSt2
  exact outerLoopSt2_next _ _ _ _ s

end store

def maskedArr (fl : Nat → Nat → Nat) (a : Arr Val) : Arr Val :=
  fun r c => if Flags.isInvalid (fl r c) then Val.nan else a r c

theorem maskInvalid_eq (ny nx : Nat) (fl : Nat → Nat → Nat) (dm : Nat) (s : Store Val) :
    Generated.KernelsMultiscale.maskInvalidDisparities ny nx fl dm s = (s.push [maskedArr fl (s.arr dm)], s.next) := by
  unfold Generated.KernelsMultiscale.maskInvalidDisparities
  simp only [copy_eq, alloc_eq_push, maskFill_eq, push_set_next, push_arr_next, List.getD_cons_zero]
  -- the constant read in constants.py is the model's `Flags.pixelInvalid`
  congr 3

/-- **`mask_invalid_disparities` regenerated = model.**  For every store: the result is a FRESH array holding the input
    map with NaN exactly where `flag & PANDORA_MSK_PIXEL_INVALID ≠ 0` (the constant read in constants.py is the model's
    `Flags.pixelInvalid`), and no other array is written. -/
theorem maskInvalidDisparities_generated (ny nx : Nat) (fl : Nat → Nat → Nat) (dm : Nat) (s : Store Val) :
    (Generated.KernelsMultiscale.maskInvalidDisparities ny nx fl dm s).2 = s.next
    ∧ (Generated.KernelsMultiscale.maskInvalidDisparities ny nx fl dm s).1.next = s.next + 1
    ∧ (Generated.KernelsMultiscale.maskInvalidDisparities ny nx fl dm s).1.arr s.next = maskedArr fl (s.arr dm)
    ∧ ∀ k, k ≠ s.next → (Generated.KernelsMultiscale.maskInvalidDisparities ny nx fl dm s).1.arr k = s.arr k :=
  alloc_spec_of_eq_push s (maskInvalid_eq ny nx fl dm s)

/-- `sliding_window` as `Model/Filter.lean` (index function) and as `Model/MultiscaleBlocks.lean` (grid) read it -/
theorem window_eq (A : Arr Val) (g : Multiscale.Grid Val) (w i j : Nat)
    (h : ∀ dr dc, dr < w → dc < w → A (i + dr) (j + dc) = g.get (i + dr) (j + dc)) :
    Filter.window A w i j = windowAt g w i j := by
  unfold Filter.window Filter.cells windowAt
  rw [List.map_flatMap]
  apply List.flatMap_congr
  intro dr hdr
  rw [List.map_map]
  apply List.map_congr_left
  intro dc hdc
  rw [List.mem_range] at hdr hdc
  exact h dr dc hdr hdc

theorem valSub_eq (v : Val) (n : Nat) : valSub v n = addRat v (-(n : Rat)) := by
  cases v <;> simp [valSub, addRat, Val.map, sub_eq_add_neg]

theorem valAdd_eq (v : Val) (n : Nat) : valAdd v n = addRat v (n : Rat) := rfl

/-- `bandArr` with the chunk loop read in the source and the window reduction `red` -/
def genBand (w ny nx : Nat) (red : List Val → Val) (masked : Arr Val) (user : Val) : Arr Val :=
  bandArr ((Generated.Blocks.multiscaleRange w).plan (ny - w + 1) (nx - w + 1) [ny, nx]) (windowKernel red w masked) masked user

theorem band_cell {disp : Multiscale.Grid Val} {flags : Multiscale.Grid Nat} {w marge : Nat} {umin umax : Rat} (isMin : Bool)
    {A : Arr Val} (hA : ∀ r c, r < disp.rows → c < disp.cols → A r c = disp.get r c)
    (hodd : w % 2 = 1) (hrows : w ≤ disp.rows) (hcols : w ≤ disp.cols) {r c : Nat} (hr : r < disp.rows) (hc : c < disp.cols) :
    genBand w disp.rows disp.cols (fun vs => if isMin then valSub (nanMin vs) marge else valAdd (nanMax vs) marge)
        (maskedArr (fun r c => flags.get r c) A) (if isMin then pyInt umin else pyInt umax) r c
    = coarseCell disp flags w marge umin umax r c isMin := by
  have hoff := source_multiscaleRange_offsets w hodd
  rw [← rangeBand_cell isMin hoff.1 hoff.2.1 hodd hrows hcols r c]
  have hM : ∀ r c, r < disp.rows → c < disp.cols →
      maskedArr (fun r c => flags.get r c) A r c = (maskInvalid disp flags).get r c := by
    intro r c hr hc
    rw [maskInvalid_get hr hc]
    simp [maskedArr, maskedCell, hA r c hr hc]
  -- both sides through `bandArr_eq`: same test on the cell, same interior, and the two kernels read the same window
  unfold genBand
  rw [bandArr_eq, bandArr_eq, hoff.1, hoff.2.1]
  dsimp only
  rw [hM r c hr hc]
  refine if_congr Iff.rfl rfl (if_ctx_congr Iff.rfl (fun hin => ?_) fun _ => rfl)
  simp only [windowKernel, rangeKernel]
  rw [window_eq _ (maskInvalid disp flags) w _ _ fun dr dc hdr hdc => hM _ _ (by omega) (by omega)]
  cases isMin
  · rfl
  · exact valSub_eq _ _

/-- the hypothesis on the library function: for the pinned keyword arguments `order=0, mode="nearest"`, `zoom` copies
    into output sample `(i, j)` the input sample `(zoomIndex ny f i, zoomIndex nx f j)` -/
def ZoomIsNearest (z : ZoomFn) : Prop := ∀ ny nx f a, z zoomPinned ny nx f a = zoomNearest ny nx f a

def zoomed (z : ZoomFn) (f ny nx : Nat) (x : Arr Val) : Arr Val := if f = 1 then x else z zoomPinned ny nx f x

theorem zoomed_nearest (z : ZoomFn) (hz : ZoomIsNearest z) (f ny nx : Nat) (x : Arr Val) (i j : Nat)
    (hi : i < f * ny) (hj : j < f * nx) : zoomed z f ny nx x i j = x (zoomIndex ny f i) (zoomIndex nx f j) := by
  unfold zoomed
  split
  · subst f
    rw [zoomIndex_one ny i (by omega), zoomIndex_one nx j (by omega)]
  · rw [hz]; rfl

theorem disparityRangeShape_eq (f ny nx : Nat) :
    Generated.KernelsMultiscale.disparityRangeShape f ny nx = (f * ny, f * nx) := by
  unfold Generated.KernelsMultiscale.disparityRangeShape
  split
  · subst f; rw [Nat.one_mul, Nat.one_mul]
  · rfl

/-- **What `disparity_range` returns**, without hypothesis on the window: the two maps are `genBand` of the NaN-masked
    disparity map, `zoomed`; every array that existed before the call keeps its content.  The intermediate stores are kept
    as variables through the three phases: three fresh arrays, the block loop with the resets, two `zoom`s. -/
theorem disparityRange_arrs (w marge f ny nx : Nat) (fl : Nat → Nat → Nat) (nminMin nmaxMin nminMax nmaxMax : Rat)
    (z : ZoomFn) (dm : Nat) (s0 : Store Val) (hd : dm < s0.next) (R : Store Val × Nat × Nat)
    (hR : Generated.KernelsMultiscale.disparityRange w marge f ny nx fl nminMin nmaxMin nminMax nmaxMax z dm s0 = R) :
    R.1.arr R.2.1 = zoomed z f ny nx
        (genBand w ny nx (fun vs => valSub (nanMin vs) marge) (maskedArr fl (s0.arr dm)) (pyInt nminMin))
    ∧ R.1.arr R.2.2 = zoomed z f ny nx
        (genBand w ny nx (fun vs => valAdd (nanMax vs) marge) (maskedArr fl (s0.arr dm)) (pyInt nmaxMax))
    ∧ ∀ k, k < s0.next → R.1.arr k = s0.arr k := by
  -- symbolic execution to the normal form `s0.push […]` (no identity is quoted), then the three read-offs
  unfold Generated.KernelsMultiscale.disparityRange at hR
  simp only [full_eq, zoom_eq, alloc_eq_push, maskInvalid_eq, push_push, push_next, push_arr_old _ _ hd,
    List.cons_append, List.nil_append, List.length_cons, List.length_nil, Nat.zero_add, Nat.reduceAdd] at hR
  -- the two destinations and the base of the view are three different new arrays
  rw [blockedSt2_eq _ _ _ _ _ _ (by omega) (by omega) (by omega)] at hR
  simp only [maskFill_eq, push_arr_new, push_arr_next, push_set_new, push_set_next, push_push, push_next,
    List.getD_cons_zero, List.getD_cons_succ, List.set_cons_zero, List.set_cons_succ, List.cons_append, List.nil_append,
    List.length_cons, List.length_nil, Nat.add_assoc, Nat.reduceAdd, Nat.reduceLT] at hR
  unfold zoomed
  -- `f = 1`: three arrays allocated; otherwise five; in both cases the results are entries of the list, the frame is `push_arr_old`
  by_cases h1 : f = 1
  all_goals
    simp only [h1, if_true, if_false] at hR ⊢
    subst hR
    simp only [push_arr_new, push_arr_next, List.getD_cons_zero, List.getD_cons_succ]
    exact ⟨rfl, rfl, fun k hk => push_arr_old _ _ hk⟩

/-- **`disparity_range` regenerated = the model's per-pixel rule composed with the `zoom` parent map.**  For every coarse
    level (`disp`, `flags` of any size), odd window that fits, marge, scale factor `f ≥ 1`, the four hoisted scalars
    (`np.nanmin(disp_min)` is the user minimum, `np.nanmax(disp_max)` the user maximum; the other two are not used by the
    source), every store and every array of it holding the disparity map, and every library function `zoom` that, for
    the pinned arguments, copies the `zoomIndex` parent: cell `(i, j)` of the two returned maps (shape
    `disparityRangeShape`) is the model's `coarseCell` at the parent `(zoomIndex rows f i, zoomIndex cols f j)` — window
    min − marge / max + marge over the valid window pixels, `int(user)` bound on invalid or border pixels — and no array
    that existed before the call is written (the disparity map in particular). -/
theorem disparityRange_generated (disp : Multiscale.Grid Val) (flags : Multiscale.Grid Nat) (w marge f : Nat)
    (nminMin nmaxMin nminMax nmaxMax : Rat) (z : ZoomFn) (dm : Nat) (s0 : Store Val)
    (hd : dm < s0.next) (hA : ∀ r c, r < disp.rows → c < disp.cols → s0.arr dm r c = disp.get r c)
    (hodd : w % 2 = 1) (hrows : w ≤ disp.rows) (hcols : w ≤ disp.cols) (hf : 1 ≤ f) (hz : ZoomIsNearest z) :
    (∀ i j, i < (Generated.KernelsMultiscale.disparityRangeShape f disp.rows disp.cols).1 →
        j < (Generated.KernelsMultiscale.disparityRangeShape f disp.rows disp.cols).2 →
      (Generated.KernelsMultiscale.disparityRange w marge f disp.rows disp.cols (fun r c => flags.get r c)
          nminMin nmaxMin nminMax nmaxMax z dm s0).1.arr
        (Generated.KernelsMultiscale.disparityRange w marge f disp.rows disp.cols (fun r c => flags.get r c)
          nminMin nmaxMin nminMax nmaxMax z dm s0).2.1 i j
        = coarseCell disp flags w marge nminMin nmaxMax (zoomIndex disp.rows f i) (zoomIndex disp.cols f j) true
      ∧ (Generated.KernelsMultiscale.disparityRange w marge f disp.rows disp.cols (fun r c => flags.get r c)
          nminMin nmaxMin nminMax nmaxMax z dm s0).1.arr
        (Generated.KernelsMultiscale.disparityRange w marge f disp.rows disp.cols (fun r c => flags.get r c)
          nminMin nmaxMin nminMax nmaxMax z dm s0).2.2 i j
        = coarseCell disp flags w marge nminMin nmaxMax (zoomIndex disp.rows f i) (zoomIndex disp.cols f j) false)
    ∧ ∀ k, k < s0.next →
      (Generated.KernelsMultiscale.disparityRange w marge f disp.rows disp.cols (fun r c => flags.get r c)
          nminMin nmaxMin nminMax nmaxMax z dm s0).1.arr k = s0.arr k := by
  obtain ⟨hlo, hhi, hfr⟩ := disparityRange_arrs w marge f disp.rows disp.cols (fun r c => flags.get r c)
    nminMin nmaxMin nminMax nmaxMax z dm s0 hd _ rfl
  refine ⟨fun i j hi hj => ?_, hfr⟩
  rw [disparityRangeShape_eq] at hi hj
  have hr := zoomIndex_lt disp.rows f i (by omega) hf hi
  have hc := zoomIndex_lt disp.cols f j (by omega) hf hj
  rw [hlo, hhi, zoomed_nearest z hz _ _ _ _ i j hi hj, zoomed_nearest z hz _ _ _ _ i j hi hj]
  exact ⟨band_cell true hA hodd hrows hcols hr hc, band_cell false hA hodd hrows hcols hr hc⟩

/-- what `run_multiscale`, `matching_cost_prepare` and `cv_masked` do with a returned map of shape `sh` (hand model,
    compared on every run): multiplication by the factor, crop to the finer image -/
def cropMul (sh : Nat × Nat) (a : Arr Val) (f fineRows fineCols : Nat) : Multiscale.Grid Val :=
  tab (min fineRows sh.1) (min fineCols sh.2) fun i j => (a i j).map (· * (f : Rat))

def generatedNextLevel (disp : Multiscale.Grid Val) (flags : Multiscale.Grid Nat) (w marge f : Nat)
    (userMin nmaxMin nminMax userMax : Rat) (z : ZoomFn) (dm : Nat) (s0 : Store Val) (fineRows fineCols : Nat) :
    Multiscale.Grid Val × Multiscale.Grid Val :=
  let R := Generated.KernelsMultiscale.disparityRange w marge f disp.rows disp.cols (fun r c => flags.get r c)
    userMin nmaxMin nminMax userMax z dm s0
  let sh := Generated.KernelsMultiscale.disparityRangeShape f disp.rows disp.cols
  (cropMul sh (R.1.arr R.2.1) f fineRows fineCols, cropMul sh (R.1.arr R.2.2) f fineRows fineCols)

/-- **The next level's grids computed with the generated `disparity_range` are the model's `nextLevelGrids`** — for every
    coarse level, odd window that fits, marge, factor `f ≥ 1`, user interval, finer size, store, and `zoom` that copies the
    `zoomIndex` parent for the pinned arguments. -/
theorem generatedNextLevel_eq (disp : Multiscale.Grid Val) (flags : Multiscale.Grid Nat) (w marge f : Nat)
    (userMin nmaxMin nminMax userMax : Rat) (z : ZoomFn) (dm : Nat) (s0 : Store Val) (fineRows fineCols : Nat)
    (hd : dm < s0.next) (hA : ∀ r c, r < disp.rows → c < disp.cols → s0.arr dm r c = disp.get r c)
    (hodd : w % 2 = 1) (hrows : w ≤ disp.rows) (hcols : w ≤ disp.cols) (hf : 1 ≤ f) (hz : ZoomIsNearest z) :
    generatedNextLevel disp flags w marge f userMin nmaxMin nminMax userMax z dm s0 fineRows fineCols
      = nextLevelGrids disp flags w marge f userMin userMax fineRows fineCols := by
  obtain ⟨hcell, _⟩ := disparityRange_generated disp flags w marge f userMin nmaxMin nminMax userMax z dm s0 hd hA hodd
    hrows hcols hf hz
  rw [disparityRangeShape_eq] at hcell
  rw [nextLevelGrids_eq, coarseRanges_eq]
  dsimp only
  rw [upsampleCrop_eq_tab _ _ f fineRows fineCols _ hf (by omega), upsampleCrop_eq_tab _ _ f fineRows fineCols _ hf (by omega)]
  unfold generatedNextLevel cropMul
  rw [disparityRangeShape_eq]
  exact Prod.ext
    (Blocks.tabulate_congr fun i hi j hj => by rw [(hcell i j (by omega) (by omega)).1])
    (Blocks.tabulate_congr fun i hi j hj => by rw [(hcell i j (by omega) (by omega)).2])

/- the statements of `C15Grids.lean` (`nextLevelGrids_eq_spec`, `finer_interval_rule`, `invalid_parent_full_interval`,
   `min ≤ max`) about the generated definition -/
section generated
variable (disp : Multiscale.Grid Val) (flags : Multiscale.Grid Nat) (w marge f : Nat)
  (userMin nmaxMin nminMax userMax : Rat) (z : ZoomFn) (dm : Nat) (s0 : Store Val) (fineRows fineCols i j : Nat)
  (hd : dm < s0.next) (hA : ∀ r c, r < disp.rows → c < disp.cols → s0.arr dm r c = disp.get r c)
  (hodd : w % 2 = 1) (hrows : w ≤ disp.rows) (hcols : w ≤ disp.cols) (hf : 1 ≤ f) (hz : ZoomIsNearest z)
  (hi : i < fineRows) (hj : j < fineCols) (hiz : i < f * disp.rows) (hjz : j < f * disp.cols)
include hd hA hodd hrows hcols hf hz hi hj hiz hjz

theorem generated_nextLevel_eq_spec
    (hnum : Flags.isInvalid (flags.get (zoomIndex disp.rows f i) (zoomIndex disp.cols f j)) = false →
      (disp.get (zoomIndex disp.rows f i) (zoomIndex disp.cols f j)).isNan = false) :
    ((generatedNextLevel disp flags w marge f userMin nmaxMin nminMax userMax z dm s0 fineRows fineCols).1.get i j,
     (generatedNextLevel disp flags w marge f userMin nmaxMin nminMax userMax z dm s0 fineRows fineCols).2.get i j)
      = specInterval disp flags w marge f userMin userMax (zoomIndex disp.rows f i) (zoomIndex disp.cols f j) := by
  rw [generatedNextLevel_eq disp flags w marge f userMin nmaxMin nminMax userMax z dm s0 fineRows fineCols hd hA hodd hrows
    hcols hf hz]
  exact nextLevelGrids_eq_spec disp flags w marge f userMin userMax fineRows fineCols i j hf hi hj hiz hjz hnum

theorem generated_fine_interval_contains_parent (d : Rat)
    (hint : interiorB ((w - 1) / 2) disp.rows disp.cols (zoomIndex disp.rows f i) (zoomIndex disp.cols f j) = true)
    (hv : Flags.isInvalid (flags.get (zoomIndex disp.rows f i) (zoomIndex disp.cols f j)) = false)
    (hdv : disp.get (zoomIndex disp.rows f i) (zoomIndex disp.cols f j) = Val.num d) :
    ∃ lo hi',
      (generatedNextLevel disp flags w marge f userMin nmaxMin nminMax userMax z dm s0 fineRows fineCols).1.get i j = Val.num lo
      ∧ (generatedNextLevel disp flags w marge f userMin nmaxMin nminMax userMax z dm s0 fineRows fineCols).2.get i j = Val.num hi'
      ∧ lo ≤ (f : Rat) * (d - marge) ∧ (f : Rat) * (d + marge) ≤ hi' := by
  rw [generatedNextLevel_eq disp flags w marge f userMin nmaxMin nminMax userMax z dm s0 fineRows fineCols hd hA hodd hrows
    hcols hf hz]
  exact fine_interval_contains_parent disp flags w marge f userMin userMax fineRows fineCols i j d hf hi hj hiz hjz hint hv hdv

theorem generated_fine_interval_user
    (h : interiorB ((w - 1) / 2) disp.rows disp.cols (zoomIndex disp.rows f i) (zoomIndex disp.cols f j) = false
      ∨ Flags.isInvalid (flags.get (zoomIndex disp.rows f i) (zoomIndex disp.cols f j)) = true) :
    (generatedNextLevel disp flags w marge f userMin nmaxMin nminMax userMax z dm s0 fineRows fineCols).1.get i j
        = Val.num ((f : Rat) * ratTrunc userMin)
    ∧ (generatedNextLevel disp flags w marge f userMin nmaxMin nminMax userMax z dm s0 fineRows fineCols).2.get i j
        = Val.num ((f : Rat) * ratTrunc userMax) := by
  rw [generatedNextLevel_eq disp flags w marge f userMin nmaxMin nminMax userMax z dm s0 fineRows fineCols hd hA hodd hrows
    hcols hf hz]
  exact fine_interval_user disp flags w marge f userMin userMax fineRows fineCols i j hf hi hj hiz hjz h

theorem generated_fine_interval_min_le_max (huser : userMin ≤ userMax)
    (hnum : Flags.isInvalid (flags.get (zoomIndex disp.rows f i) (zoomIndex disp.cols f j)) = false →
      (disp.get (zoomIndex disp.rows f i) (zoomIndex disp.cols f j)).isNan = false) :
    ∃ lo hi',
      (generatedNextLevel disp flags w marge f userMin nmaxMin nminMax userMax z dm s0 fineRows fineCols).1.get i j = Val.num lo
      ∧ (generatedNextLevel disp flags w marge f userMin nmaxMin nminMax userMax z dm s0 fineRows fineCols).2.get i j = Val.num hi'
      ∧ lo ≤ hi' := by
  rw [generatedNextLevel_eq disp flags w marge f userMin nmaxMin nminMax userMax z dm s0 fineRows fineCols hd hA hodd hrows
    hcols hf hz]
  exact fine_interval_min_le_max disp flags w marge f userMin userMax fineRows fineCols i j hf hi hj hiz hjz huser hnum

end generated

theorem intPow_cast_eq_zero (f n : Nat) : ((((f : Nat) : Int) ^ n : Int) : Rat) = 0 ↔ f = 0 ∧ n ≠ 0 := by
  push_cast
  rw [pow_eq_zero_iff', Nat.cast_eq_zero]

/-- **`run_prepare`'s interval division, regenerated = model**, for every rational bound and all naturals with a non-zero
    factor: `user / scale_factor ** num_scales` is `Multiscale.prepareBound` and does not raise -/
theorem prepareBound_generated (user : Rat) (f n : Nat) (hf : f ≠ 0) :
    prepareBoundMinAt user f n = PyExpr.PyRes.ok (prepareBound user f n)
    ∧ prepareBoundMaxAt user f n = PyExpr.PyRes.ok (prepareBound user f n) := by
  have hne := mt (intPow_cast_eq_zero f n).1 fun h => hf h.1
  refine ⟨?_, ?_⟩ <;>
  · simp only [prepareBoundMinAt, prepareBoundMin, prepareBoundMaxAt, prepareBoundMax, prepareBound, hne, if_false]
    push_cast
    rfl

theorem prepareBound_raises_iff (user : Rat) (f n : Nat) :
    prepareBoundMinAt user f n = PyExpr.PyRes.zeroDivision ↔ (f = 0 ∧ n ≠ 0) := by
  unfold prepareBoundMinAt prepareBoundMin
  rw [← intPow_cast_eq_zero]
  dsimp only
  split <;> simp only [*, reduceCtorEq]

theorem mcPrepare_generated (bound : Rat) (f : Nat) :
    mcPrepareMin bound (f : Int) = bound * (f : Rat) ∧ mcPrepareMax bound (f : Int) = bound * (f : Rat)
    ∧ mcPrepareRightMin bound (f : Int) = bound * (f : Rat) ∧ mcPrepareRightMax bound (f : Int) = bound * (f : Rat) := by
  refine ⟨?_, ?_, ?_, ?_⟩ <;> simp only [mcPrepareMin, mcPrepareMax, mcPrepareRightMin, mcPrepareRightMax] <;> push_cast <;> ring

/-- one `matching_cost_prepare` is one step of the model's `boundAfter`, which starts at `prepareBound` -/
theorem boundAfter_generated (user : Rat) (f n k : Nat) :
    boundAfter user f n (k + 1) = mcPrepareMin (boundAfter user f n k) (f : Int)
    ∧ boundAfter user f n (k + 1) = mcPrepareMax (boundAfter user f n k) (f : Int)
    ∧ boundAfter user f n 0 = prepareBound user f n := by
  refine ⟨?_, ?_, ?_⟩
  · simp only [mcPrepareMin, boundAfter]
    push_cast
    ring
  · simp only [mcPrepareMax, boundAfter]
    push_cast
    ring
  · simp [boundAfter]

theorem prepareRight_generated (dmin dmax : Rat) :
    prepareRightMin dmin dmax = -dmax ∧ prepareRightMax dmin dmax = -dmin := ⟨rfl, rfl⟩


/-- a store holding the 4 × 5 demo level of `C15Grids` -/
def demoStore : Store Val := Store.init [fun r c => demoDisp.get r c] (fun _ _ => Val.nan)

-- the hypotheses of `disparityRange_generated` hold there for window 3, factor 2 and the model's own reading of `zoom`
example : (0 : Nat) < demoStore.next ∧ 3 % 2 = 1 ∧ 3 ≤ demoDisp.rows ∧ 3 ≤ demoDisp.cols ∧ 1 ≤ 2 := by decide
example : ∀ r c, r < demoDisp.rows → c < demoDisp.cols → demoStore.arr 0 r c = demoDisp.get r c := fun _ _ _ _ => rfl
example : ZoomIsNearest Generated.KernelsMultiscale.goldenZoom := by
  intro ny nx f a
  simp [Generated.KernelsMultiscale.goldenZoom]
/-- a `zoom` that does something else for other keyword arguments still satisfies the hypothesis: nothing is assumed
    about `zoom(…, mode="constant")` (scipy's default), so a source that drops `mode="nearest"` is not covered -/
example : Generated.KernelsMultiscale.goldenZoom { order := 0, mode := "constant" } 1 1 2 (fun _ _ => Val.num 1) 0 0 = Val.nan := by
  decide +kernel
/-- and the generated program evaluates to the model's grids there (fine pixel (4, 3): parent (2, 1), 2·[−1, 8]) -/
example : (generatedNextLevel demoDisp demoFlags 3 1 2 (-7 / 2) (-3) 3 (7 / 2) Generated.KernelsMultiscale.goldenZoom 0 demoStore
    7 9).1.get 4 3 = .num (-2) := by decide +kernel

end Pandora.C15Kernels
