/-
  C13 — the composed run of the step models on their own arrays (`fullRunR`, `afterFilterR` of
  `Model/PipelineRun.lean`, for any cost rows; `fullRun`, `afterFilter` without aggregation), seen as partial images,
  IS the composed function of `C13Pipeline.lean` applied to the partial image of the scene; hence crop = whole for
  the arrays of the models.

  The wiring itself (which array is handed to which step in `pandora/state_machine.py`) is C08's subject; here
  the run is the composition of the step models in the order of the chain.
-/
import PandoraModel.Properties.C13Flags

namespace Pandora.C13
open Pandora.Locality Pandora.MC

theorem gridImg_tabulate {β : Type} (rows cols : Nat) (g : Nat → Nat → β) :
    gridImg (Blocks.tabulate rows cols g) = toImg rows cols g := by
  funext p
  unfold gridImg toImg
  by_cases hp : 0 ≤ p.1 ∧ 0 ≤ p.2
  · rw [if_pos hp, Blocks.getElem?_tabulate]
    by_cases hr : p.1.toNat < rows
    · rw [if_pos hr]
      rw [Option.bind_some, List.getElem?_map]
      by_cases hc : p.2.toNat < cols
      · rw [List.getElem?_range hc, if_pos (by omega)]
        rfl
      · rw [List.getElem?_eq_none (by rw [List.length_range]; omega), if_neg (by omega)]
        rfl
    · rw [if_neg hr, if_neg (by omega)]
      rfl
  · rw [if_neg hp, if_neg (by omega)]

theorem tabulate_getD {β : Type} (rows cols : Nat) (g : Nat → Nat → β) (d : β) (r c : Nat) (hr : r < rows)
    (hc : c < cols) : ((Blocks.tabulate rows cols g).getD r []).getD c d = g r c := by
  rw [Blocks.getD_tabulate, if_pos ⟨hr, hc⟩]

theorem refinePixel_congr_interval (P : Refinement.Params) (costs : List Val) (d : Val) (flag : Nat) (a b a' b' : Rat) :
    Refinement.refinePixel P ⟨costs, d, flag, a, b⟩ = Refinement.refinePixel P ⟨costs, d, flag, a', b'⟩ := by
  unfold Refinement.refinePixel
  rfl

def cfgOf (K : RunCfg) (x : MC.Input) : PipeCfg where
  mc := paramsOf x
  gmin := gminOf x
  gmax := gmaxOf x
  n := nOf x
  ev := K.ev
  isMax := K.isMax
  disps := K.disps
  invalid := K.invalid
  refine := K.refine
  invalidMask := K.invalidMask
  fs := K.fs

theorem mcStage_run (K : RunCfg) (x : MC.Input) (hx : McOK x) :
    mcStage (cfgOf K x) (toImg x.L.rows x.L.cols (mcScene x)) = toImg x.L.rows x.L.cols (costRow K x) :=
  mcRowStep_ev_scene x hx K.ev

theorem costStage_run (K : RunCfg) (x : MC.Input) (hx : McOK x) :
    costStage (cfgOf K x) noAgg (toImg x.L.rows x.L.cols (mcScene x)) = toImg x.L.rows x.L.cols (costRow K x) := by
  funext p
  unfold costStage noAgg
  rw [pairStep_toImg _ _ _ _ _ (mcScene x) (costRow K x) rfl (mcStage_run K x hx), map_toImg]
  rfl

/-- `R` is what the cost stage (matching cost followed by the aggregation `agg`) computes for the pair `x` -/
def CostRows (K : RunCfg) (x : MC.Input) (agg : AggStep) (R : Nat → Nat → List Val) : Prop :=
  costStage (cfgOf K x) agg (toImg x.L.rows x.L.cols (mcScene x)) = toImg x.L.rows x.L.cols R

theorem wtaStage_runR (K : RunCfg) (x : MC.Input) {agg : AggStep} {R : Nat → Nat → List Val} (hR : CostRows K x agg R)
    (h0 : K.sW.beginY = 0 ∧ K.sW.beginX = 0) :
    wtaStage (cfgOf K x) agg (toImg x.L.rows x.L.cols (mcScene x)) = toImg x.L.rows x.L.cols (wtaMapR K x R) := by
  unfold wtaStage
  rw [hR]
  exact (toDisp_is_wtaStep K.sW h0 (wtaIn K x R)).symm

theorem flags_run (K : RunCfg) (x : MC.Input) (hx : McOK x) :
    pipeFlags (cfgOf K x) (toImg x.L.rows x.L.cols (mcScene x)) = toImg x.L.rows x.L.cols (C04C02.composedMask x) :=
  (composedMask_is_flagStep x hx.shape (C02.gridOK_of_wf x hx.wf)).symm

theorem afterRefineR_is_refineStage (K : RunCfg) (x : MC.Input) (hx : McOK x) {agg : AggStep}
    {R : Nat → Nat → List Val} (hR : CostRows K x agg R) (h0 : K.sW.beginY = 0 ∧ K.sW.beginX = 0)
    (m : Maps) (hm : afterRefineR K x R = some m) :
    refineStage (cfgOf K x) agg (pipeFlags (cfgOf K x)) K.doRefine (toImg x.L.rows x.L.cols (mcScene x))
      = toImg x.L.rows x.L.cols (zipArr m.disp m.flag) := by
  -- what refinement reads: the cost rows, the map of `to_disp`, the criteria flags
  have hin := pairStep_toImg _ _ _ _ _ _ _ (pairStep_toImg _ _ _ _ _ _ _ hR (wtaStage_runR K x hR h0)) (flags_run K x hx)
  symm
  apply toImg_eq_of_cells
  · intro r c hr hc
    unfold refineStage
    rw [hin, toImg_some _ _ _ r c hr hc]
    simp only [Option.bind_some, zipArr]
    unfold afterRefineR at hm
    cases hdo : K.doRefine with
    | false =>
      rw [hdo] at hm
      simp only [Bool.false_eq_true, if_false, Option.some.injEq] at hm ⊢
      subst hm
      rfl
    | true =>
      rw [hdo] at hm
      simp only [if_true] at hm ⊢
      cases hl : Refinement.loopRefinement K.refine (refineGridR K x R) with
      | err e => rw [hl] at hm; cases hm
      | ok o =>
        rw [hl] at hm
        simp only [Option.some.injEq] at hm
        subst hm
        -- the loop body returned on this pixel, and its result is the cell of the output grid
        obtain ⟨y, hy, hg⟩ := loopRefinement_tabulate K.refine _ _ _ o hl r c hr hc
        simp only [hg, mkPixIn, cfgOf]
        rw [refinePixel_congr_interval K.refine _ _ _ 0 0 ((x.dminG (r : Int) (c : Int) : Int) : Rat)
          ((x.dmaxG (r : Int) (c : Int) : Int) : Rat), hy]
        rfl
  · intro p hp
    unfold refineStage
    rw [hin, toImg_none _ _ _ p hp]
    rfl

/-- what the parameters of the median filter must satisfy (hypotheses of C10's identification) -/
structure MedianOK (K : RunCfg) (x : MC.Input) : Prop where
  beginY : K.sM.beginY = K.fs / 2
  beginX : K.sM.beginX = K.fs / 2
  odd : K.fs % 2 = 1
  rows : K.fs ≤ x.L.rows
  cols : K.fs ≤ x.L.cols

theorem afterFilterR_is_filterStage (K : RunCfg) (x : MC.Input) (hx : McOK x) {agg : AggStep}
    {R : Nat → Nat → List Val} (hR : CostRows K x agg R) (h0 : K.sW.beginY = 0 ∧ K.sW.beginX = 0)
    (hmed : K.doMedian = true → MedianOK K x) (m : Maps) (hm : afterFilterR K x R = some m) :
    filterStage (cfgOf K x) agg (pipeFlags (cfgOf K x)) K.doRefine K.doMedian (toImg x.L.rows x.L.cols (mcScene x))
      = toImg x.L.rows x.L.cols (zipArr m.disp m.flag) := by
  unfold afterFilterR at hm
  cases hr : afterRefineR K x R with
  | none => rw [hr] at hm; cases hm
  | some m1 =>
    rw [hr] at hm
    simp only [Option.map_some, Option.some.injEq] at hm
    have h1 := afterRefineR_is_refineStage K x hx hR h0 m1 hr
    unfold filterStage
    cases hdo : K.doMedian with
    | false =>
      rw [hdo] at hm
      simp only [Bool.false_eq_true, if_false] at hm ⊢
      subst hm
      exact h1
    | true =>
      rw [hdo] at hm
      simp only [if_true] at hm ⊢
      subst hm
      have ok := hmed hdo
      rw [medianStage_eq_filtStage]
      apply pairStep_toImg
      · show medianStep (cfgOf K x).invalidMask (cfgOf K x).fs (refineStage _ _ _ _ _) = _
        rw [h1]
        exact (medianFilterDisparity_is_medianStep K.sM K.invalidMask K.fs x.L.rows x.L.cols m1.flag m1.disp
          ok.beginY ok.beginX ok.odd ok.rows ok.cols).symm
      · funext p
        rw [h1, map_toImg]
        rfl

theorem mcScene_swapInput (x : MC.Input) (r c : Nat) : mcScene (swapInput x) r c = swapCell (mcScene x r c) := rfl

theorem swap_scene_img (x : MC.Input) (h : Shape x) :
    (fun q => (toImg x.L.rows x.L.cols (mcScene x) q).map swapCell)
      = toImg (swapInput x).L.rows (swapInput x).L.cols (mcScene (swapInput x)) := by
  funext q
  rw [map_toImg]
  show _ = toImg x.R.rows x.R.cols _ q
  rw [h.rows_eq, h.cols_eq]
  rfl

theorem afterFilterR_swap_is_rightDisp (K' : RunCfg) (x : MC.Input) (h : Shape x) (hx' : McOK (swapInput x))
    {agg' : AggStep} {R' : Nat → Nat → List Val} (hR' : CostRows K' (swapInput x) agg' R')
    (h0' : K'.sW.beginY = 0 ∧ K'.sW.beginX = 0) (hmed' : K'.doMedian = true → MedianOK K' (swapInput x))
    (B : Maps) (hB : afterFilterR K' (swapInput x) R' = some B) :
    rightDisp (cfgOf K' (swapInput x)) agg' (pipeFlags (cfgOf K' (swapInput x))) K'.doRefine K'.doMedian
        (toImg x.L.rows x.L.cols (mcScene x))
      = toImg x.L.rows x.L.cols B.disp := by
  funext p
  unfold rightDisp
  rw [swap_scene_img x h, afterFilterR_is_filterStage K' (swapInput x) hx' hR' h0' hmed' B hB, map_toImg]
  show toImg x.R.rows x.R.cols _ p = _
  rw [h.rows_eq, h.cols_eq]
  rfl

theorem leftDataset_rect (rows cols : Nat) (A : Maps) (Bd : Nat → Nat → Val) :
    RectShapes rows cols (leftDataset rows cols A) { disp := Blocks.tabulate rows cols Bd, mask := [] } := by
  refine ⟨by simp [leftDataset, Blocks.tabulate], ?_⟩
  intro r hr
  refine ⟨(List.range cols).map (A.disp r), (List.range cols).map (Bd r), (List.range cols).map (A.flag r), ?_, ?_, ?_,
    by simp, by simp, by simp⟩
  · simp only [leftDataset, Blocks.getElem?_tabulate, if_pos hr]
  · simp only [Blocks.getElem?_tabulate, if_pos hr]
  · simp only [leftDataset, Blocks.getElem?_tabulate, if_pos hr]

theorem ccScene_leftDataset (rows cols : Nat) (A : Maps) (Bd : Nat → Nat → Val) (r c : Nat) (hr : r < rows)
    (hc : c < cols) :
    ccScene (leftDataset rows cols A) { disp := Blocks.tabulate rows cols Bd, mask := [] } r c
      = (A.disp r c, A.flag r c, Bd r c) := by
  unfold ccScene leftDataset
  simp only [tabulate_getD _ _ _ _ r c hr hc]

/-- the hypothesis of C07's identification: every valid pixel of the left map has its rounded disparity in the
    interval cross-checking searches (what the disparity step guarantees — C09) -/
def LeftInInterval (CP : CrossCheck.Params) (rows cols : Nat) (A : Maps) : Prop :=
  ∀ r c, r < rows → c < cols → DispInInterval CP (A.disp r c) (A.flag r c)

theorem leftInInterval_dataset (CP : CrossCheck.Params) (rows cols : Nat) (A : Maps) (h : LeftInInterval CP rows cols A) :
    InInterval CP rows cols (leftDataset rows cols A) := by
  intro r c hr hc
  have := h r c hr hc
  unfold leftDataset
  simp only [tabulate_getD _ _ _ _ r c hr hc]
  exact this

theorem leftInInterval_of_B (CP : CrossCheck.Params) (rows cols : Nat) (A : Maps)
    (h : leftInIntervalB CP rows cols A = true) : LeftInInterval CP rows cols A := by
  intro r c hr hc
  unfold leftInIntervalB at h
  simp only [List.all_eq_true, List.mem_range] at h
  have := h r hr c hc
  unfold DispInInterval
  cases hf : Flags.isInvalid (A.flag r c) with
  | true => exact Or.inl rfl
  | false =>
    rw [hf] at this
    right
    cases hd : A.disp r c with
    | nan => exact Or.inl rfl
    | num v =>
      rw [hd] at this
      simp only [Bool.false_or, decide_eq_true_eq] at this
      exact Or.inr ⟨v, rfl, this⟩

theorem leftInInterval_of_all {CP : CrossCheck.Params} {rows cols : Nat} {o : Option Maps}
    (h : o.all (leftInIntervalB CP rows cols) = true) (A : Maps) (hA : o = some A) : LeftInInterval CP rows cols A :=
  leftInInterval_of_B _ _ _ A (by rw [hA] at h; exact h)

/-- everything assumed of one run: the two matching-cost inputs are those of C02's theorem, the block splits
    start where C03 / C10 need them, the median filter is odd-sized and fits -/
structure RunOK (K K' : RunCfg) (x : MC.Input) : Prop where
  mc : McOK x
  mcR : McOK (swapInput x)
  wta : K.sW.beginY = 0 ∧ K.sW.beginX = 0
  wtaR : K'.sW.beginY = 0 ∧ K'.sW.beginX = 0
  med : K.doMedian = true → MedianOK K x
  medR : K'.doMedian = true → MedianOK K' (swapInput x)

theorem fullRunR_eq_some_iff {K K' : RunCfg} {V : CrossCheck.Variant} {CP : CrossCheck.Params} {x : MC.Input}
    {R R' : Nat → Nat → List Val} {out : Nat → Nat → CrossCheck.PixOut} :
    fullRunR K K' V CP x R R' = some out ↔
      ∃ A B, afterFilterR K x R = some A ∧ afterFilterR K' (swapInput x) R' = some B ∧
        out = fun r c => C07.outPix (CrossCheck.check V CP (leftDataset x.L.rows x.L.cols A)
          { disp := Blocks.tabulate x.L.rows x.L.cols B.disp, mask := [] }) r c := by
  unfold fullRunR
  cases afterFilterR K x R with
  | none => exact ⟨fun h => (nomatch h), fun ⟨_, _, h, _⟩ => (nomatch h)⟩
  | some A =>
    cases afterFilterR K' (swapInput x) R' with
    | none => exact ⟨fun h => (nomatch h), fun ⟨_, _, _, h, _⟩ => (nomatch h)⟩
    | some B =>
      exact ⟨fun h => ⟨A, B, rfl, rfl, (Option.some.inj h).symm⟩,
        fun ⟨_, _, hA, hB, ho⟩ => by cases hA; cases hB; rw [ho]⟩

/-- one run of the array models returned `out`: the pair `x` is within the hypotheses of the step models (`RunOK`), the
    cost stages `[matching cost; agg]`, `[matching cost; agg']` compute the cost rows `R` of the pair and `R'` of the swapped
    pair, `fullRunR` on them returned `out`, and the left map satisfies C07's hypothesis (`LeftInInterval`) -/
structure RunOf (K K' : RunCfg) (V : CrossCheck.Variant) (CP : CrossCheck.Params) (x : MC.Input) (agg agg' : AggStep)
    (R R' : Nat → Nat → List Val) (out : Nat → Nat → CrossCheck.PixOut) : Prop where
  ok : RunOK K K' x
  rows : CostRows K x agg R
  rowsR : CostRows K' (swapInput x) agg' R'
  returned : fullRunR K K' V CP x R R' = some out
  inInterval : ∀ A, afterFilterR K x R = some A → LeftInInterval CP x.L.rows x.L.cols A

/-- **The whole run of the models is the composed function `ccStage`** — for any aggregation steps `agg`, `agg'`
    whose cost stages compute the cost rows `R`, `R'` the run is given. -/
theorem fullRunR_is_ccStage {K K' : RunCfg} {V : CrossCheck.Variant} {CP : CrossCheck.Params} {x : MC.Input}
    {agg agg' : AggStep} {R R' : Nat → Nat → List Val} {out : Nat → Nat → CrossCheck.PixOut}
    (h : RunOf K K' V CP x agg agg' R R' out) :
    toImg x.L.rows x.L.cols out
      = ccStage (cfgOf K x) agg (pipeFlags (cfgOf K x)) K.doRefine K.doMedian
          (rightDisp (cfgOf K' (swapInput x)) agg' (pipeFlags (cfgOf K' (swapInput x))) K'.doRefine K'.doMedian)
          V CP (toImg x.L.rows x.L.cols (mcScene x)) := by
  obtain ⟨ok, hR, hR', hout, hin⟩ := h
  have hsh := ok.mc.shape
  obtain ⟨A, B, hA, hB, rfl⟩ := fullRunR_eq_some_iff.1 hout
  have hL := afterFilterR_is_filterStage K x ok.mc hR ok.wta ok.med A hA
  have hRt := afterFilterR_swap_is_rightDisp K' x hsh ok.mcR hR' ok.wtaR ok.medR B hB
  have hcc := check_is_ccStep V CP x.L.rows x.L.cols (leftDataset x.L.rows x.L.cols A)
    { disp := Blocks.tabulate x.L.rows x.L.cols B.disp, mask := [] }
    (leftDataset_rect _ _ A B.disp) (leftInInterval_dataset CP _ _ A (hin A hA))
  rw [hcc]
  unfold ccStage
  congr 1
  funext p
  rw [pairStep_toImg _ _ _ _ _ _ _ hL hRt, map_toImg]
  apply congrFun
  apply toImg_congr
  intro r c hr hc
  rw [ccScene_leftDataset _ _ A B.disp r c hr hc]
  rfl

/-- **The whole run of the models without aggregation is the composed function `ccStage`** (criteria flags, right
    map by the same chain on the swapped pair) **applied to the partial image of the scene.** -/
theorem fullRun_is_ccStage (K K' : RunCfg) (V : CrossCheck.Variant) (CP : CrossCheck.Params) (x : MC.Input)
    (ok : RunOK K K' x) (out : Nat → Nat → CrossCheck.PixOut) (hout : fullRun K K' V CP x = some out)
    (hin : ∀ A, afterFilter K x = some A → LeftInInterval CP x.L.rows x.L.cols A) :
    toImg x.L.rows x.L.cols out
      = ccStage (cfgOf K x) noAgg (pipeFlags (cfgOf K x)) K.doRefine K.doMedian
          (rightDisp (cfgOf K' (swapInput x)) noAgg (pipeFlags (cfgOf K' (swapInput x))) K'.doRefine K'.doMedian)
          V CP (toImg x.L.rows x.L.cols (mcScene x)) :=
  fullRunR_is_ccStage ⟨ok, costStage_run K x ok.mc, costStage_run K' (swapInput x) ok.mcR, hout, hin⟩

/-- `x'` is the crop of the scene of `x` starting at `(r0, c0)`, with the same configuration and the same global
    disparity ranges in both directions (a scalar interval) -/
structure CropRun (x x' : MC.Input) (r0 c0 : Nat) : Prop where
  params : paramsOf x' = paramsOf x
  scene : ∀ r c, r < x'.L.rows → c < x'.L.cols → mcScene x' r c = mcScene x (r + r0) (c + c0)
  fit : r0 + x'.L.rows ≤ x.L.rows ∧ c0 + x'.L.cols ≤ x.L.cols
  gmin : gminOf x' = gminOf x
  gmax : gmaxOf x' = gmaxOf x
  gminR : gminOf (swapInput x') = gminOf (swapInput x)
  gmaxR : gmaxOf (swapInput x') = gmaxOf (swapInput x)

theorem cfgOf_congr (K : RunCfg) {x x' : MC.Input} (hp : paramsOf x' = paramsOf x)
    (h1 : gminOf x' = gminOf x) (h2 : gmaxOf x' = gmaxOf x) : cfgOf K x' = cfgOf K x := by
  have hsp : x'.sp = x.sp := congrArg McParams.sp hp
  unfold gminOf at h1
  unfold gmaxOf at h2
  unfold cfgOf nOf gminOf gmaxOf
  rw [hp, h1, h2, hsp]

theorem paramsOf_swap_congr {x x' : MC.Input} (hp : paramsOf x' = paramsOf x) :
    paramsOf (swapInput x') = paramsOf (swapInput x) := by
  simp only [paramsOf, McParams.mk.injEq] at hp
  obtain ⟨p1, p2, p3, p4, p5, p6, p7, p8, p9⟩ := hp
  simp only [paramsOf, swapInput, McParams.mk.injEq]
  exact ⟨p1, p2, p3, p7, p8, p9, p4, p5, p6⟩

theorem cfgOf_samplesOK (K : RunCfg) (x : MC.Input) (hx : McOK x) : (cfgOf K x).SamplesOK :=
  ⟨hx.sp_pos, sample_le_gmax _ _ x.sp hx.sp_pos (C02.gridOK_of_wf x hx.wf)⟩

theorem costStage_noAgg_local_run (K : RunCfg) (x : MC.Input) (hx : McOK x) :
    Local (costCone (cfgOf K x) Cone.zero) (costStage (cfgOf K x) noAgg) :=
  costStage_local (cfgOf K x) (cfgOf_samplesOK K x hx) noAgg_local

/-- the cone of the whole run: the left chain (matching cost ⊔ flags, + median), joined with the right chain,
    + the interval of cross-checking -/
def runCone (K K' : RunCfg) (CP : CrossCheck.Params) (x : MC.Input) : Cone :=
  pipeCone (cfgOf K x) Cone.zero (mcCone (cfgOf K x).mc (cfgOf K x).gmin (cfgOf K x).gmax)
    (filterCone (cfgOf K' (swapInput x)) Cone.zero
      (mcCone (cfgOf K' (swapInput x)).mc (cfgOf K' (swapInput x)).gmin (cfgOf K' (swapInput x)).gmax) K'.doMedian)
    K.doMedian CP

/-- a cell of a run is the value of the composed function `ccStage` at that pixel of the scene: two runs with the same
    configuration give the same cell wherever the composed function does (crop: `runR_crop_eq_whole`, flip: `runR_flip`) -/
theorem RunOf.cell {K K' : RunCfg} {V : CrossCheck.Variant} {CP : CrossCheck.Params} {x : MC.Input}
    {agg agg' : AggStep} {R R' : Nat → Nat → List Val} {out : Nat → Nat → CrossCheck.PixOut}
    (h : RunOf K K' V CP x agg agg' R R' out) (r c : Nat) (hr : r < x.L.rows) (hc : c < x.L.cols) :
    ccStage (cfgOf K x) agg (pipeFlags (cfgOf K x)) K.doRefine K.doMedian
        (rightDisp (cfgOf K' (swapInput x)) agg' (pipeFlags (cfgOf K' (swapInput x))) K'.doRefine K'.doMedian) V CP
        (toImg x.L.rows x.L.cols (mcScene x)) ((r : Int), (c : Int)) = some (out r c) :=
  (congrFun (fullRunR_is_ccStage h) _).symm.trans (toImg_some _ _ out r c hr hc)

/-- **Crop run = whole run for a run with aggregation**, from the cones `Rc`, `Rc'` of the two cost stages
    (`ccStage_local_of_cost`): `R`, `R'` (`Rx`, `Rx'`) are the cost rows the cost stages `[matching cost; agg]`,
    `[matching cost; agg']` compute for the pair and the swapped pair (for the crop and its swapped pair). -/
theorem runR_crop_eq_whole (K K' : RunCfg) (V : CrossCheck.Variant) (CP : CrossCheck.Params) (x x' : MC.Input)
    (r0 c0 : Nat) (hc : CropRun x x' r0 c0) {agg agg' : AggStep} {Rc Rc' : Cone}
    (hC : Local Rc (costStage (cfgOf K x) agg)) (hAe : Equivariant agg)
    (hC' : Local Rc' (costStage (cfgOf K' (swapInput x)) agg')) (hAe' : Equivariant agg')
    {R R' Rx Rx' : Nat → Nat → List Val} {out out' : Nat → Nat → CrossCheck.PixOut}
    (h : RunOf K K' V CP x agg agg' R R' out) (h' : RunOf K K' V CP x' agg agg' Rx Rx' out')
    (r c : Nat) (hr : r < x'.L.rows) (hcl : c < x'.L.cols)
    (hcone : ∀ q, inCone (pipeConeOf (cfgOf K x) Rc (mcCone (cfgOf K x).mc (cfgOf K x).gmin (cfgOf K x).gmax)
        (filterConeOf (cfgOf K' (swapInput x)) Rc'
          (mcCone (cfgOf K' (swapInput x)).mc (cfgOf K' (swapInput x)).gmin (cfgOf K' (swapInput x)).gmax) K'.doMedian)
        K.doMedian CP) ((r : Int) + r0, (c : Int) + c0) q →
      InRect r0 c0 x'.L.rows x'.L.cols q ∨ ¬ InImage x.L.rows x.L.cols q) :
    out' r c = out (r + r0) (c + c0) := by
  have hf := hc.fit
  have e := h'.cell r c hr hcl
  rw [cfgOf_congr K hc.params hc.gmin hc.gmax, cfgOf_congr K' (paramsOf_swap_congr hc.params) hc.gminR hc.gmaxR,
    toImg_congr _ _ (mcScene x') (cropArr r0 c0 (mcScene x)) hc.scene,
    pipeline_crop_eq_whole_of_cost (cfgOf K x) hC hAe (pipeFlags_local _ (cfgOf_samplesOK K x h.ok.mc))
      (pipeFlags_equivariant _) K.doRefine K.doMedian
      (rightDisp_local_of_cost (cfgOf K' (swapInput x)) hC' (pipeFlags_local _ (cfgOf_samplesOK K' _ h.ok.mcR))
        K'.doRefine K'.doMedian)
      (rightDisp_equivariant (cfgOf K' (swapInput x)) hAe' (pipeFlags_equivariant _) K'.doRefine K'.doMedian) V CP
      x.L.rows x.L.cols r0 c0 x'.L.rows x'.L.cols (mcScene x) hc.fit ((r : Int), (c : Int)) hcone,
    ← Int.natCast_add, ← Int.natCast_add, h.cell (r + r0) (c + c0) (by omega) (by omega)] at e
  exact (Option.some.inj e).symm

/-- **Crop run = whole run, for the arrays of the models** (the instance `noAgg` of `runR_crop_eq_whole`).
    Hypotheses: `RunOK` for both runs (C02's well-formedness, block splits, odd median that fits); both runs return
    (no refinement raised); `LeftInInterval` for both left maps (C07's hypothesis: valid disparities round into the
    interval cross-checking searches). -/
theorem run_crop_eq_whole (K K' : RunCfg) (V : CrossCheck.Variant) (CP : CrossCheck.Params) (x x' : MC.Input)
    (r0 c0 : Nat) (hc : CropRun x x' r0 c0) (ok : RunOK K K' x) (ok' : RunOK K K' x')
    (out out' : Nat → Nat → CrossCheck.PixOut)
    (hout : fullRun K K' V CP x = some out) (hout' : fullRun K K' V CP x' = some out')
    (hin : ∀ A, afterFilter K x = some A → LeftInInterval CP x.L.rows x.L.cols A)
    (hin' : ∀ A, afterFilter K x' = some A → LeftInInterval CP x'.L.rows x'.L.cols A)
    (r c : Nat) (hr : r < x'.L.rows) (hcl : c < x'.L.cols)
    (hcone : ∀ q, inCone (runCone K K' CP x) ((r : Int) + r0, (c : Int) + c0) q →
      InRect r0 c0 x'.L.rows x'.L.cols q ∨ ¬ InImage x.L.rows x.L.cols q) :
    out' r c = out (r + r0) (c + c0) :=
  runR_crop_eq_whole K K' V CP x x' r0 c0 hc (costStage_noAgg_local_run K x ok.mc) noAgg_equivariant
    (costStage_noAgg_local_run K' (swapInput x) ok.mcR) noAgg_equivariant
    ⟨ok, costStage_run K x ok.mc, costStage_run K' (swapInput x) ok.mcR, hout, hin⟩
    ⟨ok', costStage_run K x' ok'.mc, costStage_run K' (swapInput x') ok'.mcR, hout', hin'⟩ r c hr hcl hcone

/-- … and for the left (disparity, flag) maps of a run without cross-checking -/
theorem leftRun_crop_eq_whole (K : RunCfg) (x x' : MC.Input) (r0 c0 : Nat) (hc : CropRun x x' r0 c0)
    (hx : McOK x) (hx' : McOK x') (h0 : K.sW.beginY = 0 ∧ K.sW.beginX = 0)
    (hmed : K.doMedian = true → MedianOK K x) (hmed' : K.doMedian = true → MedianOK K x')
    (m m' : Maps) (hm : afterFilter K x = some m) (hm' : afterFilter K x' = some m')
    (r c : Nat) (hr : r < x'.L.rows) (hcl : c < x'.L.cols)
    (hcone : ∀ q, inCone (filterCone (cfgOf K x) Cone.zero (mcCone (cfgOf K x).mc (cfgOf K x).gmin (cfgOf K x).gmax)
        K.doMedian) ((r : Int) + r0, (c : Int) + c0) q →
      InRect r0 c0 x'.L.rows x'.L.cols q ∨ ¬ InImage x.L.rows x.L.cols q) :
    m'.disp r c = m.disp (r + r0) (c + c0) ∧ m'.flag r c = m.flag (r + r0) (c + c0) := by
  have h1 := (afterFilterR_is_filterStage K x' hx' (costStage_run K x' hx') h0 hmed' m' hm').symm
  rw [cfgOf_congr K hc.params hc.gmin hc.gmax] at h1
  have h5 := crop_arr_eq_whole
    (filter_crop_eq_whole_of_cost (cfgOf K x) (costStage_noAgg_local_run K x hx) noAgg_equivariant
      (pipeFlags_local _ (cfgOf_samplesOK K x hx)) (pipeFlags_equivariant _) K.doRefine K.doMedian)
    (afterFilterR_is_filterStage K x hx (costStage_run K x hx) h0 hmed m hm).symm h1 hc.scene hc.fit r c hr hcl hcone
  exact ⟨congrArg Prod.fst h5, congrArg Prod.snd h5⟩

/-- the cone of a run without aggregation lies in `docCone`: same window and filter size on both sides, the right
    chain filtered only if the left one is, mirrored interval on the right.  Both chains have the cone of their
    matching cost widened by the median radius (`filterCone_noAgg`), a `wide` cone, and `docCone` is the join of the left
    one with its mirror image plus the cone of cross-checking. -/
theorem runCone_le_docCone (K K' : RunCfg) (CP : CrossCheck.Params) (x : MC.Input)
    (hm : K'.doMedian = true → K.doMedian = true)
    (hw : MC.half (swapInput x).w = MC.half x.w) (hfs : K'.fs = K.fs)
    (hmin : gminOf (swapInput x) = -gmaxOf x) (hmax : gmaxOf (swapInput x) = -gminOf x) :
    Cone.le (runCone K K' CP x) (docCone K CP x) := by
  have hm' : (if K'.doMedian = true then K.fs / 2 else 0) ≤ (if K.doMedian = true then K.fs / 2 else 0) := by
    cases hK' : K'.doMedian with
    | false => exact Nat.zero_le _
    | true => rw [hm hK']
  unfold runCone pipeCone
  rw [filterCone_noAgg, filterCone_noAgg, mcCone_add_square, mcCone_add_square]
  refine Cone.sup_mirror_add_le (Cone.le_refl _) ?_ _
  -- the right chain: mirrored interval, same window, a median radius that is not larger
  show Cone.le (Cone.wide (MC.half (swapInput x).w + (if K'.doMedian = true then K'.fs / 2 else 0))
    (-gminOf (swapInput x)).toNat (gmaxOf (swapInput x)).toNat) _
  rw [hw, hfs, hmin, hmax, Int.neg_neg]
  exact Cone.wide_mono (Nat.add_le_add_left hm' _) (Nat.le_refl _) (Nat.le_refl _)

/-- **The cone of the run (left chain with the median filter) is the documented one**: rows within
    `w/2 + filter_size/2`; columns within that, extended by the disparity interval once for the pipeline and once
    more for cross-checking (no border offset). -/
theorem runCone_documented (K K' : RunCfg) (CP : CrossCheck.Params) (x : MC.Input) (hoff : CP.offset = 0)
    (hK : K.doMedian = true)
    (hw : MC.half (swapInput x).w = MC.half x.w) (hfs : K'.fs = K.fs)
    (hmin : gminOf (swapInput x) = -gmaxOf x) (hmax : gmaxOf (swapInput x) = -gminOf x) :
    Cone.le (runCone K K' CP x)
      ⟨MC.half x.w + K.fs / 2, MC.half x.w + K.fs / 2,
       MC.half x.w + K.fs / 2 + max (-gminOf x).toNat (gmaxOf x).toNat + (-CP.dmin).toNat,
       MC.half x.w + K.fs / 2 + max (-gminOf x).toNat (gmaxOf x).toNat + CP.dmax.toNat⟩ := by
  simpa only [docCone, hK, hoff, if_true, Nat.add_zero, Nat.zero_max] using
    runCone_le_docCone K K' CP x (fun _ => hK) hw hfs hmin hmax

theorem fullRunR_isSome {K K' : RunCfg} {V : CrossCheck.Variant} {CP : CrossCheck.Params} {x : MC.Input}
    {R R' : Nat → Nat → List Val} (hA : (afterFilterR K x R).isSome = true)
    (hB : (afterFilterR K' (swapInput x) R').isSome = true) : (fullRunR K K' V CP x R R').isSome = true := by
  obtain ⟨A, hA⟩ := Option.isSome_iff_exists.1 hA
  obtain ⟨B, hB⟩ := Option.isSome_iff_exists.1 hB
  rw [fullRunR_eq_some_iff.2 ⟨A, B, hA, hB, rfl⟩]
  rfl

theorem all_of_any {α : Type} {o : Option α} {p : α → Bool} (h : o.any p = true) : o.all p = true := by
  cases o with
  | none => cases h
  | some a => exact h

/-! ### Non-vacuity: a 3 × 9 pair (sad, window 3, interval [-1, 0], vfit, median 3, the block splits read from the
    source) and its 3 × 8 crop starting at column 1 satisfy every hypothesis of `run_crop_eq_whole`; pixel (1, 4) of
    the crop — (1, 5) of the whole — has its clipped cone (4 columns to the left, 3 to the right) inside the crop -/

namespace RunExample

def exL : MC.Img := { rows := 3, cols := 9, px := fun r c => ((r * c + 2 * c : Int) : Rat) }
def exR : MC.Img := { rows := 3, cols := 9, px := fun r c => ((r * c + 2 * c + r - 2 : Int) : Rat) }
def noMask : MC.Mask := { present := false, code := fun _ _ => 0, valid := 0, nodata := 1 }

def exWhole : MC.Input where
  meas := .sad
  w := 3
  sp := 1
  L := exL
  R := exR
  mL := noMask
  mR := noMask
  dminG := fun _ _ => -1
  dmaxG := fun _ _ => 0

def exCrop : MC.Input :=
  { exWhole with
    L := { rows := 3, cols := 8, px := fun r c => exL.px r (c + 1) }
    R := { rows := 3, cols := 8, px := fun r c => exR.px r (c + 1) } }

def numOnly : MC.Cell → Val
  | .num q => .num q
  | _ => .nan

def exK : RunCfg where
  ev := numOnly
  isMax := false
  disps := [-1, 0]
  invalid := .nan
  refine := { method := .vfit, isMax := false, subpix := 1, dmin := -1, dmax := 0 }
  invalidMask := Flags.pixelInvalid
  fs := 3
  doRefine := true
  doMedian := true
  sW := Generated.Blocks.wtaArgmin
  sM := Generated.Blocks.median 3

/-- the right chain: the mirrored interval `[0, 1]` -/
def exK' : RunCfg :=
  { exK with disps := [0, 1],
             refine := { method := .vfit, isMax := false, subpix := 1, dmin := 0, dmax := 1 } }

def exCP : CrossCheck.Params := { threshold := 1, dmin := -1, dmax := 0, offset := 0 }

theorem exCropRun : CropRun exWhole exCrop 0 1 := by
  refine ⟨rfl, ?_, by decide, by decide +kernel, by decide +kernel, by decide +kernel, by decide +kernel⟩
  intro r c _ _
  simp only [mcScene, exCrop, exWhole, exL, exR, noMask, Nat.add_zero]
  push_cast
  rfl

theorem exOK (x : MC.Input) (hm : x.meas = .sad) (hwf : wfShape x = true) (hwfR : wfShape (swapInput x) = true)
    (hrows : 3 ≤ x.L.rows ∧ 3 ≤ x.L.cols) (hrowsR : 3 ≤ x.R.rows ∧ 3 ≤ x.R.cols) : RunOK exK exK' x :=
  { mc := ⟨hwf, by intro h; rw [hm] at h; cases h⟩
    mcR := ⟨hwfR, by intro h; have : x.meas = .zncc := h; rw [hm] at this; cases this⟩
    wta := ⟨rfl, rfl⟩
    wtaR := ⟨rfl, rfl⟩
    med := fun _ => ⟨rfl, rfl, by decide, hrows.1, hrows.2⟩
    medR := fun _ => ⟨rfl, rfl, by decide, hrowsR.1, hrowsR.2⟩ }


theorem exWholeOK : RunOK exK exK' exWhole :=
  exOK exWhole rfl (by decide) (by decide) ⟨by decide, by decide⟩ ⟨by decide, by decide⟩

theorem exCropOK : RunOK exK exK' exCrop :=
  exOK exCrop rfl (by decide) (by decide) ⟨by decide, by decide⟩ ⟨by decide, by decide⟩

theorem exCone : runCone exK exK' exCP exWhole = ⟨2, 2, 4, 3⟩ := by decide +kernel

/-- the left chain of both inputs returns, with maps whose valid disparities round into the interval of `exCP` -/
theorem exLeft : (afterFilter exK exWhole).any (leftInIntervalB exCP 3 9) = true
    ∧ (afterFilter exK exCrop).any (leftInIntervalB exCP 3 8) = true := by
  constructor <;> decide +kernel

theorem exRight : (afterFilter exK' (swapInput exWhole)).isSome = true
    ∧ (afterFilter exK' (swapInput exCrop)).isSome = true := by
  constructor <;> decide +kernel

example : (fullRun exK exK' .asIs exCP exWhole).isSome = true ∧ (fullRun exK exK' .asIs exCP exCrop).isSome = true :=
  ⟨fullRunR_isSome (Option.isSome_of_any exLeft.1) exRight.1, fullRunR_isSome (Option.isSome_of_any exLeft.2) exRight.2⟩

theorem exIn : (afterFilter exK exWhole).all (leftInIntervalB exCP 3 9) = true
    ∧ (afterFilter exK exCrop).all (leftInIntervalB exCP 3 8) = true :=
  ⟨all_of_any exLeft.1, all_of_any exLeft.2⟩

/-- every hypothesis of `run_crop_eq_whole` holds of the pair and its crop, at crop pixel (1, 4) -/
example (out out' : Nat → Nat → CrossCheck.PixOut)
    (hout : fullRun exK exK' .asIs exCP exWhole = some out) (hout' : fullRun exK exK' .asIs exCP exCrop = some out') :
    out' 1 4 = out (1 + 0) (4 + 1) :=
  run_crop_eq_whole exK exK' .asIs exCP exWhole exCrop 0 1 exCropRun
    exWholeOK exCropOK
    out out' hout hout'
    (leftInInterval_of_all exIn.1) (leftInInterval_of_all exIn.2)
    1 4 (by decide) (by decide)
    (by
      intro q hq
      rw [exCone] at hq
      unfold inCone at hq
      unfold InRect InImage
      simp only [exCrop, exWhole, exL] at *
      omega)

end RunExample

end Pandora.C13
