/-
  C04 — the GENERATED pieces of `pandora/criteria.py` (`Generated/KernelsCriteria.lean`) composed the way the source
  composes them, and proved equal to the hand model as a whole: the loop of `allocate_right_mask` as a fold of the
  generated body over the generated bounds (`genRightLoop`), `validity_mask` (`genStage1`), then the two calls of
  `cv_masked` (`genFinalMask`); the specification of the property therefore holds of the generated composition.
  In the source the two `== len(range(…))` tests and `+= 128` / `+= 2` sit INSIDE the loop (that is how the translator
  reads the indentation: they are part of `rightIterPx`), so the fold runs them at every iteration.

  What the composition takes from the hand model: scipy's dilation (`dilated`), the two `if "msk" in …` guards of
  `validity_mask` and the `if offset > 0` guard of `cv_masked` (written here as in `stage1` / `maskBorder`), the classes of
  the mask codes (`Codes`, `Agree`), and numpy's index rule for the gathered column (`Int.toNat`: the cell is only read
  under `valid_index`, where the column is not negative).  Counters are unbounded integers: numpy's default int64 agrees with
  that below 2^63 iterations (the allocation `np.full(shape, 0)` is pinned by the translator, a narrow dtype is refused).
-/
import PandoraModel.Properties.C04Kernels
import PandoraModel.Properties.C04

namespace Pandora.C04Kernels
open Pandora.Criteria Pandora.Flags Pandora.C04
open Pandora.Generated.KernelsCriteria

/-- the two input masks as the code sees them: integer codes and the two special values of each image -/
structure Codes where
  codeL : Nat → Nat → Int
  ndL : Int
  vL : Int
  codeR : Nat → Nat → Int
  ndR : Int
  vR : Int

def Agree (I : Input) (K : Codes) : Prop :=
  (∀ r c, I.mL r c = clsOfCode (K.codeL r c) K.ndL K.vL) ∧ (∀ r c, I.mR r c = clsOfCode (K.codeR r c) K.ndR K.vR)

/-- `range(lo, hi)` -/
def pyRange (lo hi : Int) : List Int := (List.range (hi - lo).toNat).map fun (i : Nat) => lo + (i : Int)

/-- the column the generated body gathers the right cells from (its 4th component; it does not depend on the state) -/
def gatherCol (I : Input) (c : Nat) (dsp : Int) : Int :=
  (rightIterPx (c : Int) 0 ((I.cols : Int) - 1) dsp (I.off : Int) I.dmin I.dmax false 0 false 0 0 0).2.2.2

/-- one iteration: read `r_mask` / `dil` at the gathered column, run the generated body -/
def genStep (I : Input) (K : Codes) (r c : Nat) (bit1 : Bool) (s : Int × Int × Int) (dsp : Int) : Int × Int × Int :=
  let g := (gatherCol I c dsp).toNat
  let o := rightIterPx (c : Int) 0 ((I.cols : Int) - 1) dsp (I.off : Int) I.dmin I.dmax bit1
    (rightMaskCell (K.codeR r g) K.ndR K.vR) (dilated I.rows I.cols I.off I.mR r g) s.1 s.2.1 s.2.2
  (o.1, o.2.1, o.2.2.1)

def genRightLoop (I : Input) (K : Codes) (r c : Nat) (bit1 : Bool) (f : Int) : Int :=
  ((pyRange (rightLoopBounds I.dmin I.dmax).1 (rightLoopBounds I.dmin I.dmax).2).foldl (genStep I K r c bit1) (0, 0, f)).2.2

theorem pyRange_bounds (a b : Int) : pyRange (rightLoopBounds a b).1 (rightLoopBounds a b).2 = dispList a b := by
  unfold rightLoopBounds pyRange dispList
  congr 3
  omega

theorem gatherCol_eq (I : Input) (c : Nat) (dsp : Int) : gatherCol I c dsp = (c : Int) + dsp := rfl

theorem rightMaskCell_eq (m nd v : Int) :
    rightMaskCell m nd v = if (clsOfCode m nd v == Cls.invalid) = true then 1 else 0 := by
  have h := rightMaskedPred_eq m nd v
  unfold rightMaskedPred at h
  unfold rightMaskCell
  dsimp only []
  rw [h]

def castState (s : RState) : Int × Int × Int := ((s.b27 : Int), (s.ndr : Int), (s.flag : Int))

theorem genStep_eq (I : Input) (K : Codes) (r c : Nat) (hR : ∀ r x, I.mR r x = clsOfCode (K.codeR r x) K.ndR K.vR)
    (st : RState) (dsp : Int) :
    genStep I K r c (vmBit1 I c) (castState st) dsp
      = castState (rightIter I r c (dispList I.dmin I.dmax).length st dsp) := by
  have h := rightIterPx_eq I r c st dsp
  unfold genStep castState
  dsimp only []
  rw [gatherCol_eq, rightMaskCell_eq, ← hR]
  have e1 : (I.mR r ((c : Int) + dsp).toNat == Cls.invalid) = rInvAt I r ((c : Int) + dsp) := rfl
  have e2 : dilated I.rows I.cols I.off I.mR r ((c : Int) + dsp).toNat = rDilAt I r ((c : Int) + dsp) := rfl
  rw [e1, e2, h]

/-- **the generated loop of `allocate_right_mask` is the model's**, for every interval (an empty one included), pixel,
    flag word and right mask: range bounds, counters from 0, body with the tests inside, gathered cells -/
theorem genRightLoop_eq (I : Input) (K : Codes) (r c f : Nat)
    (hR : ∀ r x, I.mR r x = clsOfCode (K.codeR r x) K.ndR K.vR) :
    genRightLoop I K r c (vmBit1 I c) (f : Int) = (allocRight I f r c : Int) := by
  unfold genRightLoop allocRight
  rw [pyRange_bounds]
  exact congrArg (·.2.2) (List.foldl_hom castState (g₁ := rightIter I r c _) (init := ⟨0, 0, f⟩)
    fun st d => genStep_eq I K r c hR st d)

/-- although the `== len(range(…))` tests run at every iteration, each constant is added at most once, and exactly
    when the documented cause holds: a counter is at most the number of iterations done (`stateAfter`, Lemmas/C04Criteria) -/
theorem genRightLoop_closed (I : Input) (K : Codes) (r c f : Nat) (hd : I.dmin ≤ I.dmax)
    (hR : ∀ r x, I.mR r x = clsOfCode (K.codeR r x) K.ndR K.vR) :
    genRightLoop I K r c (vmBit1 I c) (f : Int)
      = (f : Int) + (if right7 I r c then 128 else 0) + (if rightN I r c then 2 else 0) := by
  rw [genRightLoop_eq I K r c f hR, allocRight_eq I f r c hd]
  unfold inValidityMaskRight rightNodataOrRangeMissing
  cases right7 I r c <;> cases rightN I r c <;> simp

/-- the mask `validity_mask` returns, composed from the generated pieces -/
def genStage1 (I : Input) (K : Codes) (r c : Nat) : Int :=
  let vm := validityMaskCol (I.colAt c) (I.colAt 0) I.colLast I.dmin I.dmax (I.off : Int)
  let f := vm.1
  let f := if I.hasL then allocLeftPx f (dilated I.rows I.cols I.off I.mL r c) (K.codeL r c) K.ndL K.vL else f
  if I.hasR then genRightLoop I K r c vm.2 f else f

theorem genStage1_eq (I : Input) (K : Codes) (h : Agree I K) (r c : Nat) :
    genStage1 I K r c = (stage1 I r c : Int) := by
  unfold genStage1 stage1
  dsimp only []
  rw [validityMaskCol_eq]
  dsimp only []
  cases hL : I.hasL <;> cases hRr : I.hasR <;> simp only [if_true, if_false, Bool.false_eq_true]
  · exact genRightLoop_eq I K r c _ h.2
  · exact allocLeftPx_eq I _ r c _ _ _ (h.1 r c)
  · rw [allocLeftPx_eq I _ r c _ _ _ (h.1 r c)]
    exact genRightLoop_eq I K r c _ h.2

/-- the mask after `cv_masked`: `mask_invalid_variable_disparity_range` on the all-NaN pixels, `mask_border` if offset > 0 -/
def genFinalMask (I : Input) (K : Codes) (allNan : Nat → Nat → Bool) (r c : Nat) : Int :=
  let f := genStage1 I K r c
  let f := if allNan r c then maskInvalidPx f else f
  if 0 < I.off then maskBorderPx (r : Int) (c : Int) (I.rows : Int) (I.cols : Int) (I.off : Int) f else f

/-- **the generated composition is the model's mask**, for every pixel of the image -/
theorem genFinalMask_eq (I : Input) (K : Codes) (h : Agree I K) (allNan : Nat → Nat → Bool) (r c : Nat)
    (hr : r < I.rows) (hc : c < I.cols) :
    genFinalMask I K allNan r c = (finalMask I allNan r c : Int) := by
  unfold genFinalMask finalMask
  dsimp only []
  rw [genStage1_eq I K h]
  have h1 : (if allNan r c = true then maskInvalidPx (stage1 I r c : Int) else (stage1 I r c : Int))
      = (maskInvalidVar (allNan r c) (stage1 I r c) : Int) := by
    cases allNan r c
    · simp [maskInvalidVar]
    · simp only [if_true]; exact maskInvalidPx_eq _
  rw [h1]
  by_cases ho : 0 < I.off
  · rw [if_pos ho]; exact maskBorderPx_eq I _ r c ho hr hc
  · rw [if_neg ho]; unfold maskBorder; rw [if_neg ho]

/-- **the specification of the property holds of the generated composition**: no clause of `failingClauses` fails
    (bits 0, 1, 2, 6, 7 ⇔ their causes as set statements over the interval, border pixels = 1, an invalidating bit ⇔
    every cost NaN, no undocumented bit) -/
theorem genFinalMask_spec (J : CvInput) (K : Codes) (h : Agree J.toInput K) (invalid : Val) (r c : Nat)
    (hd : J.dmin ≤ J.dmax) (hr : r < J.rows) (hc : c < J.cols) :
    ∃ f : Nat, genFinalMask J.toInput K (allNanOf J) r c = (f : Int)
      ∧ failingClauses J invalid r c f (allNanOf J r c) none = [] :=
  ⟨modelMask J r c, genFinalMask_eq J.toInput K h (allNanOf J) r c hr hc, criteria_spec J invalid r c hd hr hc⟩

/-- … spelled out for an interior pixel: the word the generated composition computes has bit 1 ⇔ no computable cost,
    bit 2 ⇔ part of the interval inside and part outside, bit 7 ⇔ every in-image candidate masked, bit 0 / 6 ⇔ left
    nodata in the window / left centre masked -/
theorem genFinalMask_interior (J : CvInput) (K : Codes) (h : Agree J.toInput K) (r c : Nat)
    (hd : J.dmin ≤ J.dmax) (hi : Interior J.toInput r c) (hr : r < J.rows) (hc : c < J.cols) :
    ∃ f : Nat, genFinalMask J.toInput K (allNanOf J) r c = (f : Int)
      ∧ hasBit f leftNodataOrBorder = specBit0 J.toInput r c
      ∧ hasBit f inValidityMaskLeft = specBit6 J.toInput r c
      ∧ hasBit f rightNodataOrRangeMissing = specBit1 J r c
      ∧ hasBit f rightIncompleteRange = specBit2 J.toInput r c
      ∧ hasBit f inValidityMaskRight = specBit7 J.toInput r c
      ∧ isInvalidPre f = allNanOf J r c := by
  obtain ⟨k0, k6, k1, k2, k7, kinv, _⟩ := criteria_interior J r c hd hi
  exact ⟨modelMask J r c, genFinalMask_eq J.toInput K h (allNanOf J) r c hr hc, k0, k6, k1, k2, k7, kinv⟩

/-! ### non-vacuity: the example of Properties/C04Kernels.lean with codes (0 valid, 1 nodata, anything else invalid) -/

-- the example masks depend on the column only and still bind the row (`fun r c => … c …`)
set_option linter.unusedVariables false

/-- as `exI`, with the right mask invalid on columns 0..2: pixel (1, 3) has its two in-image candidates masked -/
def exI2 : Input := { exI with mR := fun r c => if c ≤ 2 then Cls.invalid else Cls.valid }

def exK : Codes :=
  { codeL := fun r c => if (r, c) = (1, 2) then 9 else 0, ndL := 1, vL := 0,
    codeR := fun r c => if c ≤ 2 then 7 else 0, ndR := 1, vR := 0 }

theorem exAgree : Agree exI2 exK := by
  constructor <;> intro r c <;> simp only [exI2, exI, exK, clsOfCode] <;> split <;> simp_all
example : Agree exI2 exK := exAgree
example : (List.range 7).map (genStage1 exI2 exK 1) = (List.range 7).map (fun c => (stage1 exI2 1 c : Int)) :=
  List.map_congr_left fun c _ => genStage1_eq exI2 exK exAgree 1 c
example : (List.range 7).map (genStage1 exI2 exK 1) = [2, 2, 196, 132, 0, 0, 0] := by decide +kernel
example : (List.range 7).map (genFinalMask exI2 exK (fun r c => decide (c ≤ 3)) 1) = [1, 2, 198, 134, 0, 0, 1] := by decide +kernel

end Pandora.C04Kernels
