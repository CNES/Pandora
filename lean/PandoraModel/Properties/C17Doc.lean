/-
  C17 — `check_input_section` against the documented forms of the `input` section (`InputSpec.inputVerdict`): what the
  documentation accepts is accepted, what it rejects is refused (`checkInputSection_agrees`), with the two hypotheses
  that cannot be dropped and a section on which every hypothesis holds.
-/
import PandoraModel.Properties.C17Whole
import PandoraModel.Properties.C17

namespace Pandora.C17W
open Pandora.Config Pandora.ConfigSpec Pandora.InputSpec Pandora.Generated.Schemas

theorem foldl_and_reject (cs : List (String × Dom)) (a : Dom) :
    cs.foldl (fun acc c => Dom.and acc c.2) a = .reject ↔ a = .reject ∨ ∃ c ∈ cs, c.2 = .reject := by
  induction cs generalizing a with
  | nil => simp
  | cons c rest ih =>
    simp only [List.foldl_cons, ih, List.mem_cons, exists_eq_or_imp, Dom.and_eq_reject, or_assoc]

theorem foldl_and_accept (cs : List (String × Dom)) (a : Dom) :
    cs.foldl (fun acc c => Dom.and acc c.2) a = .accept ↔ a = .accept ∧ ∀ c ∈ cs, c.2 = .accept := by
  induction cs generalizing a with
  | nil => simp
  | cons c rest ih =>
    simp only [List.foldl_cons, ih, List.mem_cons, forall_eq_or_imp, Dom.and_eq_accept, and_assoc]

theorem sideClauses_eq (files : Files) (side : String) (S : Dict) (lg : Bool) :
    sideClauses files side S lg =
      [ (side ++ ".keys", ofBool (S.all (fun kv => sideKeys.contains kv.1))),
        (side ++ ".img", ofBool (imU files S).isSome),
        (side ++ ".nodata", nodataVerdict (getU S "nodata")),
        (side ++ ".mask", auxVerdict files (imU files S) (getU S "mask")),
        (side ++ ".classif", auxVerdict files (imU files S) (getU S "classif")),
        (side ++ ".segm", auxVerdict files (imU files S) (getU S "segm")),
        (side ++ ".disp", if side == "left" then leftDispVerdict files (imU files S) (getU S "disp")
                          else rightDispVerdict files (imU files S) lg (getU S "disp")) ] := rfl

theorem imU_eq_imgOf (files : Files) (S : Dict) : imU files S = imgOf files S := by
  unfold imU imgOf
  cases Dict.lookup S "img" with
  | none => rfl
  | some v => cases v <;> rfl

def leftIsGridU (L : Dict) : Bool := match Dict.lookup L "disp" with | some (.str _) => true | _ => false

theorem inputClauses_sides (files : Files) (kvs L R : Dict)
    (hL : Dict.lookup kvs "left" = some (.obj L)) (hR : Dict.lookup kvs "right" = some (.obj R)) :
    inputClauses files (some (.obj kvs)) =
      [("sections", ofBool (kvs.all (fun kv => kv.1 == "left" || kv.1 == "right")))] ++
      sideClauses files "left" L (leftIsGridU L) ++ sideClauses files "right" R (leftIsGridU L) ++
      [("same_size", match imU files L, imU files R with
                     | some a, some b => ofBool (a.width == b.width && a.height == b.height)
                     | _, _ => .reject)] := by
  simp only [inputClauses, hL, hR, leftIsGridU, imU]
  rfl

theorem verdict_needs_sides (files : Files) (kvs : Dict)
    (h : inputVerdict files (some (.obj kvs)) ≠ .reject) :
    ∃ L R, Dict.lookup kvs "left" = some (.obj L) ∧ Dict.lookup kvs "right" = some (.obj R) := by
  simp only [inputVerdict, inputClauses] at h
  split at h
  · next L R hl hr => exact ⟨L, R, hl, hr⟩
  · exact absurd rfl h

theorem ofBool_accept (b : Bool) : ofBool b = .accept ↔ b = true := by cases b <;> simp [ofBool]
theorem ofBool_not_reject (b : Bool) : ofBool b ≠ .reject ↔ b = true := by cases b <;> simp [ofBool]

theorem nodataVerdict_accept (v : JVal) : nodataVerdict (some v) = .accept ↔ nodataOk v = true := by
  cases v with
  | float f => cases f <;> simp [nodataVerdict, nodataOk]
  | _ => simp [nodataVerdict, nodataOk]

theorem auxVerdict_some (files : Files) (im : FileInfo) (v : JVal) :
    auxVerdict files (some im) (some v) = ofBool (auxOk files im (some v)) := by
  cases v with
  | str p =>
    simp only [auxVerdict, auxOk]
    cases hf : files p with
    | none => simp [ofBool]
    | some a => simp
  | _ => simp [auxVerdict, auxOk, ofBool]

theorem verdict_obj_reject (files : Files) (im : Option FileInfo) (lg : Bool) (s : Dict) :
    nodataVerdict (some (.obj s)) = .reject ∧ auxVerdict files im (some (.obj s)) = .reject ∧
    leftDispVerdict files im (some (.obj s)) = .reject ∧ rightDispVerdict files im lg (some (.obj s)) = .reject := by
  simp [nodataVerdict, auxVerdict, leftDispVerdict, rightDispVerdict]

/-- `≠ .reject`, not `= .accept`: two elements in order of which one is a bool are `undecided` in the
    documentation, and `rangeOk` takes them -/
theorem leftDisp_list (files : Files) (im : Option FileInfo) (items : List JVal) :
    leftDispVerdict files im (some (.list items)) ≠ .reject ↔ rangeOk (.list items) = true := by
  unfold leftDispVerdict
  split
  · next a b h =>
    cases h
    simp [rangeOk, intOf?, ofBool_not_reject]
  · next a b _ h =>
    cases h
    simp only [rangeOk]
    cases intOf? a <;> cases intOf? b <;> simp
  · next h => cases h
  · next h1 h2 h3 =>
    refine iff_of_false (fun h => h rfl) ?_
    unfold rangeOk
    split
    · next a b h => cases h; exact absurd rfl (h2 a b)
    · simp

/-- no file is called `NaN`, `inf` or `-inf` (`update_conf` turns these three strings into floats
    wherever they occur, image paths included) -/
def MagicFree (files : Files) : Prop := files "NaN" = none ∧ files "inf" = none ∧ files "-inf" = none

theorem rewriteLeaf_str_file {files : Files} (hm : MagicFree files) {p : String} {im : FileInfo}
    (hf : files p = some im) : rewriteLeaf (.str p) = .str p := by
  have hne : ∀ x : String, files x = none → JVal.str p ≠ JVal.str x := by
    rintro x hx e
    rw [JVal.str.inj e, hx] at hf
    cases hf
  exact Merge.rewriteLeaf_of_ne (hne _ hm.1) (hne _ hm.2.1) (hne _ hm.2.2)

/-! Both directions of the comparison with the documentation compare a user side `S` without
  dictionaries with its completion `S'`: key by key `S'` holds what the specification reads of `S`, or
  else the default. -/

theorem completed_lookup {d S S' : Dict} (hc : Completed d S S') (hleaf : ∀ kv ∈ S, kv.2.isObj = false)
    (k : String) :
    Dict.lookup S' k = match getU S k with | some v => some v | none => Dict.lookup d k := by
  unfold getU
  cases hl : Dict.lookup S k with
  | none => exact hc.2.1 k hl
  | some u => exact hc.2.2 k u hl (hleaf (k, u) (Merge.mem_of_lookup S k u hl))

/-- what the documentation asks of one side whose image is `im`, image and disparity apart -/
def SideDoc (files : Files) (S : Dict) (im : FileInfo) : Prop :=
  S.all (fun kv => sideKeys.contains kv.1) = true ∧ nodataVerdict (getU S "nodata") = .accept ∧
  auxVerdict files (some im) (getU S "mask") = .accept ∧ auxVerdict files (some im) (getU S "classif") = .accept ∧
  auxVerdict files (some im) (getU S "segm") = .accept

theorem sideBase_iff {files : Files} {d S S' : Dict} (hd : DefaultSide d) (hc : Completed d S S')
    (hleaf : ∀ kv ∈ S, kv.2.isObj = false) (im : FileInfo) :
    SideDoc files S im ↔ sideBaseOk files S' im = true := by
  -- an absent key stands for its default, `None` for the auxiliary images, −9999 for `nodata`
  have aux : ∀ k, Dict.lookup d k = some .null →
      (auxVerdict files (some im) (getU S k) = .accept ↔ auxOk files im (Dict.lookup S' k) = true) := by
    intro k hk
    rw [completed_lookup hc hleaf k]
    cases getU S k with
    | none => rw [hk]; exact iff_of_true rfl rfl
    | some v => rw [auxVerdict_some, ofBool_accept]
  have nod : nodataVerdict (getU S "nodata") = .accept ↔
      (match Dict.lookup S' "nodata" with | some v => nodataOk v | none => false) = true := by
    rw [completed_lookup hc hleaf "nodata"]
    cases getU S "nodata" with
    | none => rw [hd.nodata]; exact iff_of_true rfl rfl
    | some v => exact nodataVerdict_accept v
  rw [sideBaseOk_iff]
  exact and_congr (all_keys_completed hc _ hd.keys).symm
    (and_congr nod (and_congr (aux _ hd.mask) (and_congr (aux _ hd.classif) (aux _ hd.segm))))

/-- `update_conf` leaves an image path alone only when no file bears a magic name: hence `MagicFree` from the
    user's side to the completed one -/
theorem img_completed {files : Files} {d S S' : Dict} (hd : DefaultSide d) (hc : Completed d S S')
    (hleaf : ∀ kv ∈ S, kv.2.isObj = false) (im : FileInfo) :
    (imgOf files S' = some im → imgOf files S = some im) ∧
    (MagicFree files → imgOf files S = some im → imgOf files S' = some im) := by
  have hl' := completed_lookup hc hleaf "img"
  rw [imgOf_some, imgOf_some]
  unfold getU at hl'
  cases hl : Dict.lookup S "img" with
  | none => rw [hl, hd.img] at hl'; simp [hl']
  | some u =>
    rw [hl] at hl'
    constructor
    · rintro ⟨p, hp, hf⟩
      rw [hl'] at hp
      exact ⟨p, congrArg some (Merge.rewriteLeaf_inv (Option.some.inj hp) (by intro f; simp)), hf⟩
    · rintro hm ⟨p, hp, hf⟩
      cases hp
      exact ⟨p, by rw [hl']; exact congrArg some (rewriteLeaf_str_file hm hf), hf⟩

theorem leftIsGridU_getU (L : Dict) :
    (∀ p, getU L "disp" = some (.str p) → leftIsGridU L = true) ∧
    (∀ items, getU L "disp" = some (.list items) → leftIsGridU L = false) := by
  unfold getU leftIsGridU
  cases Dict.lookup L "disp" with
  | none => simp
  | some u =>
    constructor
    · intro p h; rw [Merge.rewriteLeaf_inv (Option.some.inj h) (by intro f; simp)]
    · intro items h; rw [Merge.rewriteLeaf_inv (Option.some.inj h) (by intro f; simp)]

/-- `x`, `y`: what the specification reads of the two sides; an absent disparity stands for the default -/
theorem disps_iff (files : Files) (iml imr : FileInfo) (x y : Option JVal) (lg : Bool) :
    (∀ p, x = some (.str p) → lg = true) → (∀ items, x = some (.list items) → lg = false) →
    ((leftDispVerdict files (some iml) x ≠ .reject ∧ rightDispVerdict files (some imr) lg y ≠ .reject) ↔
      dispsOk files iml imr (match x with | some v => some v | none => Dict.lookup dL "disp")
        (match y with | some v => some v | none => Dict.lookup dR "disp") = true) := by
  intro hstr hlist
  cases x with
  | none => simp [leftDispVerdict, dispsOk, dL, Dict.lookup]
  | some v =>
    cases v with
    | list items =>
      rw [hlist items rfl, leftDisp_list]
      cases y with
      | none => simp [rightDispVerdict, dispsOk, dR, Dict.lookup]
      | some w => cases w <;> simp [rightDispVerdict, dispsOk, ofBool]
    | str p =>
      rw [hstr p rfl]
      cases y with
      | none => simp [leftDispVerdict, rightDispVerdict, dispsOk, dR, Dict.lookup, ofBool_not_reject]
      | some w => cases w <;> simp [leftDispVerdict, rightDispVerdict, dispsOk, ofBool_not_reject]
    | _ => simp [leftDispVerdict, dispsOk]

theorem doc_leaves {files : Files} {S : Dict} {im : FileInfo} (hnd : (Dict.keys S).Nodup)
    (hdoc : SideDoc files S im) (himg : imgOf files S = some im)
    (hdisp : ∀ s, Dict.lookup S "disp" ≠ some (.obj s)) : ∀ kv ∈ S, kv.2.isObj = false := by
  intro kv hkv
  obtain ⟨hkeys, hnod, hmask, hclassif, hsegm⟩ := hdoc
  have hl := Merge.lookup_of_mem S kv.1 kv.2 hnd hkv
  cases hv : kv.2 with
  | obj s =>
    exfalso
    rw [hv] at hl
    have hg : getU S kv.1 = some (.obj s) := by simp [getU, hl, Merge.rewriteLeaf_obj]
    have hr := verdict_obj_reject files (some im) false s
    rcases sideKeys_cases (List.all_eq_true.1 hkeys kv hkv) with e | e | e | e | e | e <;> rw [e] at hg hl
    · simp [imgOf, hl] at himg
    · rw [hg, hr.1] at hnod; cases hnod
    · exact hdisp s hl
    · rw [hg, hr.2.1] at hmask; cases hmask
    · rw [hg, hr.2.1] at hclassif; cases hclassif
    · rw [hg, hr.2.1] at hsegm; cases hsegm
  | _ => rfl

theorem verdict_accept_clauses {files : Files} {kvs L R : Dict}
    (hL : Dict.lookup kvs "left" = some (.obj L)) (hR : Dict.lookup kvs "right" = some (.obj R))
    (h : inputVerdict files (some (.obj kvs)) = .accept) :
    ∃ iml imr, imgOf files L = some iml ∧ imgOf files R = some imr ∧
      kvs.all (fun kv => kv.1 == "left" || kv.1 == "right") = true ∧
      SideDoc files L iml ∧ SideDoc files R imr ∧ (iml.width = imr.width ∧ iml.height = imr.height) ∧
      leftDispVerdict files (some iml) (getU L "disp") = .accept ∧
      rightDispVerdict files (some imr) (leftIsGridU L) (getU R "disp") = .accept := by
  unfold inputVerdict at h
  rw [inputClauses_sides files kvs L R hL hR, foldl_and_accept] at h
  have hall := h.2
  simp only [sideClauses_eq, imU_eq_imgOf, List.cons_append, List.nil_append, List.mem_cons, List.mem_nil_iff,
    or_false, forall_eq_or_imp, forall_eq, ofBool_accept] at hall
  obtain ⟨h0, l1, l2, l3, l4, l5, l6, l7, r1, r2, r3, r4, r5, r6, r7, hs⟩ := hall
  obtain ⟨iml, himl⟩ := Option.isSome_iff_exists.1 l2
  obtain ⟨imr, himr⟩ := Option.isSome_iff_exists.1 r2
  rw [himl] at l4 l5 l6 l7 hs
  rw [himr] at r4 r5 r6 r7 hs
  exact ⟨iml, imr, himl, himr, h0, ⟨l1, l3, l4, l5, l6⟩, ⟨r1, r3, r4, r5, r6⟩, by simpa [ofBool_accept] using hs,
    by simpa using l7, by simpa using r7⟩

/-- **documented ⇒ accepted**: an `input` section the documentation accepts (`inputVerdict = accept`)
    passes `check_input_section`, whatever the merge policy of `update_conf` — provided no file is called
    `NaN` / `inf` / `-inf`. -/
theorem accepted_of_documented (files : Files) (hm : MagicFree files) (fl : MachineFlags) (kvs : Dict)
    (hwf : NodupSection kvs) (h : inputVerdict files (some (.obj kvs)) = .accept) :
    ∃ out, checkInputSection files fl inputSchemas [("input", .obj kvs)] = .ok out := by
  obtain ⟨L, R, hL, hR⟩ := verdict_needs_sides files kvs (by rw [h]; simp)
  obtain ⟨iml, imr, himl, himr, h0, hLdoc, hRdoc, hsize, l7, r7⟩ := verdict_accept_clauses hL hR h
  have hndL := hwf.2 _ _ hL
  have hndR := hwf.2 _ _ hR
  have hlL := doc_leaves hndL hLdoc himl
    (fun s hs => by simp [getU, hs, Merge.rewriteLeaf_obj, leftDispVerdict] at l7)
  have hlR := doc_leaves hndR hRdoc himr
    (fun s hs => by simp [getU, hs, Merge.rewriteLeaf_obj, rightDispVerdict] at r7)
  obtain ⟨L', hLm, -⟩ := Merge.updateConf_leaves fl.strictMerge L dL hlL hndL
  obtain ⟨R', hRm, -⟩ := Merge.updateConf_leaves fl.strictMerge R dR hlR hndR
  have hcL := completed_of_merge _ dL L L' hndL hLm
  have hcR := completed_of_merge _ dR R R' hndR hRm
  have hdisp : dispsOk files iml imr (Dict.lookup L' "disp") (Dict.lookup R' "disp") = true := by
    rw [completed_lookup hcL hlL, completed_lookup hcR hlR]
    exact (disps_iff files iml imr _ _ _ (leftIsGridU_getU L).1 (leftIsGridU_getU L).2).1
      ⟨by rw [l7]; simp, by rw [r7]; simp⟩
  have hform := formOk_iff.2 ⟨iml, imr, (img_completed defaultSide_dL hcL hlL iml).2 hm himl,
    (img_completed defaultSide_dR hcR hlR imr).2 hm himr, hsize, (sideBase_iff defaultSide_dL hcL hlL iml).1 hLdoc,
    (sideBase_iff defaultSide_dR hcR hlR imr).1 hRdoc, hdisp⟩
  exact ⟨_, (checkInputSection_ok_iff files fl kvs _ hwf.1).2
    ⟨L, R, L', R', hL, hR, (two_sided_iff kvs).2 h0, hLm, hRm, hform, rfl⟩⟩

/-- **documented-as-refused ⇒ refused** (with the source's `update_conf`, which refuses a dictionary
    given where the default is not one): an `input` section the documentation rejects
    (`inputVerdict = reject`) never passes `check_input_section`. -/
theorem refused_of_documented_reject (files : Files) (fl : MachineFlags) (hg : fl.strictMerge = true)
    (kvs : Dict) (hwf : NodupSection kvs) (h : inputVerdict files (some (.obj kvs)) = .reject) (out : Dict) :
    checkInputSection files fl inputSchemas [("input", .obj kvs)] ≠ .ok out := by
  intro hok
  obtain ⟨L, R, L', R', hL, hR, hkk, hLm, hRm, hform, -⟩ :=
    (checkInputSection_ok_iff files fl kvs out hwf.1).1 hok
  rw [hg] at hLm hRm
  have hndL := hwf.2 _ _ hL
  have hndR := hwf.2 _ _ hR
  obtain ⟨hlL, hlR⟩ := user_leaves hndL hndR hLm hRm hform
  have hcL := completed_of_merge true dL L L' hndL hLm
  have hcR := completed_of_merge true dR R R' hndR hRm
  obtain ⟨iml, imr, himl', himr', ⟨hw, hh⟩, hLb, hRb, hdisp⟩ := formOk_iff.1 hform
  have himl := (img_completed defaultSide_dL hcL hlL iml).1 himl'
  have himr := (img_completed defaultSide_dR hcR hlR imr).1 himr'
  obtain ⟨l1, l3, l4, l5, l6⟩ := (sideBase_iff defaultSide_dL hcL hlL iml).2 hLb
  obtain ⟨r1, r3, r4, r5, r6⟩ := (sideBase_iff defaultSide_dR hcR hlR imr).2 hRb
  rw [completed_lookup hcL hlL, completed_lookup hcR hlR] at hdisp
  have hd := (disps_iff files iml imr _ _ _ (leftIsGridU_getU L).1 (leftIsGridU_getU L).2).2 hdisp
  -- every clause but the two about `disp` is `accept`
  unfold inputVerdict at h
  rw [inputClauses_sides files kvs L R hL hR, foldl_and_reject] at h
  have hsec := (two_sided_iff kvs).1 hkk
  simp only [sideClauses_eq, imU_eq_imgOf, hsec, l1, himl, r1, himr] at h
  have h : leftDispVerdict files (some iml) (getU L "disp") = .reject ∨
      rightDispVerdict files (some imr) (leftIsGridU L) (getU R "disp") = .reject := by
    simpa [ofBool, l3, l4, l5, l6, r3, r4, r5, r6, hw, hh] using h
  exact h.elim hd.1 hd.2

/-- **`check_input_section` agrees with the documentation**: accepted when the verdict is `accept`,
    refused when it is `reject`; nothing is claimed where the documentation is silent (a bool given for an
    integer) -/
theorem checkInputSection_agrees (files : Files) (hm : MagicFree files) (fl : MachineFlags)
    (hg : fl.strictMerge = true) (kvs : Dict) (hwf : NodupSection kvs) :
    C17.Agrees (C17.okOf (checkInputSection files fl inputSchemas [("input", .obj kvs)]))
      (inputVerdict files (some (.obj kvs))) := by
  cases hv : inputVerdict files (some (.obj kvs)) with
  | accept =>
    obtain ⟨out, h⟩ := accepted_of_documented files hm fl kvs hwf hv
    simp [C17.Agrees, C17.okOf, h]
  | reject =>
    have := refused_of_documented_reject files fl hg kvs hwf hv
    cases h : checkInputSection files fl inputSchemas [("input", .obj kvs)] with
    | ok out => exact absurd h (this out)
    | error e => simp [C17.Agrees, C17.okOf]
  | undecided => trivial

/-- the source's `update_conf` is the strict one -/
theorem generated_strictMerge : machineFlags.strictMerge = true := by decide

def goodUser : Dict :=
  [("left", .obj [("img", .str "l.tif"), ("disp", .str "grid.tif"), ("nodata", .str "NaN"), ("mask", .null)]),
   ("right", .obj [("img", .str "r.tif"), ("disp", .str "grid.tif"), ("classif", .str "l.tif")])]

theorem fs_magicFree : MagicFree C17.fs := ⟨by decide, by decide, by decide⟩

theorem goodUser_nodup : NodupSection goodUser := nodupSection_of_B (by decide +kernel)

/-- the hypotheses of `accepted_of_documented` hold of a non-trivial section (grids on both sides,
    a `"NaN"` to rewrite, defaults to add), and the result is the completed section -/
example :
    inputVerdict C17.fs (some (.obj goodUser)) = .accept ∧
    checkInputSection C17.fs machineFlags inputSchemas [("input", .obj goodUser)] =
      .ok [("input", .obj [
        ("left", .obj [("nodata", .float .nan), ("mask", .null), ("classif", .null), ("segm", .null),
                       ("img", .str "l.tif"), ("disp", .str "grid.tif")]),
        ("right", .obj [("nodata", .int (-9999)), ("mask", .null), ("classif", .str "l.tif"), ("segm", .null),
                        ("disp", .str "grid.tif"), ("img", .str "r.tif")])])] := by decide +kernel

/-- … and those of `refused_of_documented_reject` of a section with a wrong right disparity -/
example :
    let bad : Dict := [("left", .obj [("img", .str "l.tif"), ("disp", .list [.int (-2), .int 2])]),
                       ("right", .obj [("img", .str "r.tif"), ("disp", .str "grid.tif")])]
    inputVerdict C17.fs (some (.obj bad)) = .reject ∧
    C17.okOf (checkInputSection C17.fs machineFlags inputSchemas [("input", .obj bad)]) = false := by decide +kernel

/-- **`strictMerge` cannot be dropped** (finding `empty_dict_for_defaulted_key`): with an `update_conf`
    that does not raise on it, an empty dictionary given for `nodata` is silently replaced by the default
    and the section — which the documentation rejects — is accepted -/
theorem empty_dict_counterexample :
    let user : Dict := [("left", .obj [("img", .str "l.tif"), ("disp", .list [.int (-2), .int 2]), ("nodata", .obj [])]),
                        ("right", .obj [("img", .str "r.tif")])]
    inputVerdict C17.fs (some (.obj user)) = .reject ∧
    C17.okOf (checkInputSection C17.fs { strictMerge := false } inputSchemas [("input", .obj user)]) = true ∧
    checkInputSection C17.fs { strictMerge := true } inputSchemas [("input", .obj user)] = .error .type := by
  decide +kernel

/-- **`MagicFree` cannot be dropped**: `update_conf` turns the strings `"NaN"`, `"inf"`, `"-inf"` into
    floats under every key, image paths included; an image file that is really called `NaN` is
    documented as acceptable (a path rasterio can open) and is refused (the real
    `check_input_section` raises `CheckerError` on such a file, as the model does) -/
theorem magic_filename_counterexample :
    let files : Files := fun p =>
      if p = "NaN" then some { width := 6, height := 5, count := 1 }
      else if p = "r.tif" then some { width := 6, height := 5, count := 1 } else none
    let user : Dict := [("left", .obj [("img", .str "NaN"), ("disp", .list [.int (-2), .int 2])]),
                        ("right", .obj [("img", .str "r.tif")])]
    inputVerdict files (some (.obj user)) = .accept ∧
    checkInputSection files machineFlags inputSchemas [("input", .obj user)] = .error .checker := by
  decide +kernel

/-- where the documentation is silent the code decides either way: `nodata: true` is refused,
    `disp: [true, 2]` is accepted -/
example :
    let u1 : Dict := [("left", .obj [("img", .str "l.tif"), ("disp", .list [.int (-2), .int 2]), ("nodata", .bool true)]),
                      ("right", .obj [("img", .str "r.tif")])]
    let u2 : Dict := [("left", .obj [("img", .str "l.tif"), ("disp", .list [.bool true, .int 2])]),
                      ("right", .obj [("img", .str "r.tif")])]
    inputVerdict C17.fs (some (.obj u1)) = .undecided ∧
    C17.okOf (checkInputSection C17.fs machineFlags inputSchemas [("input", .obj u1)]) = false ∧
    inputVerdict C17.fs (some (.obj u2)) = .undecided ∧
    C17.okOf (checkInputSection C17.fs machineFlags inputSchemas [("input", .obj u2)]) = true := by decide +kernel

end Pandora.C17W
