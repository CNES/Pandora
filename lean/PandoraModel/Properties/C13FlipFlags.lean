/-
  C13 — vertical flip of the criteria flags (`flagStep` of `C13Flags.lean`), and the pipeline theorems of
  `C13FlipPipeline.lean` with the hypothesis on the flags discharged.

  The flag word of a pixel reads the image re-centred on the pixel: the four `mask_border` probes (the two
  vertical ones are exchanged by the flip), the pixel's row (unchanged), the nodata cells of the left window
  (rows met bottom-up: an `any`), and whether all the costs are NaN (the matching-cost row, which commutes
  with the flip on product domains: `mcRowStep_vflip`).
-/
import PandoraModel.Properties.C13Flags
import PandoraModel.Properties.C13FlipPipeline

namespace Pandora.C13
open Pandora.Locality

theorem atOrigin_vflipOn {α β : Type} (G : Img α → Option β) (h : ∀ b, RectDom b → G (vflip b) = G b) :
    VFlipOn (atOrigin G) := by
  intro a ha
  funext p
  show G (shift p (vflip a)) = G (shift (-p.1, p.2) a)
  rw [shift_vflip]
  exact h _ (ha.shift _)

theorem border0_vflip (o : Nat) (b : Img McCell) : border0 o (vflip b) = border0 o b := by
  unfold border0 isIn0 vflip
  simp only [Int.neg_neg, Int.neg_zero]
  rw [Bool.and_comm (b ((o : Int), 0)).isSome (b (-(o : Int), 0)).isSome]

theorem inIdx0_vflip (o : Nat) (b : Img McCell) : inIdx0 o (vflip b) = inIdx0 o b := by
  funext d
  unfold inIdx0 isIn0 vflip
  simp only [Int.neg_zero]

theorem rInv0_vflip (P : McParams) (b : Img McCell) : rInv0 P (vflip b) = rInv0 P b := by
  funext d
  unfold rInv0 vflip
  simp only [Int.neg_zero]

/-- the rows of the left window are met bottom-up: an `any` -/
theorem nodataNear0_vflip (o : Nat) (nodata : Int) (b : Img McCell) :
    nodataNear0 o nodata (vflip b) = nodataNear0 o nodata b := by
  unfold nodataNear0
  refine Eq.trans ?_ (any_range_reverse (2 * o + 1) _)
  apply any_congr_mem
  intro di hdi
  have hdi' := List.mem_range.1 hdi
  have e : -(-(o : Int) + (di : Int)) = -(o : Int) + ((2 * o + 1 - 1 - di : Nat) : Int) := by omega
  simp only [vflip, e]

theorem flagWord0_vflip (P : McParams) (gmin gmax : Int) (b : Img McCell) (s : McCell) (allNan : Bool) :
    flagWord0 P gmin gmax (vflip b) s allNan = flagWord0 P gmin gmax b s allNan := by
  unfold flagWord0
  rw [border0_vflip, nodataNear0_vflip, inIdx0_vflip, rInv0_vflip]

theorem flagG_vflip (P : McParams) (gmin gmax : Int) (n : Nat) (b : Img McCell) (hb : RectDom b) :
    flagG P gmin gmax n (vflip b) = flagG P gmin gmax n b := by
  unfold flagG
  rw [mcRowStep_vflip P gmin n b hb]
  simp only [flagWord0_vflip]
  rfl

/-- **The criteria flags commute with the flip** on images whose domain is a product rows × columns. -/
theorem flagStep_vflip (P : McParams) (gmin gmax : Int) (n : Nat) : VFlipOn (flagStep P gmin gmax n) :=
  atOrigin_vflipOn _ (flagG_vflip P gmin gmax n)

theorem pipeFlags_vflip (C : PipeCfg) : VFlipOn (pipeFlags C) := flagStep_vflip C.mc C.gmin C.gmax C.n

theorem flags_flip_run (P : McParams) (gmin gmax : Int) (n : Nat) (ny nx : Nat) (scene : Nat → Nat → McCell) (p : Px) :
    flagStep P gmin gmax n (toImg ny nx (flipArr ny scene)) p
      = flagStep P gmin gmax n (toImg ny nx scene) ((ny : Int) - 1 - p.1, p.2) :=
  flip_run_eq (flagStep_equivariant P gmin gmax n) (flagStep_vflip P gmin gmax n) ny nx scene p

/-- **Vertical flip of the whole pipeline with the criteria flags**: only the aggregation step and the right
    map keep a hypothesis. -/
theorem pipeline_flip_flags (C : PipeCfg) {agg : AggStep} (hAe : Equivariant agg) (hA : VFlipOn agg)
    (doRefine doMedian : Bool) (hodd : doMedian = true → C.fs % 2 = 1)
    {dispR : Img McCell → Img Val} (hRe : Equivariant dispR) (hR : VFlipOn dispR)
    (V : CrossCheck.Variant) (CP : CrossCheck.Params) :
    FlipExact (ccStage C agg (pipeFlags C) doRefine doMedian dispR V CP) :=
  pipeline_flip C hAe hA (pipeFlags_equivariant C) (pipeFlags_vflip C) doRefine doMedian hodd hRe hR V CP

/-- **… the right map being the same pipeline on the swapped pair** (configuration `C'`), with its criteria
    flags: only the aggregation step stays abstract. -/
theorem pipeline_flip_flags_both (C C' : PipeCfg) {agg : AggStep} (hAe : Equivariant agg) (hA : VFlipOn agg)
    (doRefine doMedian : Bool) (hodd : doMedian = true → C.fs % 2 = 1) (hodd' : doMedian = true → C'.fs % 2 = 1)
    (V : CrossCheck.Variant) (CP : CrossCheck.Params) :
    FlipExact (ccStage C agg (pipeFlags C) doRefine doMedian (rightDisp C' agg (pipeFlags C') doRefine doMedian) V CP) :=
  pipeline_flip_lr C C' hAe hA (pipeFlags_equivariant C) (pipeFlags_vflip C) (pipeFlags_equivariant C') (pipeFlags_vflip C')
    doRefine doMedian hodd hodd' V CP

/-- the filtered left map with the criteria flags (pipelines without cross-checking) -/
theorem filter_flip_flags (C : PipeCfg) {agg : AggStep} (hAe : Equivariant agg) (hA : VFlipOn agg)
    (doRefine doMedian : Bool) (hodd : doMedian = true → C.fs % 2 = 1) :
    FlipExact (filterStage C agg (pipeFlags C) doRefine doMedian) :=
  filter_flip C hAe hA (pipeFlags_equivariant C) (pipeFlags_vflip C) doRefine doMedian hodd

/-! ### Non-vacuity: `exCfg` (sad, window 3, subpix 2, interval [-1, 1], vfit, median 3), no aggregation, criteria
    flags on both sides, cross-checking: no hypothesis is left, for every scene array -/

example (ny nx : Nat) (scene : Nat → Nat → McCell) (p : Px) :
    ccStage exCfg noAgg (pipeFlags exCfg) true true (rightDisp exCfg noAgg (pipeFlags exCfg) true true)
        .ruleFix C07.exParams (toImg ny nx (flipArr ny scene)) p
      = ccStage exCfg noAgg (pipeFlags exCfg) true true (rightDisp exCfg noAgg (pipeFlags exCfg) true true)
        .ruleFix C07.exParams (toImg ny nx scene) ((ny : Int) - 1 - p.1, p.2) :=
  pipeline_flip_flags_both exCfg exCfg noAgg_equivariant noAgg_vflip.toOn true true
    (fun _ => by decide) (fun _ => by decide) .ruleFix C07.exParams ny nx scene p

end Pandora.C13
