/-
  C05 — `PandoraMachine.check_conf` as a function, for the model `Model/Config.lean` and ANY registry.

  `stepOut` is what checking one step yields: the dictionary the class of the step's kind returns, provided the
  callback's own test passes on it.  A callback stores it (`stepCallback_iff`); a round of the loop runs to the
  end exactly when the names are a path of the automaton and every step has an output, and then has stored the
  outputs in order (`checkLoop_iff`, the one induction over the loop); the right/left round finds the same
  outputs or fails on the mirrored validation test (`stepOut_swap`).  Together: on a machine that does not carry
  steps over, the check succeeds and leaves `M` in `pipeline_cfg` exactly when `pipelineOut … = some M`
  (`machineCheck_iff`).
-/
import PandoraModel.Lemmas.ConfigMerge
import PandoraModel.Lemmas.Automaton

/-! The right/left round checks the same steps with the images swapped: a class check does not depend on which
    image is which except through the refusal of grids, which is symmetric. -/

namespace Pandora.C05
open Pandora.Config

theorem runAction_swap (l r : ImgInfo) (cfg : Dict) (a : Action) :
    runAction l r cfg a = runAction r l cfg a := by
  cases a <;> simp [runAction, Bool.or_comm]

theorem runActions_swap (l r : ImgInfo) (acts : List Action) :
    ∀ cfg, runActions l r acts cfg = runActions r l acts cfg := by
  induction acts with
  | nil => intro cfg; rfl
  | cons a rest ih =>
    intro cfg
    simp only [runActions, runAction_swap l r cfg a]
    cases runAction r l cfg a with
    | error e => rfl
    | ok cfg' => exact ih cfg'

theorem construct_swap (o : Oracle) (kd : KindDesc) (l r : ImgInfo) (cfg : Dict) :
    construct o kd l r cfg = construct o kd r l cfg := by
  have hc : ∀ c : ClassDesc, classCheck o c l r cfg = classCheck o c r l cfg := by
    intro c; simp only [classCheck, runActions_swap l r]
  unfold construct
  simp only [hc]

end Pandora.C05

namespace Pandora.C05W
open Pandora.Config Pandora.C05

/-- the test a check callback makes on the dictionary its class returned: `check_band_pipeline` on
    both images (matching cost), "a left disparity grid needs a right one" (validation), the
    bilateral margin must be computable (filter) -/
def extraOk (fl : MachineFlags) (kind : Machine.Kind) (l r : ImgInfo) (out : Dict) : Bool :=
  match kind with
  | .matchingCost =>
    bandCheck fl.bandWhole l.bands ((Dict.lookup out "band").getD .null) &&
    bandCheck fl.bandWhole r.bands ((Dict.lookup out "band").getD .null)
  | .validation => !(l.dispSource.isStr && r.dispSource.isNull)
  | .filter => !(decide (Dict.lookup out "sigma_space" = some (.float .pinf)))
  | _ => true

def afterStep (m : CState) (kind : Machine.Kind) (name : String) (out : Dict) : CState :=
  match kind with
  | .matchingCost => { m with pipelineCfg := Dict.setKey m.pipelineCfg name (.obj out),
                              step := (Dict.lookup out "step").getD (.int 1) }
  | .validation => { m with pipelineCfg := Dict.setKey m.pipelineCfg name (.obj out), rightDispMap := true }
  | _ => { m with pipelineCfg := Dict.setKey m.pipelineCfg name (.obj out) }

theorem ite_ok_iff {α : Type} {c : Prop} [Decidable c] {x y : α} {e : Err} :
    (if c then Except.ok x else Except.error e) = Except.ok y ↔ c ∧ y = x := by
  by_cases h : c <;> simp [h, eq_comm]

theorem ite_error_iff {α : Type} {c : Prop} [Decidable c] {x y : α} {e : Err} :
    (if c then Except.error e else Except.ok x) = Except.ok y ↔ ¬ c ∧ y = x := by
  by_cases h : c <;> simp [h, eq_comm]

/-- a check callback returns normally exactly when the step is a dictionary, its class accepts it
    (`Abstract<Kind>(**cfg)`) and the callback's own test passes (an `optimization` step also needs
    `self.step == 1`) -/
theorem stepCallback_ok_iff (o : Oracle) (fl : MachineFlags) (reg : List KindDesc) (kind : Machine.Kind)
    (name : String) (stepCfg : JVal) (l r : ImgInfo) (m m' : CState) :
    stepCallback o fl reg kind name stepCfg l r m = .ok m' ↔
      ∃ cfg kd out, stepCfg = .obj cfg ∧ kindDesc? reg kind.name = some kd ∧
        (kind = .optimization → pyEq m.step (.int 1) = true) ∧
        construct o kd l r cfg = .ok out ∧ extraOk fl kind l r out = true ∧
        m' = afterStep m kind name out := by
  unfold stepCallback
  cases stepCfg with
  | obj cfg =>
    simp only [JVal.obj.injEq, exists_and_left, exists_eq_left']
    cases hk : kindDesc? reg kind.name with
    | none => simp
    | some kd =>
      simp only [Option.some.injEq, exists_eq_left']
      cases hc : construct o kd l r cfg with
      | error e =>
        cases kind <;> simp
        split <;> simp
      | ok out =>
        cases kind <;> simp only [extraOk, afterStep, Except.ok.injEq, exists_eq_left', reduceCtorEq, false_imp_iff,
          true_and, forall_const]
        case matchingCost => exact ite_ok_iff
        case optimization => simp only [ite_error_iff, Bool.not_eq_true', Bool.not_eq_false]
        case filter => simp only [ite_error_iff, Bool.not_eq_true', decide_eq_false_iff_not]
        case validation => simp only [ite_error_iff, Bool.not_eq_true', Bool.not_eq_true]
        -- the six kinds whose callback makes no test of its own
        all_goals exact eq_comm
  | _ => simp

/-- the machine does not carry the steps of an earlier configuration into this check -/
def FreshFor (fl : MachineFlags) (m : CState) : Prop := m.pipelineCfg = [] ∨ fl.resetPipelineCfg = true

theorem FreshFor.of_new (fl : MachineFlags) : FreshFor fl {} := Or.inl rfl

theorem FreshFor.of_reset {fl : MachineFlags} (h : fl.resetPipelineCfg = true) (m : CState) : FreshFor fl m := Or.inr h

/-- the state the first round of `PandoraMachine.check_conf` starts from -/
def firstState (fl : MachineFlags) (m : CState) : CState :=
  if fl.resetPipelineCfg then { m with pipelineCfg := [] } else m

theorem machineCheck_eq (o : Oracle) (fl : MachineFlags) (reg : List KindDesc) (pipeline : Dict) (l r : ImgInfo)
    (m : CState) :
    machineCheck o fl reg pipeline l r m =
      match checkLoop o fl reg pipeline l r .begin (Dict.keys pipeline) (firstState fl m) with
      | .error e => .error e
      | .ok m1 =>
        if m1.rightDispMap then checkLoop o fl reg pipeline r l .begin (Dict.keys pipeline) m1 else .ok m1 :=
  rfl

theorem firstState_pipelineCfg {fl : MachineFlags} {m : CState} (h : FreshFor fl m) :
    (firstState fl m).pipelineCfg = [] := by
  unfold firstState
  rcases h with h0 | h0
  · by_cases hr : fl.resetPipelineCfg = true <;> simp [hr, h0]
  · simp [h0]

theorem checkLoop_nil (o : Oracle) (fl : MachineFlags) (reg : List KindDesc) (pipeline : Dict) (l r : ImgInfo)
    (st : Machine.St) (m : CState) : checkLoop o fl reg pipeline l r st [] m = .ok m := rfl

theorem checkLoop_cons_ok_iff (o : Oracle) (fl : MachineFlags) (reg : List KindDesc) (pipeline : Dict)
    (l r : ImgInfo) (st : Machine.St) (n : String) (ns : List String) (m m' : CState) :
    checkLoop o fl reg pipeline l r st (n :: ns) m = .ok m' ↔
      ∃ kind st' m1, Machine.Kind.ofName? (Machine.kindOf n) = some kind ∧
        Machine.documented st kind = some st' ∧
        stepCallback o fl reg kind n ((Dict.lookup pipeline n).getD .null) l r m = .ok m1 ∧
        checkLoop o fl reg pipeline l r st' ns m1 = .ok m' := by
  cases hk : Machine.Kind.ofName? (Machine.kindOf n) with
  | none => simp [checkLoop, hk]
  | some kind =>
    cases hd : Machine.documented st kind with
    | none => simp [checkLoop, hk, hd]
    | some st' =>
      cases hs : stepCallback o fl reg kind n ((Dict.lookup pipeline n).getD .null) l r m <;>
        simp [checkLoop, hk, hd, hs]

/-- no class is registered for `optimization` (plugins are not part of the source) -/
def NoOptimization (reg : List KindDesc) : Prop :=
  ∀ kd, kindDesc? reg "optimization" = some kd → kd.classes = []

theorem construct_ok_iff {o : Oracle} {kd : KindDesc} {l r : ImgInfo} {cfg out : Dict} :
    construct o kd l r cfg = .ok out ↔
      ∃ m c, Dict.lookup cfg kd.methodKey = some (.str m) ∧ findClass kd.classes m = some c ∧
        classCheck o c l r cfg = .ok out := by
  unfold construct
  cases hl : Dict.lookup cfg kd.methodKey with
  | none => simp
  | some v =>
    cases v with
    | str m =>
      cases hf : findClass kd.classes m with
      | none => simp [hf]
      | some c => simp [hf]
    | _ =>
      simp only [Option.some.injEq, reduceCtorEq, false_and, exists_false, iff_false]
      split <;> exact fun h => nomatch h

theorem findClass_some {classes : List ClassDesc} {m : String} {c : ClassDesc}
    (h : findClass classes m = some c) : c ∈ classes ∧ m ∈ c.names := by
  unfold findClass at h
  exact ⟨List.mem_of_find?_eq_some h, by simpa using List.find?_some h⟩

theorem kindDesc_some {reg : List KindDesc} {kind : String} {kd : KindDesc}
    (h : kindDesc? reg kind = some kd) : kd ∈ reg ∧ kd.kind = kind := by
  unfold kindDesc? at h
  exact ⟨List.mem_of_find?_eq_some h, by simpa using List.find?_some h⟩

theorem construct_no_class (o : Oracle) (kd : KindDesc) (l r : ImgInfo) (cfg out : Dict)
    (h : kd.classes = []) : construct o kd l r cfg ≠ .ok out := by
  rintro hc
  obtain ⟨m, c, _, hf, _⟩ := construct_ok_iff.1 hc
  rw [h] at hf
  cases hf

theorem afterStep_right (m : CState) (kind : Machine.Kind) (name : String) (out : Dict) :
    (afterStep m kind name out).rightDispMap = (m.rightDispMap || decide (kind = .validation)) := by
  cases kind <;> simp [afterStep]

theorem extraOk_swap (fl : MachineFlags) (kind : Machine.Kind) (l r : ImgInfo) (out : Dict)
    (h : kind ≠ .validation) : extraOk fl kind r l out = extraOk fl kind l r out := by
  cases kind <;> simp [extraOk, Bool.and_comm] at h ⊢

variable (o : Oracle) (fl : MachineFlags) (reg : List KindDesc)

/-- what checking the step `n : v` yields: the dictionary the class of its kind returns for it, provided the
    callback's own test passes on that dictionary -/
def stepOut (l r : ImgInfo) (n : String) (v : JVal) : Option Dict :=
  match Machine.Kind.ofName? (Machine.kindOf n), v with
  | some kind, .obj cfg =>
    match kindDesc? reg kind.name with
    | some kd =>
      match construct o kd l r cfg with
      | .ok out => if extraOk fl kind l r out then some out else none
      | .error _ => none
    | none => none
  | _, _ => none

variable {o fl reg}

theorem stepOut_eq_some {l r : ImgInfo} {n : String} {v : JVal} {out : Dict} :
    stepOut o fl reg l r n v = some out ↔
      ∃ kind cfg kd, Machine.Kind.ofName? (Machine.kindOf n) = some kind ∧ v = .obj cfg ∧
        kindDesc? reg kind.name = some kd ∧ construct o kd l r cfg = .ok out ∧ extraOk fl kind l r out = true := by
  unfold stepOut
  cases hk : Machine.Kind.ofName? (Machine.kindOf n) with
  | none => simp
  | some kind =>
    cases v with
    | obj cfg =>
      cases hkd : kindDesc? reg kind.name with
      | none => simp [hkd]
      | some kd =>
        cases hc : construct o kd l r cfg with
        | error e => simp [hkd, hc]
        | ok out' =>
          cases he : extraOk fl kind l r out' with
          | false => simp [hkd, hc, he]; rintro rfl; exact he
          | true => simp [hkd, hc, he]; rintro rfl; exact he
    | _ => simp

/-- a callback returns exactly when the step has an output, and stores it (an `optimization` step has none: no
    class is registered for it) -/
theorem stepCallback_iff (hno : NoOptimization reg) {kind : Machine.Kind} {n : String}
    (hk : Machine.Kind.ofName? (Machine.kindOf n) = some kind) (v : JVal) (l r : ImgInfo) (m m' : CState) :
    stepCallback o fl reg kind n v l r m = .ok m' ↔
      ∃ out, stepOut o fl reg l r n v = some out ∧ m' = afterStep m kind n out := by
  rw [stepCallback_ok_iff]
  simp only [stepOut_eq_some]
  constructor
  · rintro ⟨cfg, kd, out, h1, h2, _, h4, h5, h6⟩
    exact ⟨out, ⟨kind, cfg, kd, hk, h1, h2, h4, h5⟩, h6⟩
  · rintro ⟨out, ⟨kind', cfg, kd, hk', h1, h2, h4, h5⟩, h6⟩
    rw [hk] at hk'; cases hk'
    refine ⟨cfg, kd, out, h1, h2, ?_, h4, h5, h6⟩
    rintro rfl
    exact absurd h4 (construct_no_class o kd l r cfg out (hno kd h2))

/-- the kind of a step name (total; the default is never met on a path) -/
def kindOfName (n : String) : Machine.Kind := (Machine.Kind.ofName? (Machine.kindOf n)).getD .filter

theorem kindOfName_eq {n : String} {kind : Machine.Kind} (hk : Machine.Kind.ofName? (Machine.kindOf n) = some kind) :
    kindOfName n = kind := by
  rw [kindOfName, hk]; rfl

/-- the machine after the callbacks of `steps` have stored their outputs -/
def stored (m : CState) : List (String × Dict) → CState
  | [] => m
  | (n, out) :: rest => stored (afterStep m (kindOfName n) n out) rest

/-- **one round of the loop**, over the items `Q` of the pipeline still to check: it runs to the end exactly when
    their names are a path and every step has an output, and then it has stored the outputs in order -/
theorem checkLoop_iff (hno : NoOptimization reg) (pipeline : Dict) (l r : ImgInfo) :
    ∀ (Q : Dict), (∀ kv ∈ Q, Dict.lookup pipeline kv.1 = some kv.2) → ∀ (st : Machine.St) (m m' : CState),
      checkLoop o fl reg pipeline l r st (Dict.keys Q) m = .ok m' ↔
        Machine.isPath st (Dict.keys Q) = true ∧
        ∃ steps, mapValsM (stepOut o fl reg l r) Q = some steps ∧ m' = stored m steps := by
  intro Q
  induction Q with
  | nil => intro _ st m m'; simp [Dict.keys, checkLoop_nil, Machine.isPath_nil, mapValsM_nil, stored, eq_comm]
  | cons kv Q ih =>
    obtain ⟨n, v⟩ := kv
    intro hQ st m m'
    have hv : (Dict.lookup pipeline n).getD .null = v := by rw [hQ (n, v) (by simp)]; rfl
    have ih := ih fun kv hkv => hQ kv (List.mem_cons_of_mem _ hkv)
    show checkLoop o fl reg pipeline l r st (n :: Dict.keys Q) m = .ok m' ↔
      Machine.isPath st (n :: Dict.keys Q) = true ∧ _
    rw [checkLoop_cons_ok_iff, hv]
    constructor
    · rintro ⟨kind, st', m1, hk, hdoc, hcb, hrest⟩
      obtain ⟨out, ho, rfl⟩ := (stepCallback_iff hno hk ..).1 hcb
      obtain ⟨hp, steps, hm, rfl⟩ := (ih ..).1 hrest
      refine ⟨Machine.isPath_cons_iff.2 ⟨kind, st', hk, hdoc, hp⟩, (n, out) :: steps,
        mapValsM_cons.2 ⟨out, steps, ho, hm, rfl⟩, ?_⟩
      rw [stored, kindOfName_eq hk]
    · rintro ⟨hp, steps', hm, rfl⟩
      obtain ⟨out, steps, ho, hns, rfl⟩ := mapValsM_cons.1 hm
      obtain ⟨kind, st', hk, hdoc, hp'⟩ := Machine.isPath_cons_iff.1 hp
      exact ⟨kind, st', _, hk, hdoc, (stepCallback_iff hno hk ..).2 ⟨out, ho, rfl⟩,
        (ih ..).2 ⟨hp', steps, hns, by rw [stored, kindOfName_eq hk]⟩⟩

/-- a step output as an item of `pipeline_cfg` -/
def item (s : String × Dict) : String × JVal := (s.1, .obj s.2)

theorem keys_map_item (steps : List (String × Dict)) : Dict.keys (steps.map item) = steps.map (·.1) := by
  simp [Dict.keys, item, Function.comp_def]

theorem afterStep_pipelineCfg (m : CState) (kind : Machine.Kind) (n : String) (out : Dict) :
    (afterStep m kind n out).pipelineCfg = Dict.setKey m.pipelineCfg n (.obj out) := by cases kind <;> rfl

theorem stored_pipelineCfg : ∀ (steps : List (String × Dict)) (m : CState),
    (stored m steps).pipelineCfg = (steps.map item).foldl (fun d s => Dict.setKey d s.1 s.2) m.pipelineCfg
  | [], _ => rfl
  | s :: rest, m => by simp [stored, stored_pipelineCfg rest, afterStep_pipelineCfg, item]

theorem kindOf_beq {n : String} {kind : Machine.Kind} (hk : Machine.Kind.ofName? (Machine.kindOf n) = some kind)
    (k' : Machine.Kind) : (Machine.kindOf n == k'.name) = decide (kind = k') := by
  rw [Machine.ofName_some hk, Machine.Kind.name_beq]

theorem kindOfName_validation (n : String) :
    decide (kindOfName n = .validation) = (Machine.kindOf n == Machine.Kind.validation.name) := by
  unfold kindOfName
  cases hk : Machine.Kind.ofName? (Machine.kindOf n) with
  | some kind => rw [kindOf_beq hk]; rfl
  | none =>
    simpa using Machine.ofName_none hk .validation

theorem stored_rightDispMap : ∀ (steps : List (String × Dict)) (m : CState),
    (stored m steps).rightDispMap = (m.rightDispMap || Machine.hasKind .validation (steps.map (·.1)))
  | [], _ => by simp [stored, Machine.hasKind_nil]
  | s :: rest, m => by
    simp only [stored, stored_rightDispMap rest, afterStep_right, kindOfName_validation, List.map_cons, Machine.hasKind_cons,
      Bool.or_assoc]

/-- a machine that carries no step over holds exactly the outputs after the first round, and still after a round
    that stores them again -/
theorem stored_fresh {m : CState} {steps : List (String × Dict)} (hm : m.pipelineCfg = [])
    (hnd : (steps.map (·.1)).Nodup) :
    (stored m steps).pipelineCfg = steps.map item ∧ (stored (stored m steps) steps).pipelineCfg = steps.map item := by
  rw [← keys_map_item] at hnd
  have h1 : (stored m steps).pipelineCfg = steps.map item := by
    rw [stored_pipelineCfg, hm, Merge.foldl_setKey_fresh _ _ hnd (fun _ _ => rfl)]; rfl
  refine ⟨h1, ?_⟩
  rw [stored_pipelineCfg, h1]
  exact Merge.foldl_setKey_same _ _ fun s hs => Merge.lookup_of_mem _ s.1 s.2 hnd hs

/-- the test the right/left round adds: a validation step, and a right disparity grid without a left one -/
def mirrorBad (l r : ImgInfo) (names : List String) : Bool :=
  Machine.hasKind .validation names && (r.dispSource.isStr && l.dispSource.isNull)

theorem mirrorBad_of_no_validation {l r : ImgInfo} {names : List String}
    (h : Machine.hasKind .validation names = false) : mirrorBad l r names = false := by
  rw [mirrorBad, h, Bool.false_and]

theorem mirrorBad_cons (l r : ImgInfo) (n : String) (ns : List String) :
    mirrorBad l r (n :: ns) = (mirrorBad l r [n] || mirrorBad l r ns) := by
  simp only [mirrorBad, Machine.hasKind_cons _ n ns, Machine.hasKind_cons _ n [], Machine.hasKind_nil, Bool.or_false,
    Bool.and_or_distrib_right]

/-- with the images swapped a step has the same output, or none when it is a validation step and the mirrored
    test fails -/
theorem stepOut_swap {l r : ImgInfo} {n : String} {v : JVal} {out : Dict} (h : stepOut o fl reg l r n v = some out) :
    stepOut o fl reg r l n v = if mirrorBad l r [n] then none else some out := by
  obtain ⟨kind, cfg, kd, hk, rfl, hkd, hc, he⟩ := stepOut_eq_some.1 h
  have hv : Machine.hasKind .validation [n] = decide (kind = .validation) := by
    rw [Machine.hasKind_cons, Machine.hasKind_nil, Bool.or_false, kindOf_beq hk]
  simp only [stepOut, hk, hkd, ← construct_swap o kd l r cfg, hc, mirrorBad, hv]
  by_cases hkv : kind = .validation
  · subst hkv
    cases hr : r.dispSource.isStr <;> cases hl : l.dispSource.isNull <;> simp [extraOk, hr, hl]
  · simp [extraOk_swap fl kind l r out hkv, he, hkv]

theorem mapValsM_stepOut_swap {l r : ImgInfo} : ∀ {Q : Dict} {steps : List (String × Dict)},
    mapValsM (stepOut o fl reg l r) Q = some steps →
    mapValsM (stepOut o fl reg r l) Q = if mirrorBad l r (Dict.keys Q) then none else some steps
  | [], _, h => by cases h; rfl
  | (n, v) :: Q, _, h => by
    obtain ⟨out, steps, ho, hns, rfl⟩ := mapValsM_cons.1 h
    have ih := mapValsM_stepOut_swap hns
    have hc : mirrorBad l r (Dict.keys ((n, v) :: Q)) = (mirrorBad l r [n] || mirrorBad l r (Dict.keys Q)) :=
      mirrorBad_cons l r n (Dict.keys Q)
    rw [mapValsM_cons_eq, stepOut_swap ho, ih, hc]
    cases mirrorBad l r [n] <;> cases mirrorBad l r (Dict.keys Q) <;> rfl

variable (o fl reg)

/-- **the pipeline check as a function**: the step names spell a path of the automaton, the mirrored validation
    test passes, and every step has an output; the result holds the outputs under the step names, in order -/
def pipelineOut (l r : ImgInfo) (P : Dict) : Option Dict :=
  if Machine.isPath .begin (Dict.keys P) = true ∧ mirrorBad l r (Dict.keys P) = false then
    mapValsM (fun n v => (stepOut o fl reg l r n v).map JVal.obj) P
  else none

variable {o fl reg}

theorem pipelineOut_of_path {l r : ImgInfo} {P : Dict} (hp : Machine.isPath .begin (Dict.keys P) = true)
    (hm : mirrorBad l r (Dict.keys P) = false) :
    pipelineOut o fl reg l r P = mapValsM (fun n v => (stepOut o fl reg l r n v).map JVal.obj) P :=
  if_pos ⟨hp, hm⟩

theorem pipelineOut_eq_some {l r : ImgInfo} {P M : Dict} :
    pipelineOut o fl reg l r P = some M ↔
      Machine.isPath .begin (Dict.keys P) = true ∧ mirrorBad l r (Dict.keys P) = false ∧
      ∃ steps, mapValsM (stepOut o fl reg l r) P = some steps ∧ M = steps.map item := by
  unfold pipelineOut
  rw [mapValsM_map]
  split
  · rename_i hc
    simp only [hc, true_and, Option.map_eq_some_iff]
    exact ⟨fun ⟨steps, h, e⟩ => ⟨steps, h, e.symm⟩, fun ⟨steps, h, e⟩ => ⟨steps, h, e.symm⟩⟩
  · rename_i hc
    simp only [reduceCtorEq, false_iff]
    exact fun ⟨h1, h2, _⟩ => hc ⟨h1, h2⟩

theorem pipelineOut_lookup {l r : ImgInfo} {P M : Dict} (h : pipelineOut o fl reg l r P = some M) :
    Dict.keys M = Dict.keys P ∧
    ∀ n, Dict.lookup M n = (Dict.lookup P n).bind fun v => (stepOut o fl reg l r n v).map JVal.obj := by
  obtain ⟨hp, hm, _⟩ := pipelineOut_eq_some.1 h
  rw [pipelineOut_of_path hp hm] at h
  exact Merge.mapValsM_spec h

theorem pipelineOut_item {l r : ImgInfo} {P' M : Dict}
    (h : pipelineOut o fl reg l r P' = some M) {n : String} {w : JVal} (hl : Dict.lookup M n = some w) :
    ∃ cfg out, Dict.lookup P' n = some (.obj cfg) ∧ stepOut o fl reg l r n (.obj cfg) = some out ∧ w = .obj out := by
  have hn := (pipelineOut_lookup h).2 n
  rw [hl] at hn
  obtain ⟨v, hP, hg⟩ := Option.bind_eq_some_iff.1 hn.symm
  obtain ⟨out, ho, rfl⟩ := Option.map_eq_some_iff.1 hg
  obtain ⟨_, cfg, _, _, rfl, _⟩ := stepOut_eq_some.1 ho
  exact ⟨cfg, out, hP, ho, rfl⟩

theorem pipelineOut_isSome {l r : ImgInfo} {P : Dict} :
    (∃ M, pipelineOut o fl reg l r P = some M) ↔
      Machine.isPath .begin (Dict.keys P) = true ∧ mirrorBad l r (Dict.keys P) = false ∧
      ∀ kv ∈ P, ∃ out, stepOut o fl reg l r kv.1 kv.2 = some out := by
  simp only [pipelineOut_eq_some]
  constructor
  · rintro ⟨_, hp, hb, steps, hs, _⟩
    exact ⟨hp, hb, mapValsM_isSome.1 ⟨steps, hs⟩⟩
  · rintro ⟨hp, hb, h⟩
    obtain ⟨steps, hs⟩ := mapValsM_isSome.2 h
    exact ⟨_, hp, hb, steps, hs, rfl⟩

/-- **`PandoraMachine.check_conf` on a machine that carries no step over is `pipelineOut`**: it returns normally
    and leaves `M` in `pipeline_cfg` exactly when `pipelineOut` is `M` -/
theorem machineCheck_iff (hno : NoOptimization reg) {P : Dict} {l r : ImgInfo} {m : CState} (hfresh : FreshFor fl m)
    (hnd : (Dict.keys P).Nodup) (M : Dict) :
    (∃ m', machineCheck o fl reg P l r m = .ok m' ∧ m'.pipelineCfg = M) ↔ pipelineOut o fl reg l r P = some M := by
  have hm0 := firstState_pipelineCfg hfresh
  have hP : ∀ kv ∈ P, Dict.lookup P kv.1 = some kv.2 := fun kv hkv => Merge.lookup_of_mem P kv.1 kv.2 hnd hkv
  simp only [machineCheck_eq, pipelineOut_eq_some]
  generalize firstState fl m = m0 at hm0
  constructor
  · rintro ⟨m', h, rfl⟩
    cases h1 : checkLoop o fl reg P l r .begin (Dict.keys P) m0 with
    | error e => simp [h1] at h
    | ok m1 =>
      obtain ⟨hpath, steps, hsteps, rfl⟩ := (checkLoop_iff hno P l r P hP _ _ _).1 h1
      have hkeys : steps.map (·.1) = Dict.keys P := mapValsM_keys hsteps
      obtain ⟨hs1, hs2⟩ := stored_fresh hm0 (hkeys ▸ hnd)
      simp only [h1, stored_rightDispMap, hkeys] at h
      by_cases hr : (m0.rightDispMap || Machine.hasKind .validation (Dict.keys P)) = true
      · -- the right/left round ran: the mirrored test passed and it stored the same outputs again
        rw [if_pos hr] at h
        obtain ⟨_, steps2, hsteps2, rfl⟩ := (checkLoop_iff hno P r l P hP _ _ _).1 h
        rw [mapValsM_stepOut_swap hsteps] at hsteps2
        cases hb : mirrorBad l r (Dict.keys P) with
        | true => simp [hb] at hsteps2
        | false =>
          simp only [hb, Bool.false_eq_true, if_false, Option.some.injEq] at hsteps2
          subst hsteps2
          exact ⟨hpath, rfl, steps, hsteps, hs2⟩
      · -- no validation step: nothing to mirror
        rw [if_neg hr] at h
        cases h
        simp only [Bool.or_eq_true, not_or, Bool.not_eq_true] at hr
        exact ⟨hpath, mirrorBad_of_no_validation hr.2, steps, hsteps, hs1⟩
  · rintro ⟨hpath, hb, steps, hsteps, rfl⟩
    have hkeys : steps.map (·.1) = Dict.keys P := mapValsM_keys hsteps
    obtain ⟨hs1, hs2⟩ := stored_fresh hm0 (hkeys ▸ hnd)
    have h1 := (checkLoop_iff hno P l r P hP .begin m0 _).2 ⟨hpath, steps, hsteps, rfl⟩
    simp only [h1]
    by_cases hr : (stored m0 steps).rightDispMap = true
    · have h2 := (checkLoop_iff hno P r l P hP .begin (stored m0 steps) _).2 ⟨hpath, steps, by
        rw [mapValsM_stepOut_swap hsteps, hb]; rfl, rfl⟩
      exact ⟨_, by rw [if_pos hr]; exact h2, hs2⟩
    · exact ⟨_, by rw [if_neg hr], hs1⟩

/-- the forward half: what a successful check leaves in `pipeline_cfg` -/
theorem machineCheck_fresh (hno : NoOptimization reg) {P : Dict} {l r : ImgInfo} {m m' : CState} (hfresh : FreshFor fl m)
    (hnd : (Dict.keys P).Nodup) (h : machineCheck o fl reg P l r m = .ok m') :
    pipelineOut o fl reg l r P = some m'.pipelineCfg :=
  (machineCheck_iff hno hfresh hnd _).1 ⟨m', h, rfl⟩

/-- **`PandoraMachine.check_conf` returns normally** exactly when `pipelineOut` is defined (`pipelineOut_isSome`: the
    step names are a path of the documented automaton, the mirrored validation test passes, every step has an output) -/
theorem machineCheck_ok_iff (hno : NoOptimization reg) {P : Dict} {l r : ImgInfo} {m : CState} (hfresh : FreshFor fl m)
    (hnd : (Dict.keys P).Nodup) :
    (∃ m', machineCheck o fl reg P l r m = .ok m') ↔ ∃ M, pipelineOut o fl reg l r P = some M :=
  ⟨fun ⟨_, h⟩ => ⟨_, machineCheck_fresh hno hfresh hnd h⟩,
   fun ⟨M, h⟩ => have ⟨m', h', _⟩ := (machineCheck_iff hno hfresh hnd M).2 h; ⟨m', h'⟩⟩

end Pandora.C05W
