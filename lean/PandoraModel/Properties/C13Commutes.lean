/-
  C13 — steps that commute with a re-indexing of the image.

  `Commutes D φ f`: on the images of class `D`, running `f` on the image read through `φ : Px → Px` is reading the result
  through `φ`.  Translation equivariance (`Equivariant`: every translation, every image) and the two forms of the vertical
  flip (`VFlip`: row negation, every image; `VFlipOn`: row negation, images whose domain is a product rows × columns) are
  its instances; the combinators are proved once, for every `φ`.
-/
import PandoraModel.Properties.C13Util

namespace Pandora.C13
open Pandora.Locality

def VFlip {α β : Type} (f : Img α → Img β) : Prop := ∀ a, f (vflip a) = vflip (f a)

/-- the image's domain is a product of a set of rows and a set of columns (true of every array) -/
def RectDom {α : Type} (a : Img α) : Prop :=
  ∃ (Rr Cc : Int → Prop), ∀ i j, (a (i, j)).isSome = true ↔ (Rr i ∧ Cc j)

def VFlipOn {α β : Type} (f : Img α → Img β) : Prop := ∀ a, RectDom a → f (vflip a) = vflip (f a)

def SameDom {α β : Type} (a : Img α) (b : Img β) : Prop := ∀ p, (b p).isSome = (a p).isSome

theorem sameDom_map {α β : Type} (a : Img α) (g : α → β) : SameDom a (fun p => (a p).map g) :=
  fun _ => Option.isSome_map

theorem SameDom.trans {α β γ : Type} {a : Img α} {b : Img β} {c : Img γ} (h1 : SameDom a b) (h2 : SameDom b c) :
    SameDom a c := fun p => (h2 p).trans (h1 p)

def AllImg {γ : Type} (_ : Img γ) : Prop := True

abbrev trans (t : Px) : Px → Px := fun q => (q.1 + t.1, q.2 + t.2)

abbrev negRow : Px → Px := fun q => (-q.1, q.2)

def Commutes (D : ∀ {γ : Type}, Img γ → Prop) (φ : Px → Px) {α β : Type} (f : Img α → Img β) : Prop :=
  ∀ b, D b → f (fun q => b (φ q)) = fun q => f b (φ q)

section
variable {D D' : ∀ {γ : Type}, Img γ → Prop} {φ : Px → Px} {α β γ : Type}

/-- `f` must keep the images in the class on which `g` commutes -/
theorem Commutes.comp {f : Img α → Img β} {g : Img β → Img γ} (hf : Commutes D φ f) (hd : ∀ b, D b → D' (f b))
    (hg : Commutes D' φ g) : Commutes D φ (g ∘ f) :=
  fun b hb => (congrArg g (hf b hb)).trans (hg (f b) (hd b hb))

theorem Commutes.map {f : Img α → Img β} (hf : Commutes D φ f) (g : β → γ) :
    Commutes D φ (fun a p => (f a p).map g) :=
  fun b hb => congrArg (fun (c : Img β) p => (c p).map g) (hf b hb)

theorem Commutes.bind {f : Img α → Img β} (hf : Commutes D φ f) (g : β → Option γ) :
    Commutes D φ (fun a p => (f a p).bind g) :=
  fun b hb => congrArg (fun (c : Img β) p => (c p).bind g) (hf b hb)

theorem Commutes.id : Commutes D φ (fun (a : Img α) => a) := fun _ _ => rfl

theorem _root_.Pandora.Locality.Equivariant.commutes {f : Img α → Img β} (h : Equivariant f) (t : Px) :
    Commutes AllImg (trans t) f := fun b _ => h t b

theorem Commutes.equivariant {f : Img α → Img β} (h : ∀ t, Commutes AllImg (trans t) f) : Equivariant f :=
  fun t b => h t b trivial

theorem Equivariant.comp {f : Img α → Img β} {g : Img β → Img γ} (hf : Equivariant f) (hg : Equivariant g) :
    Equivariant (g ∘ f) :=
  Commutes.equivariant fun t => (hf.commutes t).comp (fun _ _ => trivial) (hg.commutes t)

theorem VFlip.commutes {f : Img α → Img β} (h : VFlip f) : Commutes AllImg negRow f := fun b _ => h b

theorem Commutes.vflip {f : Img α → Img β} (h : Commutes AllImg negRow f) : VFlip f := fun b => h b trivial

end

def KeepsDom (D : ∀ {γ : Type}, Img γ → Prop) : Prop :=
  ∀ {α β : Type} (a : Img α) (b : Img β), SameDom a b → D a → D b

theorem keepsDom_all : KeepsDom AllImg := fun _ _ _ _ => trivial

theorem keepsDom_rect : KeepsDom RectDom := fun _ _ hd ⟨Rr, Cc, h⟩ => ⟨Rr, Cc, fun i j => by rw [hd (i, j)]; exact h i j⟩

end Pandora.C13
