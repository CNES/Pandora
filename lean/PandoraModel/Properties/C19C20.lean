/-
  C19 ∘ C20 (∘ C05 / C17) — the `margins` entry of the saved configuration is C20's `expectedEntries` /
  `expectedGlobal` of the saved pipeline: a function of the saved pipeline (and of the image shape, which
  the bilateral margin reads) alone.  Hence `cfg/config.json` is a fix-point of `main`.

  C20 is about lists of `StepCfg` and proves what the machine's `GlobalMargins` holds after `check_conf` under
  hypotheses on the pipeline (known kinds, distinct names, starts with the matching cost step, every margin
  non-negative); C05 is about the dictionaries `check_conf` returns.  Here the hypotheses are discharged for
  every accepted pipeline: the schemas of the source bound the four parameters the margins read from below.
-/
import PandoraModel.Properties.C19C05
import PandoraModel.Properties.C20

namespace Pandora.C19C20
open Pandora.Config Pandora.Margins Pandora.SaveConfig Pandora.Generated.Schemas
open Pandora.C19C05

theorem stepCfgOfJ_name (n : String) (v : JVal) : (stepCfgOfJ n v).name = n := by
  cases v <;> rfl

theorem stepCfgsOf_names (M : Dict) : (stepCfgsOf M).map (·.name) = Dict.keys M := by
  simp [stepCfgsOf, Dict.keys, stepCfgOfJ_name]

/-- the least integer a list of integer literals contains (`none`: empty, or not all integers) -/
def listLower : List JVal → Option Int
  | [] => none
  | [.int a] => some a
  | .int a :: rest =>
    match listLower rest with
    | some b => some (min a b)
    | none => none
  | _ => none

/-- a lower bound a lambda body enforces on its integer argument (recognised forms: `x >= b`, `x > b`,
    `x in (…)`, and any conjunction whose first conjunct is one of these) -/
def exprLower : Expr → Option Int
  | .cmp .ge .var (.lit (.int b)) => some b
  | .cmp .gt .var (.lit (.int b)) => some (b + 1)
  | .isIn .var items => listLower items
  | .and a _ => exprLower a
  | _ => none

theorem listLower_sound : ∀ (items : List JVal) (b : Int), listLower items = some b →
    ∀ it ∈ items, ∃ j, it = .int j ∧ b ≤ j := by
  intro items
  induction items with
  | nil => intro b h; simp [listLower] at h
  | cons x rest ih =>
    intro b h it hit
    cases x with
    | int a =>
      cases rest with
      | nil =>
        simp only [listLower, Option.some.injEq] at h
        simp only [List.mem_cons, List.not_mem_nil, or_false] at hit
        exact ⟨a, hit, by omega⟩
      | cons y ys =>
        simp only [listLower] at h
        cases hr : listLower (y :: ys) with
        | none => simp [hr] at h
        | some b' =>
          simp only [hr, Option.some.injEq] at h
          rcases List.mem_cons.1 hit with e | e
          · exact ⟨a, e, by omega⟩
          · obtain ⟨j, hj, hle⟩ := ih b' hr it e
            exact ⟨j, hj, by omega⟩
    | _ => simp [listLower] at h

theorem exprLower_sound : ∀ (e : Expr) (b : Int), exprLower e = some b →
    ∀ (v : JVal) (i : Int), intOf? v = some i → e.holds v = true → b ≤ i := by
  intro e
  fun_induction exprLower e with
  | case1 b0 =>
    intro b h v i hv hh
    simp only [Option.some.injEq] at h
    subst h
    rw [Merge.holds_of_eval (Merge.eval_cmp_var_lit (C17.toNum_of_intOf hv) ..)] at hh
    simpa [cmpNum, Num.le] using hh
  | case2 b0 =>
    intro b h v i hv hh
    simp only [Option.some.injEq] at h
    subst h
    rw [Merge.holds_of_eval (Merge.eval_cmp_var_lit (C17.toNum_of_intOf hv) ..)] at hh
    have : b0 < i := by simpa [cmpNum, Num.lt] using hh
    omega
  | case3 items =>
    intro b h v i hv hh
    rw [Merge.holds_isIn_var, List.any_eq_true] at hh
    obtain ⟨it, hit, heq⟩ := hh
    obtain ⟨j, rfl, hle⟩ := listLower_sound items b h it hit
    have hn := C17.toNum_of_intOf hv
    simp only [pyEq, hn] at heq
    have : i = j := by simpa [JVal.toNum?, Num.eq] using heq
    omega
  | case4 a c iha =>
    intro b h v i hv hh
    apply iha b h v i hv
    simp only [Expr.holds, Expr.eval] at hh ⊢
    cases ha : Expr.eval v a with
    | none => simp [ha] at hh
    | some va =>
      simp only [ha] at hh ⊢
      by_cases ht : va.truthy = true
      · exact ht
      · simp [ht] at hh
  | case5 e _ _ _ _ =>
    intro b h
    cases h

/-- the lower bound a schema `And(int, lambda)` enforces -/
def schemaLower : Schema → Option Int
  | .all [.type .int, .func e] => exprLower e
  | _ => none

theorem schemaLower_sound (o : Oracle) (s : Schema) (b : Int) (h : schemaLower s = some b) (v : JVal)
    (ha : Schema.accepts o s v = true) : ∃ i, intOf? v = some i ∧ b ≤ i := by
  unfold schemaLower at h
  split at h
  · rename_i e
    rw [Merge.accepts_type_func, Bool.and_eq_true] at ha
    obtain ⟨ht, hf⟩ := ha
    obtain ⟨i, hi⟩ := Option.isSome_iff_exists.1 ((C17W.intOf_isSome v).trans ht)
    exact ⟨i, hi, exprLower_sound e b h v i hi hf⟩
  · cases h

/-- `And(float, lambda x: x > 0)` -/
def positiveFloatS : Schema := .all [.type .float, .func (.cmp .gt .var (.lit (.int 0)))]

theorem positiveFloat_sound (o : Oracle) (v : JVal) (ha : Schema.accepts o positiveFloatS v = true) :
    0 ≤ ratOfJ 6 (some v) := by
  rw [positiveFloatS, Merge.accepts_type_func, Bool.and_eq_true] at ha
  obtain ⟨ht, hf⟩ := ha
  cases v <;> simp [PyType.isInstance] at ht
  rename_i f
  cases f with
  | num q =>
    rw [Merge.holds_of_eval (Merge.eval_cmp_var_lit (nx := .flt (.num q)) rfl ..)] at hf
    simp only [cmpNum, Num.lt, FVal.lt, FVal.ofInt, decide_eq_true_eq] at hf
    simp only [ratOfJ]
    have : ((0 : Int) : Rat) < q := hf
    have h0 : ((0 : Int) : Rat) = 0 := by norm_num
    rw [h0] at this
    exact le_of_lt this
  | _ => simp [ratOfJ]

/-- the schema of a class polices the four parameters the margins read: whenever it has an entry
    `window_size` / `filter_size` / `step`, the entry is an `And(int, lambda)` of a recognised form with
    lower bound ≥ 1 / 0 / 0; an entry `sigma_space` is `And(float, lambda x: x > 0)` -/
def MarginSafe (c : ClassDesc) : Prop :=
  ∀ e ∈ c.schema,
    (e.1 = "window_size" → ∃ b ∈ schemaLower e.2.2, 1 ≤ b) ∧ (e.1 = "filter_size" → ∃ b ∈ schemaLower e.2.2, 0 ≤ b) ∧
    (e.1 = "step" → ∃ b ∈ schemaLower e.2.2, 0 ≤ b) ∧ (e.1 = "sigma_space" → e.2.2 = positiveFloatS)

instance (c : ClassDesc) : Decidable (MarginSafe c) := by unfold MarginSafe; infer_instance

theorem generated_marginSafe : ∀ kc ∈ C05.allClasses, MarginSafe kc.2 := by decide +kernel

/-- the parameters of a step are in the domain where no margin is negative -/
def GoodCfg (c : StepCfg) : Prop :=
  1 ≤ c.windowSize ∧ 0 ≤ c.filterSize ∧ 0 ≤ c.sigmaSpace ∧ 0 ≤ c.stepParam

theorem intOfJ_bound (o : Oracle) (entries : List (String × Bool × Schema)) (out : Dict) (k : String) (d lb : Int)
    (hd : lb ≤ d)
    (hacc : Schema.accepts o (.dict entries) (.obj out) = true)
    (hsafe : ∀ e ∈ entries, e.1 = k → ∃ b, schemaLower e.2.2 = some b ∧ lb ≤ b) :
    lb ≤ intOfJ d (Dict.lookup out k) := by
  cases hl : Dict.lookup out k with
  | none => simpa [intOfJ] using hd
  | some v =>
    obtain ⟨e, he, hek, this⟩ := Merge.dict_accepts_lookup hacc hl
    obtain ⟨b, hb, hle⟩ := hsafe e he hek
    obtain ⟨i, hi, hbi⟩ := schemaLower_sound o e.2.2 b hb v this
    simp only [intOfJ, hi, Option.getD_some]
    omega

/-- **accepted ⇒ in the domain**: a dictionary a `MarginSafe` class's schema accepts reads as a `GoodCfg` -/
theorem accepted_goodCfg (o : Oracle) (c : ClassDesc) (hsafe : MarginSafe c) (n : String) (out : Dict)
    (hacc : Schema.accepts o (.dict c.schema) (.obj out) = true) : GoodCfg (stepCfgOfJ n (.obj out)) := by
  refine ⟨?_, ?_, ?_, ?_⟩
  · exact intOfJ_bound o c.schema out "window_size" 5 1 (by decide) hacc fun e he => (hsafe e he).1
  · exact intOfJ_bound o c.schema out "filter_size" 3 0 (by decide) hacc fun e he => (hsafe e he).2.1
  · show 0 ≤ ratOfJ 6 (Dict.lookup out "sigma_space")
    cases hl : Dict.lookup out "sigma_space" with
    | none => simp [ratOfJ]
    | some v =>
      obtain ⟨e, he, hek, this⟩ := Merge.dict_accepts_lookup hacc hl
      rw [(hsafe e he).2.2.2 hek] at this
      exact positiveFloat_sound o v this
  · exact intOfJ_bound o c.schema out "step" 1 0 (by decide) hacc fun e he => (hsafe e he).2.2.1

theorem entries_valid (rows cols : Int) (hr : 0 ≤ rows) (hc : 0 ≤ cols) :
    ∀ (p : List StepCfg) (step : Int), 0 ≤ step → (∀ c ∈ p, GoodCfg c) →
      ∀ e ∈ C20.entries rows cols p step, e.m.valid = true := by
  intro p
  induction p with
  | nil => intro _ _ _ e he; simp [C20.entries] at he
  | cons c cs ih =>
    intro step hs hg e he
    obtain ⟨hw, hf, hsig, hsp⟩ := hg c (by simp)
    simp only [C20.entries, entryOf] at he
    cases hk : Machine.Kind.ofName? (Machine.kindOf c.name) with
    | none => simp [hk] at he
    | some k =>
      simp only [hk] at he
      have hs' : 0 ≤ stepAfter step c k := by
        unfold stepAfter
        split
        · exact hsp
        · exact hs
      rcases List.mem_cons.1 he with e1 | e1
      · subst e1
        exact (C20.valid_iff_nonneg _).2 (C20.documentedMargin_nonneg k c rows cols _ hw hf hs' hr hc hsig)
      · exact ih _ hs' (fun x hx => hg x (by simp [hx])) e e1

/-- **C20's hypotheses, discharged**: for every pipeline `check_pipeline_section` accepts (registry and
    schemas of the source, fresh machine), the checked pipeline read as `List StepCfg` has only step kinds
    as names, distinct names, starts with its matching cost step, and every step's parameters are in the
    domain where the margins are non-negative -/
theorem accepted_pipeline_facts {o : Oracle} {fl : MachineFlags} {P : Dict} {l r : ImgInfo}
    {m m' : CState} {out : Dict} (hfresh : C05W.FreshFor fl m) (hwf : Merge.wfDict P = true)
    (h : checkPipelineSection o fl registry [("pipeline", .obj P)] l r m = .ok (out, m')) :
    C20.KnownKinds (stepCfgsOf m'.pipelineCfg) ∧
    ((stepCfgsOf m'.pipelineCfg).map (·.name)).Nodup ∧
    C20.StartsWithMatchingCost (stepCfgsOf m'.pipelineCfg) ∧
    (∀ c ∈ stepCfgsOf m'.pipelineCfg, GoodCfg c) := by
  obtain ⟨hnd, hpath, _, hsteps⟩ := (C05W.checked_of_checkPipelineSection hfresh hwf h).steps
  refine ⟨?_, by rw [stepCfgsOf_names]; exact hnd, ?_, ?_⟩
  · intro c hc
    obtain ⟨kv, hkv, rfl⟩ := List.mem_map.1 hc
    obtain ⟨_, _, ho, _⟩ := hsteps kv hkv
    obtain ⟨kind, _, _, hkind, _⟩ := C05W.stepOut_eq_some.1 ho
    rw [stepCfgOfJ_name, hkind]
    rfl
  · cases hM : m'.pipelineCfg with
    | nil => trivial
    | cons kv rest =>
      rw [hM] at hpath
      obtain ⟨k, st', hk, hd, _⟩ := Machine.isPath_cons_iff.1 hpath
      simp only [stepCfgsOf, List.map_cons, C20.StartsWithMatchingCost, stepCfgOfJ_name, hk]
      cases k <;> first | rfl | cases hd
  · intro c hc
    obtain ⟨kv, hkv, rfl⟩ := List.mem_map.1 hc
    obtain ⟨cfg, hv, ho, _⟩ := hsteps kv hkv
    obtain ⟨_, _, kd, _, hv', hkd, hcon, _⟩ := C05W.stepOut_eq_some.1 ho
    cases hv'
    rw [hv]
    obtain ⟨_, c, _, hf, hcc⟩ := C05W.construct_ok_iff.1 hcon
    have hall := C05W.mem_allClasses (C05W.kindDesc_some hkd).1 (C05W.findClass_some hf).1
    exact accepted_goodCfg o c (generated_marginSafe _ hall) kv.1 cfg (C05.classCheck_ok hcc).2

/-- **the two models of the check callbacks agree that no margin registration raises**: on an accepted
    pipeline (where `Config.lean`'s callbacks return normally) C20's model of the margin bookkeeping —
    which refuses negative margins and a key present in both dictionaries — is defined, and is C20's
    specification -/
theorem accepted_margins_defined {o : Oracle} {fl : MachineFlags} {P : Dict} {l r : ImgInfo}
    {m m' : CState} {out : Dict} (hfresh : C05W.FreshFor fl m) (hwf : Merge.wfDict P = true)
    (h : checkPipelineSection o fl registry [("pipeline", .obj P)] l r m = .ok (out, m'))
    (rows cols : Nat) :
    machineMargins rows cols rows cols m'.pipelineCfg =
      some { cumulatives := expectedEntries .cumulative rows cols (stepCfgsOf m'.pipelineCfg) 1,
             nonCumulatives := expectedEntries .nonCumulative rows cols (stepCfgsOf m'.pipelineCfg) 1 } := by
  obtain ⟨hk, hnd, hmc, hgood⟩ := accepted_pipeline_facts hfresh hwf h
  have hv := entries_valid rows cols (Int.natCast_nonneg _) (Int.natCast_nonneg _) _ 1 (by decide) hgood
  unfold machineMargins
  rw [C20.second_round_noop _ _ _ hk hnd hmc hv, C20.margins_listed _ _ _ hk hnd hv]
  rfl

theorem globalToJ_expected (rows cols : Int) (p : List StepCfg) :
    globalToJ { cumulatives := expectedEntries .cumulative rows cols p 1,
                nonCumulatives := expectedEntries .nonCumulative rows cols p 1 } = expectedMarginsJ rows cols p := by
  simp [globalToJ, expectedMarginsJ, C20.global_formula]

def shapeOf (files : Files) (S : Dict) : Option (Nat × Nat) :=
  (C17W.imgOf files S).map fun fi => (fi.height, fi.width)

/-- **Model of `cfg/config.json`** as `main` writes it from `check_conf`'s result `out`: the machine's
    margins (registered by the check callbacks from the checked steps and the shapes of the two images
    `out` names), `to_dict()`, stored under `margins` as the regenerated `mainFacts` say -/
def savedFile (files : Files) (out : Dict) : Option Dict :=
  match sideDict out "left", sideDict out "right" with
  | some L, some R =>
    match shapeOf files L, shapeOf files R with
    | some (rows, cols), some (rows2, cols2) =>
      savedConfig Pandora.Generated.mainFacts Pandora.Generated.runWritesIndicator out rows cols rows2 cols2
    | _, _ => none
  | _, _ => none

/-- `check_conf`, then what `main` saves -/
def mainConfig (files : Files) (fl : MachineFlags) (user : Dict) (m : CState) : Option Dict :=
  match checkConf files inputSchemas fl registry user m with
  | .ok (out, _) => savedFile files out
  | .error _ => none

/-- the margins do not read `indicator`: what `run` writes into the pipeline leaves C20's reading unchanged -/
theorem stepCfgsOf_runPipeline (M : Dict) : stepCfgsOf (runPipeline M) = stepCfgsOf M := by
  simp only [stepCfgsOf, runPipeline, List.map_map]
  apply List.map_congr_left
  intro kv _
  simp only [Function.comp, runStep]
  by_cases hcvc : Machine.kindOf kv.1 = "cost_volume_confidence"
  · simp only [hcvc, if_true]
    cases hv : kv.2 with
    | obj step =>
      simp only [stepCfgOfJ]
      rw [Merge.lookup_setKey_ne _ _ _ _ (by decide), Merge.lookup_setKey_ne _ _ _ _ (by decide),
        Merge.lookup_setKey_ne _ _ _ _ (by decide), Merge.lookup_setKey_ne _ _ _ _ (by decide),
        Merge.lookup_setKey_ne _ _ _ _ (by decide)]
    | _ => simp [hv]
  · simp [hcvc]

theorem stepCfgsOf_afterRun (w : Bool) (M : Dict) : stepCfgsOf (afterRunPipeline w M) = stepCfgsOf M := by
  cases w
  · rfl
  · simp [afterRunPipeline, stepCfgsOf_runPipeline]

/-- **The saved margins are C20's expected margins of the saved pipeline.**  For every configuration
    `check_conf` accepts, `main` writes a file; its `pipeline` entry `M` is the checked pipeline with the
    indicators `run` wrote, and its `margins` entry is `expectedMarginsJ rows cols (stepCfgsOf M)`:
    cumulative entries = the steps of `M` whose kind cumulates, in order, with the documented margins;
    non-cumulative entries = the filters; global = per side the larger of the cumulative sum and each
    non-cumulative one — a function of the saved pipeline and of the shape of the left image the saved
    input names, and of nothing else.
    Facts about `main` used: `mainFacts.addsMargins` (the entry is the machine's `margins.to_dict()`),
    `mainFacts.writesRightDisp = false` (the saved `input` is `check_conf`'s). -/
theorem saved_margins_expected (files : Files) (fl : MachineFlags) (user kvs P : Dict) (m m' : CState) (out : Dict)
    (hin : Dict.lookup user "input" = some (.obj kvs)) (hpi : Dict.lookup user "pipeline" = some (.obj P))
    (hnd : (Dict.keys kvs).Nodup) (hfresh : C05W.FreshFor fl m) (hwf : Merge.wfDict P = true)
    (h : checkConf files inputSchemas fl registry user m = .ok (out, m')) :
    ∃ saved L M rows cols,
      savedFile files out = some saved ∧
      sideDict saved "left" = some L ∧ shapeOf files L = some (rows, cols) ∧
      Dict.lookup saved "pipeline" = some (.obj M) ∧
      Dict.lookup saved "margins" = some (expectedMarginsJ rows cols (stepCfgsOf M)) ∧
      saved = mainSavedDict Pandora.Generated.mainFacts (afterRun Pandora.Generated.runWritesIndicator out)
        (expectedMarginsJ rows cols (stepCfgsOf M)) := by
  obtain ⟨L', R', hout, hform, _, hcp⟩ := C05C.checkConf_ok_shape hin hpi hnd hfresh hwf h
  generalize hM : m'.pipelineCfg = M at hout
  -- the two images have one shape
  obtain ⟨iml, imr, hl, hr, ⟨hw, hh⟩, _⟩ := C17W.formOk_iff.1 hform
  have hmm := accepted_margins_defined hfresh hwf hcp iml.height iml.width
  rw [hM] at hmm
  have hsaved : savedFile files out = some (mainSavedDict Pandora.Generated.mainFacts
      (afterRun Pandora.Generated.runWritesIndicator out)
      (expectedMarginsJ iml.height iml.width (stepCfgsOf (afterRunPipeline Pandora.Generated.runWritesIndicator M)))) := by
    rw [stepCfgsOf_afterRun, hout]
    simp only [savedFile, savedConfig, sideDict, Dict.lookup, if_true, shapeOf, hl, hr, Option.map_some,
      String.reduceEq, if_false, ← hw, ← hh, hmm, globalToJ_expected]
  refine ⟨_, L', afterRunPipeline Pandora.Generated.runWritesIndicator M, iml.height, iml.width, hsaved, ?_,
    by simp [shapeOf, hl], ?_, ?_, rfl⟩
  all_goals
    rw [hout, afterRun_shape, mainSavedDict_source]
    simp [sideDict, Dict.lookup]

/-- `main` writes a configuration file for every configuration `check_conf` accepts (no margin
    registration raises) -/
theorem main_config_defined (files : Files) (fl : MachineFlags) (user kvs P : Dict) (m m' : CState) (out : Dict)
    (hin : Dict.lookup user "input" = some (.obj kvs)) (hpi : Dict.lookup user "pipeline" = some (.obj P))
    (hnd : (Dict.keys kvs).Nodup) (hfresh : C05W.FreshFor fl m) (hwf : Merge.wfDict P = true)
    (h : checkConf files inputSchemas fl registry user m = .ok (out, m')) :
    ∃ saved, mainConfig files fl user m = some saved := by
  obtain ⟨saved, _, _, _, _, hs, _⟩ := saved_margins_expected files fl user kvs P m m' out hin hpi hnd hfresh hwf h
  exact ⟨saved, by simp [mainConfig, h, hs]⟩

/-- the shapes and the margins `savedFile` reads do not see what `run` wrote: the file `main` would write
    from the configuration after `run` is the file it writes from `check_conf`'s result -/
theorem savedFile_afterRun (files : Files) (I : JVal) (M : Dict) :
    savedFile files (afterRun Pandora.Generated.runWritesIndicator [("input", I), ("pipeline", .obj M)]) =
      savedFile files [("input", I), ("pipeline", .obj M)] := by
  rw [afterRun_shape]
  simp only [savedFile, savedConfig, sideDict, Dict.lookup, if_true,
    String.reduceEq, if_false, afterRun_shape, afterRunPipeline_idem,
    machineMargins, stepCfgsOf_afterRun]

/-- **`cfg/config.json` is a fix-point of `main`** (C05 ∘ C17 ∘ C19 ∘ C20): the file `main` writes for an
    accepted configuration, given to `main` again (fresh machine), is accepted and written again
    unchanged — same input section, same steps and parameters, same indicators, same margins. -/
theorem main_config_fixpoint (files : Files) (fl : MachineFlags) (user kvs P : Dict) (m : CState) (saved : Dict)
    (hin : Dict.lookup user "input" = some (.obj kvs)) (hpi : Dict.lookup user "pipeline" = some (.obj P))
    (hnd : C17W.NodupSection kvs) (hfresh : C05W.FreshFor fl m) (hwf : Merge.wfDict P = true)
    (h : mainConfig files fl user m = some saved) (m2 : CState) (hfresh2 : C05W.FreshFor fl m2) :
    mainConfig files fl saved m2 = some saved := by
  unfold mainConfig at h
  cases hc : checkConf files inputSchemas fl registry user m with
  | error e => simp [hc] at h
  | ok res =>
    obtain ⟨out, m'⟩ := res
    simp only [hc] at h
    obtain ⟨saved', _, _, _, _, hs, _, _, _, _, heq⟩ :=
      saved_margins_expected files fl user kvs P m m' out hin hpi hnd.1 hfresh hwf hc
    rw [hs] at h
    simp only [Option.some.injEq] at h
    subst h
    obtain ⟨m2', h2⟩ := saved_config_replays_any Pandora.Generated.runWritesIndicator files fl user kvs P m m' out
      hin hpi hnd hfresh hwf hc Pandora.Generated.mainFacts source_main_facts.1 (expectedMarginsJ _ _ (stepCfgsOf _)) m2 hfresh2
    rw [← heq] at h2
    obtain ⟨L', R', hout, _⟩ := C05C.checkConf_ok_shape hin hpi hnd.1 hfresh hwf hc
    have : savedFile files (afterRun Pandora.Generated.runWritesIndicator out) = savedFile files out := by
      rw [hout]; exact savedFile_afterRun files _ _
    simp [mainConfig, h2, this, hs]

theorem documentedMargin_shape (k : Machine.Kind) (c : StepCfg) (rows cols rows' cols' step : Int)
    (h : k = .filter → (c.method == "bilateral") = false) :
    documentedMargin k c rows cols step = documentedMargin k c rows' cols' step := by
  cases k <;> simp only [documentedMargin]
  simp [h rfl]

/-- **without a bilateral filter the saved margins do not depend on the image**: they are a function of
    the saved pipeline alone -/
theorem margins_shape_independent (reg : Reg) (rows cols rows' cols' : Int) :
    ∀ (p : List StepCfg) (step : Int), (∀ c ∈ p, (c.method == "bilateral") = false) →
      expectedEntries reg rows cols p step = expectedEntries reg rows' cols' p step := by
  intro p
  induction p with
  | nil => intro _ _; rfl
  | cons c cs ih =>
    intro step h
    have hc := h c (by simp)
    have hcs : ∀ x ∈ cs, (x.method == "bilateral") = false := fun x hx => h x (by simp [hx])
    simp only [expectedEntries]
    cases hk : Machine.Kind.ofName? (Machine.kindOf c.name) with
    | none => exact ih step hcs
    | some k =>
      simp only
      rw [ih _ hcs, documentedMargin_shape k c rows cols rows' cols' _ (fun _ => hc)]

theorem expectedMarginsJ_shape_independent (rows cols rows' cols' : Int) (p : List StepCfg)
    (h : ∀ c ∈ p, (c.method == "bilateral") = false) :
    expectedMarginsJ rows cols p = expectedMarginsJ rows' cols' p := by
  unfold expectedMarginsJ
  rw [margins_shape_independent .cumulative rows cols rows' cols' p 1 h,
    margins_shape_independent .nonCumulative rows cols rows' cols' p 1 h]

/-- a configuration with a suffixed confidence step (`run` writes its indicator `".amb"` into the saved
    pipeline), a bilateral filter (its margin reads the image shape: 5 × 6 pixels, `int(3 · 6 + 1) = 19`,
    hence 5), a median filter after the validation, defaults everywhere -/
def exUser : Dict :=
  [("input", .obj [("left", .obj [("img", .str "l.tif"), ("disp", .list [.int (-3), .int 2])]),
                   ("right", .obj [("img", .str "r.tif")])]),
   ("pipeline", .obj [
     ("matching_cost", .obj [("matching_cost_method", .str "sad"), ("window_size", .int 7)]),
     ("cost_volume_confidence.amb", .obj [("confidence_method", .str "ambiguity")]),
     ("disparity", .obj [("disparity_method", .str "wta")]),
     ("filter", .obj [("filter_method", .str "bilateral")]),
     ("validation", .obj [("validation_method", .str "cross_checking_accurate")]),
     ("filter.after", .obj [("filter_method", .str "median")])])]

def exMargins : JVal :=
  .obj [("cumulative margins", .obj [
          ("matching_cost", .obj [("left", .int 3), ("up", .int 3), ("right", .int 3), ("down", .int 3)]),
          ("disparity", .obj [("left", .int 0), ("up", .int 0), ("right", .int 0), ("down", .int 0)])]),
        ("non-cumulative margins", .obj [
          ("filter", .obj [("left", .int 5), ("up", .int 5), ("right", .int 5), ("down", .int 5)]),
          ("filter.after", .obj [("left", .int 3), ("up", .int 3), ("right", .int 3), ("down", .int 3)])]),
        ("global margins", .obj [("left", .int 5), ("up", .int 5), ("right", .int 5), ("down", .int 5)])]

/-- `main` on the concrete configuration: the saved file ends with the expected margins, holds the
    indicator `run` wrote, and `main` on the saved file writes it again -/
example :
    (mainConfig C17.fs machineFlags exUser {}).bind (fun s => Dict.lookup s "margins") = some exMargins ∧
    ((mainConfig C17.fs machineFlags exUser {}).bind (fun s => Dict.lookup s "pipeline")).bind
      (fun p => match p with
        | .obj M => (Dict.lookup M "cost_volume_confidence.amb").bind fun st =>
            match st with | .obj d => Dict.lookup d "indicator" | _ => none
        | _ => none) = some (.str ".amb") ∧
    ((mainConfig C17.fs machineFlags exUser {}).bind (fun s => mainConfig C17.fs machineFlags s {})) =
      mainConfig C17.fs machineFlags exUser {} ∧
    (mainConfig C17.fs machineFlags exUser {}).isSome = true := by
  -- one evaluation of the run; that `main` on the saved file writes it again is `main_config_fixpoint`
  have h : (mainConfig C17.fs machineFlags exUser {}).bind (fun s => Dict.lookup s "margins") = some exMargins ∧
      ((mainConfig C17.fs machineFlags exUser {}).bind (fun s => Dict.lookup s "pipeline")).bind
        (fun p => match p with
          | .obj M => (Dict.lookup M "cost_volume_confidence.amb").bind fun st =>
              match st with | .obj d => Dict.lookup d "indicator" | _ => none
          | _ => none) = some (.str ".amb") ∧
      (mainConfig C17.fs machineFlags exUser {}).isSome = true := by decide +kernel
  obtain ⟨saved, hs⟩ := Option.isSome_iff_exists.1 h.2.2
  refine ⟨h.1, h.2.1, ?_, h.2.2⟩
  rw [hs]
  exact main_config_fixpoint C17.fs machineFlags exUser _ _ {} saved rfl rfl
    (C17W.nodupSection_of_B (by decide +kernel)) (C05W.FreshFor.of_new _) (by decide +kernel) hs {}
    (C05W.FreshFor.of_new _)

/-- the recognisers see the bounds of the source: `window_size` of census ≥ 3, of sad / ssd ≥ 1 -/
example :
    (Census.schema.find? (·.1 == "window_size")).map (fun e => schemaLower e.2.2) = some (some 3) ∧
    (SadSsd.schema.find? (·.1 == "window_size")).map (fun e => schemaLower e.2.2) = some (some 1) ∧
    (MedianFilter.schema.find? (·.1 == "filter_size")).map (fun e => schemaLower e.2.2) = some (some 1) ∧
    (BilateralFilter.schema.find? (·.1 == "sigma_space")).map (fun e => decide (e.2.2 = positiveFloatS)) = some true := by
  decide +kernel

end Pandora.C19C20
