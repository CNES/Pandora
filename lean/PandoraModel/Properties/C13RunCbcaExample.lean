/-
  C13 — non-vacuity of `runCbca_crop_eq_whole` (`C13RunCbca.lean`): a concrete pair and its crop satisfy every hypothesis.

  The runs are evaluated by the kernel.  The model represents images and cost volumes as functions, so that a literal
  evaluation computes the 3 × 3 median pre-filter of cross-based aggregation again at every pixel every arm of every
  support region reads.  The evaluation is therefore staged at that point: the two pre-filtered images of a pair are
  tabulated once (`preL`, `preR` below), and the run is evaluated on the tables.  What licenses reading a table instead of
  the function is `refineGridR_cbca`: the grid handed to the refinement — all that the later stages see of the cost rows —
  depends on the pre-filtered images on the image only (`crossSupport_congr`, `aggregate_eq_aggregateWith`), and
  `Blocks.tabulate` read back is the function there (`rd_of_tabulate`).
-/
import PandoraModel.Properties.C13RunCbca

namespace Pandora.C13
open Pandora.Locality

section
open Pandora.Cbca

def rd {α : Type} (d : α) (t : List (List α)) (r c : Nat) : α := (t.getD r []).getD c d

theorem rd_of_tabulate {α : Type} {rows cols : Nat} {g : Nat → Nat → α} {t : List (List α)} (d : α)
    (h : Blocks.tabulate rows cols g = t) (r c : Nat) (hr : r < rows) (hc : c < cols) : rd d t r c = g r c := by
  unfold rd
  rw [← h, Blocks.getD_tabulate, if_pos ⟨hr, hc⟩]

/-- the aggregated cost row of a pixel, with `fl` for the pre-filtered left image and `fr` for the pre-filtered unshifted
    right image (the shifted right images are the model's) -/
def aggRowOf (K : RunCfg) (G : AggCfg) (x : MC.Input) (fl fr : Cbca.Img) (r c : Nat) : List Val :=
  let inp := cbcaInputOf K G x
  (List.range (nOf x)).map (aggregateWith inp (crossSupport inp.mr inp.h inp.w inp.dist inp.I (crop inp.off fl))
    (fun k => crossSupport inp.mr inp.h (inp.wr k) inp.dist inp.I
      (crop inp.off (if k = 0 then fr else inp.filteredR k))) r c)

theorem aggRow_eq_aggRowOf (K : RunCfg) (G : AggCfg) (x : MC.Input) (fl fr : Cbca.Img) (hN : NanOutsideOK K G x)
    (hl : ∀ y c, y < x.L.rows → c < x.L.cols → fl y c = (cbcaInputOf K G x).filteredL y c)
    (hr : ∀ y c, y < x.L.rows → c < x.L.cols → fr y c = (cbcaInputOf K G x).filteredR 0 y c) (r c : Nat) :
    aggRow K G x r c = aggRowOf K G x fl fr r c := by
  unfold aggRow aggRowOf
  apply List.map_congr_left
  intro dsp hd
  apply aggregate_eq_aggregateWith _ _ _ _ (hN dsp (List.mem_range.1 hd))
  · intro y c hy hc
    apply crossSupport_congr _ _ _ _ _ _ _ _ y c hy hc
    intro y c hy hc
    exact hl _ _ (lt_of_lt_sub_margin hy) (lt_of_lt_sub_margin hc)
  · intro k y c hy hc
    apply crossSupport_congr _ _ _ _ _ _ _ _ y c hy hc
    intro y c hy hc
    unfold crop
    split
    · next hk =>
      subst hk
      exact hr _ _ (lt_of_lt_sub_margin hy) (lt_of_lt_sub_margin hc)
    · rfl

end

/-- the grid the refinement reads, winner-takes-all taken pixel by pixel -/
def gridOf (K : RunCfg) (x : MC.Input) (R : Nat → Nat → List Val) : List (List Refinement.PixIn) :=
  Blocks.tabulate x.L.rows x.L.cols fun r c =>
    ⟨R r c, Wta.wtaPixel K.isMax K.disps (R r c) K.invalid, C04C02.composedMask x r c,
      ((x.dminG (r : Int) (c : Int) : Int) : Rat), ((x.dmaxG (r : Int) (c : Int) : Int) : Rat)⟩

theorem refineGridR_congr (K : RunCfg) (x : MC.Input) (R R' : Nat → Nat → List Val)
    (h0 : K.sW.beginY = 0 ∧ K.sW.beginX = 0) (hR : ∀ r c, r < x.L.rows → c < x.L.cols → R r c = R' r c) :
    refineGridR K x R = gridOf K x R' := by
  unfold refineGridR gridOf
  apply Blocks.tabulate_congr
  intro r hr c hc
  unfold wtaMapR
  rw [C03.toDisp_eq_pixel K.sW h0 (wtaIn K x R) r c hr hc]
  show (⟨R r c, Wta.wtaPixel K.isMax K.disps (R r c) K.invalid, _, _, _⟩ : Refinement.PixIn) = _
  rw [hR r c hr hc]

/-- **the grid of the run with cross-based aggregation, from tables of the two pre-filtered images** -/
theorem refineGridR_cbca (K : RunCfg) (G : AggCfg) (x : MC.Input) (tl tr : List (List Val))
    (h0 : K.sW.beginY = 0 ∧ K.sW.beginX = 0) (hN : NanOutsideOK K G x)
    (hl : Blocks.tabulate x.L.rows x.L.cols (cbcaInputOf K G x).filteredL = tl)
    (hr : Blocks.tabulate x.L.rows x.L.cols ((cbcaInputOf K G x).filteredR 0) = tr) :
    refineGridR K x (aggRow K G x) = gridOf K x (aggRowOf K G x (rd .nan tl) (rd .nan tr)) :=
  refineGridR_congr K x _ _ h0 fun r c _ _ =>
    aggRow_eq_aggRowOf K G x _ _ hN (fun y c hy hc => rd_of_tabulate .nan hl y c hy hc)
      (fun y c hy hc => rd_of_tabulate .nan hr y c hy hc) r c

theorem filtered_swap (K K' : RunCfg) (G : AggCfg) (x : MC.Input) (hr : x.R.rows = x.L.rows) (hc : x.R.cols = x.L.cols) :
    (cbcaInputOf K' G (swapInput x)).filteredL = (cbcaInputOf K G x).filteredR 0 ∧
    (cbcaInputOf K' G (swapInput x)).filteredR 0 = (cbcaInputOf K G x).filteredL := by
  unfold Cbca.Input.filteredL Cbca.Input.filteredR
  rw [if_pos rfl, if_pos rfl]
  show Cbca.median3 x.R.rows x.R.cols _ = Cbca.median3 x.L.rows x.L.cols _ ∧
    Cbca.median3 x.R.rows x.R.cols _ = Cbca.median3 x.L.rows x.L.cols _
  rw [hr, hc]
  exact ⟨rfl, rfl⟩

/-! ### Non-vacuity: a 3 × 11 sad pair (window 3, interval [-1, 0], `cbca_distance` 2, vfit, median 3, source block
    splits) and its 3 × 10 crop starting at column 1: both runs return, every hypothesis of `runCbca_crop_eq_whole`
    holds at crop pixel (1, 5) — (1, 6) of the whole — whose clipped cone (5 columns to the left, 4 to the right) lies
    in the crop -/

namespace RunCbcaExample
open RunExample

def exL : MC.Img := { rows := 3, cols := 11, px := fun r c => ((r * c + 2 * c + (c / 4) * 7 : Int) : Rat) }
def exR : MC.Img := { rows := 3, cols := 11, px := fun r c => ((r * c + 2 * c + (c / 4) * 7 + r - 2 : Int) : Rat) }

def exWhole : MC.Input where
  meas := .sad
  w := 3
  sp := 1
  L := exL
  R := exR
  mL := noMask
  mR := noMask
  dminG := fun _ _ => -1
  dmaxG := fun _ _ => 0

def exCrop : MC.Input :=
  { exWhole with
    L := { rows := 3, cols := 10, px := fun r c => exL.px r (c + 1) }
    R := { rows := 3, cols := 10, px := fun r c => exR.px r (c + 1) } }

def exG : AggCfg := { dist := 2, I := 5, mr := .loopVar }

theorem exCropRun : CropRun exWhole exCrop 0 1 := by
  refine ⟨rfl, ?_, by decide, by decide +kernel, by decide +kernel, by decide +kernel, by decide +kernel⟩
  intro r c _ _
  simp only [mcScene, exCrop, exWhole, exL, exR, noMask, Nat.add_zero]
  push_cast
  rfl

theorem exCone : runCbcaCone exK exK' exG exCP exWhole = ⟨3, 3, 5, 4⟩ := by decide +kernel

def numT (t : List (List Int)) : List (List Val) := t.map (·.map fun n => .num n)

/-- the pre-filtered (3 × 3 median) left and right image of the whole pair (`preL_whole`, `preR_whole`); for this pair those of the
    crop happen to be these without column 0, which `preL_crop`, `preR_crop` check by evaluation -/
def preL : List (List Int) :=
  [[0, 2, 4, 6, 15, 17, 19, 21, 30, 32, 34], [0, 3, 6, 9, 17, 22, 25, 30, 35, 41, 44], [0, 4, 8, 12, 23, 27, 31, 35, 46, 50, 54]]
def preR : List (List Int) :=
  [[-2, 0, 2, 4, 13, 15, 17, 19, 28, 30, 32], [-1, 2, 4, 8, 15, 21, 24, 28, 35, 40, 43], [0, 4, 8, 12, 23, 27, 31, 35, 46, 50, 54]]

theorem preL_whole : Blocks.tabulate 3 11 (cbcaInputOf exK exG exWhole).filteredL = numT preL := by decide +kernel
theorem preR_whole : Blocks.tabulate 3 11 ((cbcaInputOf exK exG exWhole).filteredR 0) = numT preR := by decide +kernel
theorem preL_crop : Blocks.tabulate 3 10 (cbcaInputOf exK exG exCrop).filteredL = numT (preL.map (List.drop 1)) := by
  decide +kernel
theorem preR_crop : Blocks.tabulate 3 10 ((cbcaInputOf exK exG exCrop).filteredR 0) = numT (preR.map (List.drop 1)) := by
  decide +kernel

theorem exOKW : RunOK exK exK' exWhole :=
  exOK exWhole rfl (by decide) (by decide) ⟨by decide, by decide⟩ ⟨by decide, by decide⟩
theorem exOKC : RunOK exK exK' exCrop :=
  exOK exCrop rfl (by decide) (by decide) ⟨by decide, by decide⟩ ⟨by decide, by decide⟩

/-- the left chains return maps whose valid disparities round into the interval of `exCP`; the right chains return -/
theorem exLeft : (afterFilterR exK exWhole (aggRow exK exG exWhole)).any (leftInIntervalB exCP 3 11) = true
    ∧ (afterFilterR exK exCrop (aggRow exK exG exCrop)).any (leftInIntervalB exCP 3 10) = true := by
  unfold afterFilterR afterRefineR
  rw [refineGridR_cbca exK exG exWhole _ _ ⟨rfl, rfl⟩ (nanOutsideOK_of_mcOK exK exG exOKW.mc rfl) preL_whole preR_whole,
    refineGridR_cbca exK exG exCrop _ _ ⟨rfl, rfl⟩ (nanOutsideOK_of_mcOK exK exG exOKC.mc rfl) preL_crop preR_crop]
  constructor <;> decide +kernel

theorem exRight : (afterFilterR exK' (swapInput exWhole) (aggRow exK' exG (swapInput exWhole))).isSome = true
    ∧ (afterFilterR exK' (swapInput exCrop) (aggRow exK' exG (swapInput exCrop))).isSome = true := by
  have sW := filtered_swap exK exK' exG exWhole rfl rfl
  have sC := filtered_swap exK exK' exG exCrop rfl rfl
  unfold afterFilterR afterRefineR
  rw [refineGridR_cbca exK' exG (swapInput exWhole) _ _ ⟨rfl, rfl⟩ (nanOutsideOK_of_mcOK exK' exG exOKW.mcR rfl)
      (sW.1 ▸ preR_whole) (sW.2 ▸ preL_whole),
    refineGridR_cbca exK' exG (swapInput exCrop) _ _ ⟨rfl, rfl⟩ (nanOutsideOK_of_mcOK exK' exG exOKC.mcR rfl)
      (sC.1 ▸ preR_crop) (sC.2 ▸ preL_crop)]
  constructor <;> decide +kernel

theorem exIn : (afterFilterR exK exWhole (aggRow exK exG exWhole)).all (leftInIntervalB exCP 3 11) = true
    ∧ (afterFilterR exK exCrop (aggRow exK exG exCrop)).all (leftInIntervalB exCP 3 10) = true :=
  ⟨all_of_any exLeft.1, all_of_any exLeft.2⟩

example : (fullRunCbca exK exK' exG .asIs exCP exWhole).isSome = true
    ∧ (fullRunCbca exK exK' exG .asIs exCP exCrop).isSome = true :=
  ⟨fullRunR_isSome (Option.isSome_of_any exLeft.1) exRight.1, fullRunR_isSome (Option.isSome_of_any exLeft.2) exRight.2⟩

example (out out' : Nat → Nat → CrossCheck.PixOut)
    (hout : fullRunCbca exK exK' exG .asIs exCP exWhole = some out)
    (hout' : fullRunCbca exK exK' exG .asIs exCP exCrop = some out') :
    out' 1 5 = out (1 + 0) (5 + 1) :=
  runCbca_crop_eq_whole exK exK' exG .asIs exCP exWhole exCrop 0 1 exCropRun
    exOKW exOKC rfl rfl out out' hout hout'
    (leftInInterval_of_all exIn.1) (leftInInterval_of_all exIn.2)
    1 5 (by decide) (by decide)
    (by
      intro q hq
      rw [exCone] at hq
      unfold inCone at hq
      unfold InRect InImage
      simp only [exCrop, exWhole, exL] at *
      omega)

end RunCbcaExample

end Pandora.C13
