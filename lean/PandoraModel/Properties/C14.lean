/-
  C14 — Occlusion/mismatch filling touches only flagged pixels, fills from valid ones.

  The model (`Model/Interp.lean`) is parametrised by the text of the kernels (`Variant`): with or without the guards
  ("fill only when a finite source is in sight"), raising the new bit with `+=` or with `|=`.  The variant of the
  source is read by the translator (`sourceVariant`); the main theorem is proved for every guarded variant and
  instantiated at the source's (`spec_holds_source`).
-/
import PandoraModel.Lemmas.InterpFlags
import PandoraModel.Lemmas.InterpScan
import PandoraModel.Lemmas.InterpSort
import PandoraModel.Lemmas.InterpOccl
import PandoraModel.Lemmas.InterpCongr
import PandoraModel.Lemmas.InterpBdd
import PandoraModel.Generated.Interp
import PandoraModel.Properties.Flags

namespace Pandora.C14
open Pandora.Interp Pandora.Flags

theorem source_dirs :
    Generated.Interp.dirsMismatchMcCnnDoubled = dirs16
    ∧ Generated.Interp.dirsMismatchSgm = dirs8 ∧ Generated.Interp.dirsOcclusionSgm = dirs8 := by decide +kernel

/-- the flag updates the model follows, for a kernel text that raises its bits with operator `o` -/
def expectedFlagOps (o : String) : List (String × List (String × String × Bool)) :=
  [("interpolate_occlusion_mc_cnn",
      [("-", "PANDORA_MSK_PIXEL_OCCLUSION", true), (o, "PANDORA_MSK_PIXEL_FILLED_OCCLUSION", true),
       ("-", "PANDORA_MSK_PIXEL_OCCLUSION", true), (o, "PANDORA_MSK_PIXEL_FILLED_OCCLUSION", true)]),
   ("interpolate_mismatch_mc_cnn",
      [("-", "PANDORA_MSK_PIXEL_MISMATCH", false), (o, "PANDORA_MSK_PIXEL_FILLED_MISMATCH", false)]),
   ("interpolate_mismatch_sgm",
      [("-", "PANDORA_MSK_PIXEL_MISMATCH", false), (o, "PANDORA_MSK_PIXEL_OCCLUSION", false),
       ("-", "PANDORA_MSK_PIXEL_MISMATCH", false), (o, "PANDORA_MSK_PIXEL_FILLED_MISMATCH", false)]),
   ("interpolate_occlusion_sgm",
      [("-", "PANDORA_MSK_PIXEL_OCCLUSION", false), (o, "PANDORA_MSK_PIXEL_FILLED_OCCLUSION", false)])]

/-- the flag updates (with the raising operator read from the source), the tested constants, the loop
    bounds and the order of the passes are those the model follows -/
theorem source_flag_ops :
    (Generated.Interp.raiseOp = "+" ∨ Generated.Interp.raiseOp = "|")
    ∧ Generated.Interp.flagOps = expectedFlagOps Generated.Interp.raiseOp
    ∧ Generated.Interp.tested =
      [("interpolate_occlusion_mc_cnn",
          ["PANDORA_MSK_PIXEL_OCCLUSION", "PANDORA_MSK_PIXEL_INVALID", "PANDORA_MSK_PIXEL_INVALID"]),
       ("interpolate_mismatch_mc_cnn", ["PANDORA_MSK_PIXEL_MISMATCH", "PANDORA_MSK_PIXEL_INVALID"]),
       ("interpolate_mismatch_sgm", ["PANDORA_MSK_PIXEL_MISMATCH", "PANDORA_MSK_PIXEL_OCCLUSION"]),
       ("interpolate_occlusion_sgm", ["PANDORA_MSK_PIXEL_OCCLUSION"]),
       ("find_valid_neighbors", ["PANDORA_MSK_PIXEL_INVALID"])]
    ∧ Generated.Interp.pathRanges =
      [("interpolate_occlusion_mc_cnn", []), ("interpolate_mismatch_mc_cnn", [["1", "max_path_length"]]),
       ("interpolate_mismatch_sgm", []), ("interpolate_occlusion_sgm", []),
       ("find_valid_neighbors", [["max_path_length"]])]
    ∧ Generated.Interp.pathBounds =
      [("interpolate_occlusion_mc_cnn", []), ("interpolate_mismatch_mc_cnn", ["max_path_length=max(nrow,ncol)"]),
       ("interpolate_mismatch_sgm", []), ("interpolate_occlusion_sgm", []),
       ("find_valid_neighbors", ["max_path_length=max(nrow,ncol)"])]
    ∧ Generated.Interp.passOrder =
      [("McCnnInterpolation", ["interpolate_occlusion_mc_cnn", "interpolate_mismatch_mc_cnn", "mask_border"]),
       ("SgmInterpolation", ["interpolate_mismatch_sgm", "interpolate_occlusion_sgm"])] := by decide +kernel

theorem source_constants :
    Generated.Constants.PANDORA_MSK_PIXEL_INVALID = pixelInvalid
    ∧ Generated.Constants.PANDORA_MSK_PIXEL_OCCLUSION = occlusion
    ∧ Generated.Constants.PANDORA_MSK_PIXEL_MISMATCH = mismatch
    ∧ Generated.Constants.PANDORA_MSK_PIXEL_FILLED_OCCLUSION = filledOcclusion
    ∧ Generated.Constants.PANDORA_MSK_PIXEL_FILLED_MISMATCH = filledMismatch
    ∧ Generated.Constants.PANDORA_MSK_PIXEL_LEFT_NODATA_OR_BORDER = leftNodataOrBorder := by
  obtain ⟨h1, -, -, -, h5, h6, -, -, h9, h10, -, -, h13⟩ := FlagsProps.constants_documented
  exact ⟨h13, h9, h10, h5, h6, h1⟩

/-- the three guards, as the translator prints them -/
def expectedGuards : List (String × List String) :=
  [("interpolate_occlusion_mc_cnn", []),
   ("interpolate_mismatch_mc_cnn", ["np.isfinite(interp_mismatched).any()"]),
   ("interpolate_mismatch_sgm", ["np.isfinite(valid_neighbors).any()"]),
   ("interpolate_occlusion_sgm", ["np.sum(np.isfinite(valid_neighbors)) >= 2"])]

/-- The variant of the model that reads like the source: guarded iff the accumulator starts at NaN and the
    three guards are there; `+=` or `|=` as read. -/
def sourceVariant : Variant :=
  { guard := decide (Generated.Interp.accInit = "nan") && decide (Generated.Interp.guards = expectedGuards),
    op := if Generated.Interp.raiseOp = "+" then .add else .or }

theorem source_guarded : sourceVariant.guard = true := by decide +kernel

/-- inside the border of width `offset_row_col > 0`: the `border` of the specification's `View` -/
abbrev onBorder (off : Nat) (a : DMap) (r c : Nat) : Bool := decide (off > 0) && isBorder a off r c

/-- what `wf op meth off a = true` says, pixel by pixel (all pixels inside the image); the three "no stale
    filled bit" facts are available for the `+=` form only -/
structure WFp (op : RaiseOp) (meth : Method) (off : Nat) (a : DMap) : Prop where
  vf : ∀ r c, r < a.rows → c < a.cols → a.valid r c = true → ∃ q, a.disp r c = .num q
  one : ∀ r c, r < a.rows → c < a.cols → (a.flag r c).testBit 8 = true → (a.flag r c).testBit 9 = false
  st8 : op = .add → ∀ r c, r < a.rows → c < a.cols → (a.flag r c).testBit 8 = true → (a.flag r c).testBit 4 = false
  st9 : op = .add → ∀ r c, r < a.rows → c < a.cols → (a.flag r c).testBit 9 = true → (a.flag r c).testBit 5 = false
  st9s : op = .add → meth = .sgm → ∀ r c, r < a.rows → c < a.cols → (a.flag r c).testBit 9 = true →
    (a.flag r c).testBit 4 = false
  bc : ∀ r c, r < a.rows → c < a.cols → onBorder off a r c = true → a.flag r c = leftNodataOrBorder

theorem not_or_not_iff {x y : Bool} : (!x || !y) = true ↔ (x = true → y = false) := by
  cases x <;> simp

theorem wf_elim {op : RaiseOp} {meth : Method} {off : Nat} {a : DMap} (h : wf op meth off a = true) :
    WFp op meth off a := by
  unfold wf at h
  simp only [Bool.and_eq_true] at h
  obtain ⟨⟨⟨h1, h2⟩, h3⟩, h4⟩ := h
  unfold validFinite at h1; unfold oneFlag at h2; unfold borderClean at h4
  rw [allPx_iff] at h1 h2 h4
  have hst : op = .add → ∀ r c, r < a.rows → c < a.cols →
      ((a.flag r c).testBit 8 = true → (a.flag r c).testBit 4 = false)
      ∧ ((a.flag r c).testBit 9 = true → (a.flag r c).testBit 5 = false)
      ∧ (decide (meth = .sgm) = true → (a.flag r c).testBit 9 = true → (a.flag r c).testBit 4 = false) := by
    intro hop r c hr hc
    have h3' : noStaleFill meth a = true := by simpa [hop] using h3
    unfold noStaleFill at h3'
    rw [allPx_iff] at h3'
    have := h3' r c hr hc
    simp only [occlusion_pow, mismatch_pow, filledOcclusion_pow, filledMismatch_pow, C04.hasBit_two_pow] at this
    rw [Bool.and_eq_true, Bool.and_eq_true, not_or_not_iff, not_or_not_iff, not_or_not_iff, Bool.and_eq_true] at this
    exact ⟨this.1.1, this.1.2, fun hd h9 => this.2 ⟨hd, h9⟩⟩
  refine ⟨?_, ?_, fun hop r c hr hc => (hst hop r c hr hc).1, fun hop r c hr hc => (hst hop r c hr hc).2.1,
    fun hop hm r c hr hc => (hst hop r c hr hc).2.2 (decide_eq_true hm), ?_⟩
  · intro r c hr hc hv
    have := h1 r c hr hc
    rw [hv] at this
    cases hd : a.disp r c with
    | nan => rw [hd] at this; simp [Val.isNum, Val.isNan] at this
    | num q => exact ⟨q, rfl⟩
  · intro r c hr hc h8
    have := h2 r c hr hc
    rw [FlagWord.hasBit_occlusion, FlagWord.hasBit_mismatch, h8] at this
    simpa using this
  · intro r c hr hc hb
    have := h4 r c hr hc
    rw [show (decide (off > 0) && isBorder a off r c) = true from hb] at this
    simpa using this

theorem Bdd.median {a : DMap} {l : List Rat} (hl : ∀ x ∈ l, Bdd a x) {q : Rat} (h : median l = .num q) : Bdd a q := by
  obtain ⟨x, hx, y, hy, h1, h2⟩ := median_between h
  exact Bdd.between (hl x hx) (hl y hy) h1 h2

theorem Bdd.sources {a m : DMap} (hm : ∀ r c, r < m.rows → c < m.cols → m.valid r c = true →
      ∀ q, m.disp r c = .num q → Bdd a q)
    (ds : List (Int × Int)) (pos : Int × Int → Nat → Int × Int) :
    ∀ q ∈ nums (ds.filterMap fun d => firstValid m (rayPts m (pos d))), Bdd a q := by
  intro q hq
  rw [mem_nums, List.mem_filterMap] at hq
  obtain ⟨d, _, hd⟩ := hq
  obtain ⟨r', c', hr', hc', hv, hdisp⟩ := ray_source_pixel hd
  exact hm r' c' hr' hc' hv q hdisp

theorem not_valid_of_bit8 {m : DMap} {r c : Nat} (h : (m.flag r c).testBit 8 = true) : m.valid r c = false := by
  unfold DMap.valid; apply not_valid_of_flagged; rw [flagged_eq, h]; rfl

theorem not_valid_of_bit9 {m : DMap} {r c : Nat} (h : (m.flag r c).testBit 9 = true) : m.valid r c = false := by
  unfold DMap.valid; apply not_valid_of_flagged; rw [flagged_eq, h]; simp

theorem flagged_fill8 {f j : Nat} (h9 : f.testBit 9 = false) (hj8 : j ≠ 8) (hj9 : j ≠ 9) :
    flagged (replaceBit f (2 ^ 8) (2 ^ j)) = false := by
  rw [flagged_eq, testBit_replaceBit, testBit_replaceBit]; simp [h9, hj8.symm, hj9.symm]

theorem flagged_fill9 {f j : Nat} (h8 : f.testBit 8 = false) (hj8 : j ≠ 8) (hj9 : j ≠ 9) :
    flagged (replaceBit f (2 ^ 9) (2 ^ j)) = false := by
  rw [flagged_eq, testBit_replaceBit, testBit_replaceBit]; simp [h8, hj8.symm, hj9.symm]

theorem occlMc_unflagged (v : Variant) (m : DMap) (r c : Nat) (h : (m.flag r c).testBit 8 = false) :
    (occlMc v m).disp r c = m.disp r c ∧ (occlMc v m).flag r c = m.flag r c := by
  simp only [occlMc, lift, occlMcPixel, FlagWord.and_occlusion, h, Bool.false_eq_true, if_false, and_self]

theorem occlMc_flagged (v : Variant) (m : DMap) (r c : Nat) (hc : c < m.cols) (h : (m.flag r c).testBit 8 = true) :
    (∀ x, sourceOcclMc m r c = some x →
        (occlMc v m).disp r c = x ∧ (occlMc v m).flag r c = raise v.op (m.flag r c - occlusion) filledOcclusion) ∧
    (sourceOcclMc m r c = none → (occlMc v m).disp r c = m.disp r c ∧ (occlMc v m).flag r c = m.flag r c) := by
  have h8 : ((m.flag r c &&& occlusion) != 0) = true := (FlagWord.and_occlusion _).trans h
  have hcore := occlMcCore_eq m r c hc (not_valid_of_bit8 h)
  simp only [occlMc, lift, occlMcPixel, h8, if_true]
  constructor
  · intro x hx; rw [hx] at hcore; rw [hcore]; simp [b2n]
  · intro hn; rw [hn] at hcore; rw [hcore]; simp [b2n, raise_zero]

theorem mismMc_unflagged (v : Variant) (m : DMap) (r c : Nat) (h : (m.flag r c).testBit 9 = false) :
    (mismMc v m).disp r c = m.disp r c ∧ (mismMc v m).flag r c = m.flag r c := by
  simp only [mismMc, lift, mismMcPixel, FlagWord.and_mismatch, h, Bool.false_eq_true, if_false, and_self]

theorem mismMc_flagged {v : Variant} (hg : v.guard = true) (m : DMap) (r c : Nat) (hr : r < m.rows) (hc : c < m.cols)
    (h : (m.flag r c).testBit 9 = true) :
    (nums (sourcesMc m r c) = [] →
      (mismMc v m).disp r c = m.disp r c ∧ (mismMc v m).flag r c = m.flag r c) ∧
    (nums (sourcesMc m r c) ≠ [] →
      (mismMc v m).disp r c = median (nums (sourcesMc m r c))
      ∧ (mismMc v m).flag r c = raise v.op (m.flag r c - mismatch) filledMismatch) := by
  have h9 : ((m.flag r c &&& mismatch) != 0) = true := (FlagWord.and_mismatch _).trans h
  have hint : (dirs16.map fun d => scanLoop .nan m (posMc r c d) (max m.cols m.rows - 1) 1)
      = dirs16.map fun d => (firstValid m (rayPts m (posMc r c d))).getD .nan := by
    apply List.map_congr_left; intro d hd; exact scanMc_nan_eq m r c hr hc d hd
  have hn : nums (dirs16.map fun d => scanLoop .nan m (posMc r c d) (max m.cols m.rows - 1) 1) = nums (sourcesMc m r c) := by
    rw [hint, nums_map_getD]; rfl
  simp only [mismMc, lift, mismMcPixel, hg, h9, if_true, Bool.true_and, nanmedian]
  rw [hn]
  simp only [List.isEmpty_iff]
  exact ⟨fun h0 => by simp [h0], fun h0 => by simp [h0]⟩

/-- what happened to pixel `(r, c)` between the map `a` before and the map `b` after filling -/
inductive Outcome (meth : Method) (off : Nat) (a b : DMap) (r c : Nat) : Prop
  | untouched (hf : flagged (a.flag r c) = false) (hd : b.disp r c = a.disp r c) (hg : b.flag r c = a.flag r c)
      (hb : onBorder off a r c = true → a.flag r c = leftNodataOrBorder)
  | unfilled (hf : flagged (a.flag r c) = true) (hb : onBorder off a r c = false)
      (hs : enoughSources meth (kindOf meth a r c) (sourcesOf meth a b r c).length = false)
      (hg : b.flag r c = unfilledFlag (kindOf meth a r c) (a.flag r c)) (hfg : flagged (b.flag r c) = true)
  | filled (hf : flagged (a.flag r c) = true) (hb : onBorder off a r c = false)
      (hg : b.flag r c = filledFlag (kindOf meth a r c) (a.flag r c)) (hng : flagged (b.flag r c) = false)
      (q : Rat) (hd : b.disp r c = .num q)
      (hv : valueOK meth (kindOf meth a r c) (sourcesOf meth a b r c) (.num q) = true)
      (hbd : betweenValid a q = true)
      (he : enoughSources meth (kindOf meth a r c) (sourcesOf meth a b r c).length = true)

theorem enoughSources_pos {meth : Method} {k : Kind} {n : Nat} (h : enoughSources meth k n = true) : 1 ≤ n := by
  unfold enoughSources at h
  split at h
  · exact Nat.le_of_succ_le (of_decide_eq_true h)
  · exact Nat.le_of_succ_le (of_decide_eq_true h)
  · exact of_decide_eq_true h

theorem ok_of_not_applies {cl : Clause} (h : cl.applies = false) : cl.ok = true := by
  rw [Clause.ok, h]; rfl

theorem ok_of_holds {cl : Clause} (h : cl.holds = true) : cl.ok = true := by
  rw [Clause.ok, h, Bool.or_true]

theorem cSgmMismatch_ok {meth : Method} {off : Nat} {a b : DMap} {r c : Nat}
    (hb : onBorder off a r c = false)
    (hg : b.flag r c = filledFlag (kindOf meth a r c) (a.flag r c)
      ∨ b.flag r c = unfilledFlag (kindOf meth a r c) (a.flag r c)) :
    (cSgmMismatch meth (touchesOcclusion a r c) (viewAt meth off a b r c)).ok = true := by
  simp only [Clause.ok, cSgmMismatch, viewAt, hb]
  cases meth with
  | mccnn => simp
  | sgm =>
    cases h9 : hasBit (a.flag r c) mismatch
    · simp
    · cases h8 : hasBit (a.flag r c) occlusion
      · cases ht : touchesOcclusion a r c <;>
          rcases hg with hg | hg <;> simp [hg, kindOf, h8, h9, ht, filledFlag, unfilledFlag]
      · simp

theorem pixelOK_of_outcome {meth : Method} {off : Nat} {a b : DMap} {r c : Nat}
    (h : Outcome meth off a b r c) : pixelOK meth off a b r c = true := by
  unfold pixelOK clausesAt
  simp only [List.all_cons, List.all_nil, Bool.and_true, Bool.and_eq_true]
  cases h with
  | untouched hf hd hg hb =>
    have hbits : hasBit (a.flag r c) mismatch = false := by
      unfold flagged at hf; simp only [Bool.or_eq_false_iff] at hf; exact hf.2
    refine ⟨ok_of_holds (by simp only [cUnflagged, viewAt, hd, hg, beq_self_eq_true, Bool.and_self]),
      ok_of_not_applies (by simp only [cFilledBits, viewAt, hf]; rfl),
      ok_of_not_applies (by simp only [cFilledFinite, viewAt, View.filled, hf]; rfl),
      ok_of_not_applies (by simp only [cFilledFromValid, viewAt, View.filled, hf]; rfl),
      ok_of_not_applies (by simp only [cFilledBetween, viewAt, View.filled, hf]; rfl),
      ok_of_not_applies (by simp only [cNoSource, viewAt, hf]; rfl),
      ok_of_not_applies (by simp only [cFilledWhenSource, viewAt, hf]; rfl),
      ok_of_not_applies (by simp only [cSgmMismatch, viewAt, hbits, Bool.and_false, Bool.false_and]), ?_⟩
    cases hbo : onBorder off a r c
    · exact ok_of_not_applies (by simp only [cBorder, viewAt, hbo])
    · exact ok_of_holds (by simp only [cBorder, viewAt, hg, hb hbo]; rfl)
  | unfilled hf hb hs hg hfg =>
    exact ⟨ok_of_not_applies (by simp only [cUnflagged, viewAt, hf]; rfl),
      ok_of_holds (by simp only [cFilledBits, viewAt, hg, beq_self_eq_true, Bool.or_true]),
      ok_of_not_applies (by simp only [cFilledFinite, viewAt, View.filled, hf, hfg]; rfl),
      ok_of_not_applies (by simp only [cFilledFromValid, viewAt, View.filled, hf, hfg]; rfl),
      ok_of_not_applies (by simp only [cFilledBetween, viewAt, View.filled, hf, hfg]; rfl),
      ok_of_holds (by simp only [cNoSource, viewAt, hfg, isInvalid_of_flagged hfg]; rfl),
      ok_of_not_applies (by simp only [cFilledWhenSource, viewAt, hs, Bool.and_false]),
      cSgmMismatch_ok hb (Or.inr hg),
      ok_of_not_applies (by simp only [cBorder, viewAt, hb])⟩
  | filled hf hb hg hng q hd hv hbd he =>
    have hne : (sourcesOf meth a b r c).isEmpty = false := by
      have := enoughSources_pos he
      cases hs : sourcesOf meth a b r c with
      | nil => rw [hs] at this; simp at this
      | cons x t => rfl
    exact ⟨ok_of_not_applies (by simp only [cUnflagged, viewAt, hf]; rfl),
      ok_of_holds (by simp only [cFilledBits, viewAt, hg, beq_self_eq_true, Bool.true_or]),
      ok_of_holds (by simp only [cFilledFinite, viewAt, hd]; rfl),
      ok_of_holds (by simp only [cFilledFromValid, viewAt, hd, hv]),
      ok_of_holds (by simp only [cFilledBetween, viewAt, hd, Val.get, hbd]),
      ok_of_not_applies (by simp only [cNoSource, viewAt, hne, Bool.and_false]),
      ok_of_holds (by simp only [cFilledWhenSource, viewAt, hng]; rfl),
      cSgmMismatch_ok hb (Or.inl hg),
      ok_of_not_applies (by simp only [cBorder, viewAt, hb])⟩

/-- a plain mismatch (either method), given what the kernel did with the list `src` of its sources -/
theorem outcome_mism {meth : Method} {off : Nat} {a b : DMap} {r c : Nat} {src : List Rat}
    (h8 : (a.flag r c).testBit 8 = false) (h9 : (a.flag r c).testBit 9 = true)
    (hnb : onBorder off a r c = false) (hk : kindOf meth a r c = .mism)
    (hsrcs : sourcesOf meth a b r c = src) (hbdd : ∀ q ∈ src, Bdd a q)
    (hempty : src = [] → b.flag r c = a.flag r c)
    (hfill : src ≠ [] → b.disp r c = median src ∧ b.flag r c = replaceBit (a.flag r c) mismatch filledMismatch) :
    Outcome meth off a b r c := by
  have hfl : flagged (a.flag r c) = true := by rw [flagged_eq, h9]; simp
  by_cases hne : src = []
  · have hg0 := hempty hne
    refine Outcome.unfilled hfl hnb ?_ (by rw [hk, hg0]; rfl) (by rw [hg0]; exact hfl)
    rw [hk, hsrcs, hne]; cases meth <;> rfl
  · obtain ⟨hd, hg⟩ := hfill hne
    cases hmed : median src with
    | nan => exact absurd ((median_eq_nan_iff _).mp hmed) hne
    | num q =>
      refine Outcome.filled hfl hnb (by rw [hk]; exact hg) ?_ q (by rw [hd, hmed]) ?_ ?_ ?_
      · rw [hg]; exact flagged_fill9 (j := 5) h8 (by decide) (by decide)
      · rw [hk, hsrcs]; cases meth <;> simp [valueOK, hmed]
      · rw [betweenValid_iff]; exact Bdd.median hbdd hmed
      · rw [hk, hsrcs]
        cases src with
        | nil => exact absurd rfl hne
        | cons x t => cases meth <;> simp [enoughSources]

theorem border_word_testBit8 : (leftNodataOrBorder).testBit 8 = false := by decide
theorem border_word_testBit9 : (leftNodataOrBorder).testBit 9 = false := by decide

section mccnn
variable {v : Variant} {off : Nat} {a : DMap}

theorem mccnn_disp (v : Variant) (off : Nat) (a : DMap) (r c : Nat) :
    (mccnn v off a).disp r c = (mismMc v (occlMc v a)).disp r c := rfl

theorem mccnn_flag (v : Variant) (off : Nat) (a : DMap) (r c : Nat) :
    (mccnn v off a).flag r c =
      if onBorder off a r c = true then leftNodataOrBorder
      else (mismMc v (occlMc v a)).flag r c := rfl

theorem not_border_of_bit {meth : Method} {k : Nat} (hwf : WFp v.op meth off a) {r c : Nat} (hr : r < a.rows)
    (hc : c < a.cols) (h1 : (leftNodataOrBorder).testBit k = false) (hk : (a.flag r c).testBit k = true) :
    onBorder off a r c = false := by
  cases hb : onBorder off a r c
  · rfl
  · have := hwf.bc r c hr hc hb; rw [this, h1] at hk; cases hk

/-- a pixel carrying neither bit 8 nor bit 9, whatever the variant: both passes skip it, and `mask_border` writes the
    border word where the pixel carries it already -/
theorem mccnn_unflagged {r c : Nat} (hb : onBorder off a r c = true → a.flag r c = leftNodataOrBorder)
    (h8 : (a.flag r c).testBit 8 = false) (h9 : (a.flag r c).testBit 9 = false) :
    (mccnn v off a).disp r c = a.disp r c ∧ (mccnn v off a).flag r c = a.flag r c := by
  obtain ⟨ho1, ho2⟩ := occlMc_unflagged v a r c h8
  obtain ⟨hm1, hm2⟩ := mismMc_unflagged v (occlMc v a) r c (by rw [ho2]; exact h9)
  refine ⟨by rw [mccnn_disp, hm1, ho1], ?_⟩
  rw [mccnn_flag]
  by_cases hbo : onBorder off a r c = true
  · rw [if_pos hbo, hb hbo]
  · rw [if_neg hbo, hm2, ho2]

theorem occlMc_valid_bdd {r c : Nat} (hr : r < a.rows) (hc : c < a.cols)
    (hv : (occlMc v a).valid r c = true) {q : Rat} (hd : (occlMc v a).disp r c = .num q) : Bdd a q := by
  by_cases h8 : (a.flag r c).testBit 8 = true
  · obtain ⟨hs, hn⟩ := occlMc_flagged v a r c hc h8
    cases hsrc : sourceOcclMc a r c with
    | none =>
      exfalso
      have : (occlMc v a).valid r c = false := by
        apply not_valid_of_bit8; rw [(hn hsrc).2]; exact h8
      rw [this] at hv; cases hv
    | some x =>
      obtain ⟨j, hj, hvj, hdj⟩ := sourceOcclMc_pixel hc hsrc
      rw [(hs x hsrc).1] at hd
      exact Bdd.self hr hj hvj (hdj.trans hd)
  · simp only [Bool.not_eq_true] at h8
    have := occlMc_unflagged v a r c h8
    unfold DMap.valid at hv
    rw [this.2] at hv; rw [this.1] at hd
    exact Bdd.self hr hc hv hd

theorem mc_sources_bdd (r c : Nat) : ∀ q ∈ nums (sourcesMc (occlMc v a) r c), Bdd a q :=
  Bdd.sources (a := a) (m := occlMc v a)
    (fun _ _ hr hc hv _ hd => occlMc_valid_bdd (v := v) (a := a) hr hc hv hd) dirs16 (posMc r c)


theorem mccnn_at_occl (hwf : WFp v.op .mccnn off a) {r c : Nat} (hr : r < a.rows) (hc : c < a.cols)
    (h8 : (a.flag r c).testBit 8 = true) :
    (mccnn v off a).disp r c = (occlMc v a).disp r c
    ∧ (mccnn v off a).flag r c = (occlMc v a).flag r c := by
  have h9 : (a.flag r c).testBit 9 = false := hwf.one r c hr hc h8
  have h4 : v.op = .add → (a.flag r c).testBit 4 = false := fun h => hwf.st8 h r c hr hc h8
  have hnb := not_border_of_bit hwf hr hc border_word_testBit8 h8
  have hm1 : ((occlMc v a).flag r c).testBit 9 = false := by
    obtain ⟨hs, hn⟩ := occlMc_flagged v a r c hc h8
    cases hsrc : sourceOcclMc a r c with
    | none => rw [(hn hsrc).2]; exact h9
    | some x =>
      rw [(hs x hsrc).2, upd_occl h8 h4, occlusion_pow, filledOcclusion_pow, testBit_replaceBit]; simp [h9]
  have := mismMc_unflagged v (occlMc v a) r c hm1
  rw [mccnn_disp, mccnn_flag, hnb]
  exact ⟨this.1, by simpa using this.2⟩

theorem midOf_mccnn_agree (hwf : WFp v.op .mccnn off a) :
    Agree (midOf .mccnn a (mccnn v off a)) (occlMc v a) := by
  have key : ∀ r c, r < a.rows → c < a.cols →
      (midOf .mccnn a (mccnn v off a)).disp r c = (occlMc v a).disp r c
      ∧ (midOf .mccnn a (mccnn v off a)).flag r c = (occlMc v a).flag r c := by
    intro r c hr hc
    simp only [midOf, FlagWord.hasBit_occlusion]
    by_cases h8 : (a.flag r c).testBit 8 = true
    · simpa only [h8, if_true] using mccnn_at_occl hwf hr hc h8
    · simp only [Bool.not_eq_true] at h8
      obtain ⟨e1, e2⟩ := occlMc_unflagged v a r c h8
      simp only [h8, Bool.false_eq_true, if_false, e1, e2, and_self]
  exact ⟨rfl, rfl, fun r c hr hc => (key r c hr hc).1, fun r c hr hc => (key r c hr hc).2⟩

theorem mccnn_outcome (hg : v.guard = true) (hwf : WFp v.op .mccnn off a) {r c : Nat} (hr : r < a.rows) (hc : c < a.cols) :
    Outcome .mccnn off a (mccnn v off a) r c := by
  by_cases h8 : (a.flag r c).testBit 8 = true
  -- bit 8: the first pass fills the pixel from its row (or leaves it), the second skips it
  · have h9 : (a.flag r c).testBit 9 = false := hwf.one r c hr hc h8
    have h4 : v.op = .add → (a.flag r c).testBit 4 = false := fun h => hwf.st8 h r c hr hc h8
    have hnb := not_border_of_bit hwf hr hc border_word_testBit8 h8
    have hfl : flagged (a.flag r c) = true := by rw [flagged_eq, h8]; rfl
    have hk : kindOf .mccnn a r c = .occl := by simp [kindOf, FlagWord.hasBit_occlusion, h8]
    obtain ⟨hb1, hb2⟩ := mccnn_at_occl hwf hr hc h8
    obtain ⟨hs, hn⟩ := occlMc_flagged v a r c hc h8
    cases hsrc : sourceOcclMc a r c with
    | none =>
      have hg0 : (mccnn v off a).flag r c = a.flag r c := by rw [hb2, (hn hsrc).2]
      refine Outcome.unfilled hfl hnb ?_ (by rw [hk, hg0]; rfl) (by rw [hg0]; exact hfl)
      simp [sourcesOf, hk, hsrc, nums, enoughSources]
    | some x =>
      obtain ⟨j, hj, hvj, hdj⟩ := sourceOcclMc_pixel hc hsrc
      obtain ⟨q, hq⟩ := hwf.vf r j hr hj hvj
      have hvq : x = .num q := hdj.symm.trans hq
      have hg : (mccnn v off a).flag r c = replaceBit (a.flag r c) occlusion filledOcclusion := by
        rw [hb2, (hs x hsrc).2, upd_occl h8 h4]
      have hsrcs : sourcesOf .mccnn a (mccnn v off a) r c = [q] := by
        simp [sourcesOf, hk, hsrc, hvq, nums]
      refine Outcome.filled hfl hnb (by rw [hk]; exact hg) ?_ q (by rw [hb1, (hs x hsrc).1, hvq]) ?_ ?_ ?_
      · rw [hg]; exact flagged_fill8 (j := 4) h9 (by decide) (by decide)
      · rw [hk, hsrcs]; simp [valueOK]
      · rw [betweenValid_iff]; exact Bdd.self hr hj hvj hq
      · rw [hk, hsrcs]; simp [enoughSources]
  · simp only [Bool.not_eq_true] at h8
    obtain ⟨ho1, ho2⟩ := occlMc_unflagged v a r c h8
    by_cases h9 : (a.flag r c).testBit 9 = true
    -- bit 9: the first pass skips the pixel, the second fills it from the map the first pass left
    · have h5 : v.op = .add → (a.flag r c).testBit 5 = false := fun h => hwf.st9 h r c hr hc h9
      have hnb := not_border_of_bit hwf hr hc border_word_testBit9 h9
      have hk : kindOf .mccnn a r c = .mism := by simp [kindOf, FlagWord.hasBit_occlusion, FlagWord.hasBit_mismatch, h8, h9]
      have h9' : ((occlMc v a).flag r c).testBit 9 = true := by rw [ho2]; exact h9
      obtain ⟨hempty, hfill⟩ := mismMc_flagged hg (occlMc v a) r c hr hc h9'
      refine outcome_mism h8 h9 hnb hk ?_ (mc_sources_bdd (v := v) r c) ?_ ?_
      · simp only [sourcesOf, hk]
        rw [sourcesMc_congr (midOf_mccnn_agree hwf)]
      · intro hne; rw [mccnn_flag, hnb, if_neg Bool.false_ne_true, (hempty hne).2, ho2]
      · intro hne
        rw [mccnn_disp, mccnn_flag, hnb, if_neg Bool.false_ne_true, (hfill hne).1, (hfill hne).2, ho2, upd_mism h9 h5]
        exact ⟨rfl, rfl⟩
    -- neither bit: both passes skip the pixel
    · simp only [Bool.not_eq_true] at h9
      have hfl : flagged (a.flag r c) = false := by rw [flagged_eq, h8, h9]; rfl
      obtain ⟨hd, hg'⟩ := mccnn_unflagged (v := v) (hwf.bc r c hr hc) h8 h9
      exact Outcome.untouched hfl hd hg' (hwf.bc r c hr hc)

end mccnn

section sgm
variable {v : Variant} {off : Nat} {a : DMap}

theorem bit8_false_of_bit9 (hwf : WFp v.op .sgm off a) {r c : Nat} (hr : r < a.rows) (hc : c < a.cols)
    (h9 : (a.flag r c).testBit 9 = true) : (a.flag r c).testBit 8 = false := by
  cases h8 : (a.flag r c).testBit 8
  · rfl
  · have := hwf.one r c hr hc h8; rw [this] at h9; cases h9

theorem kindOf_sgm_mism {r c : Nat} (h8 : (a.flag r c).testBit 8 = false) (h9 : (a.flag r c).testBit 9 = true) :
    kindOf .sgm a r c = if touchesOcclusion a r c then .mismAsOccl else .mism := by
  simp [kindOf, FlagWord.hasBit_occlusion, FlagWord.hasBit_mismatch, h8, h9]

theorem sgm_input_sources_bdd (r c : Nat) : ∀ q ∈ nums (sourcesSgm a r c), Bdd a q :=
  Bdd.sources (fun _ _ hr hc hv _ hd => Bdd.self hr hc hv hd) dirs8 (posSgm r c)

theorem isSecondLowestAbs_mem {l : List Rat} {q : Rat} (h : isSecondLowestAbs l q = true) : q ∈ l := by
  unfold isSecondLowestAbs at h
  simp only [Bool.and_eq_true] at h
  exact List.contains_iff_mem.mp h.1.1


theorem nums_findValidNeighbors {m : DMap} {r c : Nat} (hr : r < m.rows) (hc : c < m.cols) :
    nums (findValidNeighbors m r c) = nums (sourcesSgm m r c) := by
  rw [findValidNeighbors_eq m r c hr hc, nums_map_getD]; rfl

theorem mismSgm_unflagged (m : DMap) (r c : Nat) (h : (m.flag r c).testBit 9 = false) :
    (mismSgm v m).disp r c = m.disp r c ∧ (mismSgm v m).flag r c = m.flag r c := by
  simp only [mismSgm, lift, mismSgmPixel, FlagWord.and_mismatch, h, Bool.false_eq_true, if_false, and_self]

theorem mismSgm_touch (m : DMap) (r c : Nat) (hr : r < m.rows) (hc : c < m.cols) (h : (m.flag r c).testBit 9 = true)
    (ht : touchesOcclusion m r c = true) :
    (mismSgm v m).disp r c = m.disp r c
    ∧ (mismSgm v m).flag r c = raise v.op (m.flag r c - mismatch) occlusion := by
  have h9 : ((m.flag r c &&& mismatch) != 0) = true := (FlagWord.and_mismatch _).trans h
  have h3 := occlusionSum3x3_ne_zero m r c hr hc
  rw [ht] at h3
  simp only [mismSgm, lift, mismSgmPixel, h9, h3, if_true, and_self]

theorem mismSgm_fill (hg : v.guard = true) (m : DMap) (r c : Nat) (hr : r < m.rows) (hc : c < m.cols) (h : (m.flag r c).testBit 9 = true)
    (ht : touchesOcclusion m r c = false) :
    (nums (sourcesSgm m r c) = [] →
      (mismSgm v m).disp r c = m.disp r c ∧ (mismSgm v m).flag r c = m.flag r c) ∧
    (nums (sourcesSgm m r c) ≠ [] →
      (mismSgm v m).disp r c = median (nums (sourcesSgm m r c))
      ∧ (mismSgm v m).flag r c = raise v.op (m.flag r c - mismatch) filledMismatch) := by
  have h9 : ((m.flag r c &&& mismatch) != 0) = true := (FlagWord.and_mismatch _).trans h
  have h3 := occlusionSum3x3_ne_zero m r c hr hc
  rw [ht] at h3
  simp only [mismSgm, lift, mismSgmPixel, hg, h9, h3, if_true, Bool.false_eq_true, if_false, Bool.true_and, nanmedian]
  rw [nums_findValidNeighbors hr hc]
  simp only [List.isEmpty_iff]
  exact ⟨fun h0 => by simp [h0], fun h0 => by simp [h0]⟩

theorem occlSgm_unflagged (m : DMap) (r c : Nat) (h : (m.flag r c).testBit 8 = false) :
    (occlSgm v m).disp r c = m.disp r c ∧ (occlSgm v m).flag r c = m.flag r c := by
  simp only [occlSgm, lift, occlSgmPixel, FlagWord.and_occlusion, h, Bool.false_eq_true, if_false, and_self]

theorem occlSgm_flagged (hg : v.guard = true) (m : DMap) (r c : Nat) (hr : r < m.rows) (hc : c < m.cols) (h : (m.flag r c).testBit 8 = true) :
    ((nums (sourcesSgm m r c)).length < 2 →
      (occlSgm v m).disp r c = m.disp r c ∧ (occlSgm v m).flag r c = m.flag r c) ∧
    (2 ≤ (nums (sourcesSgm m r c)).length →
      (∃ q, (occlSgm v m).disp r c = .num q ∧ isSecondLowestAbs (nums (sourcesSgm m r c)) q = true)
      ∧ (occlSgm v m).flag r c = raise v.op (m.flag r c - occlusion) filledOcclusion) := by
  have h8 : ((m.flag r c &&& occlusion) != 0) = true := (FlagWord.and_occlusion _).trans h
  simp only [occlSgm, lift, occlSgmPixel, hg, h8, if_true, Bool.true_and]
  have hn := nums_findValidNeighbors hr hc
  rw [hn]
  constructor
  · intro hlt; simp [hlt]
  · intro h2
    have : ¬ (nums (sourcesSgm m r c)).length < 2 := by omega
    simp only [this, decide_false, Bool.false_eq_true, if_false, and_true]
    rw [← hn] at h2 ⊢
    exact secondLowestAbs_spec _ h2

theorem sgm_eq (a : DMap) : sgm v a = occlSgm v (mismSgm v a) := rfl

theorem sgm_unflagged {r c : Nat} (h8 : (a.flag r c).testBit 8 = false) (h9 : (a.flag r c).testBit 9 = false) :
    (sgm v a).disp r c = a.disp r c ∧ (sgm v a).flag r c = a.flag r c := by
  obtain ⟨hm1, hm2⟩ := mismSgm_unflagged (v := v) a r c h9
  obtain ⟨ho1, ho2⟩ := occlSgm_unflagged (v := v) (mismSgm v a) r c (by rw [hm2]; exact h8)
  exact ⟨by rw [sgm_eq, ho1, hm1], by rw [sgm_eq, ho2, hm2]⟩

theorem sgm_at_mism (hg : v.guard = true) (hwf : WFp v.op .sgm off a) {r c : Nat} (hr : r < a.rows) (hc : c < a.cols)
    (h9 : (a.flag r c).testBit 9 = true) (ht : touchesOcclusion a r c = false) :
    (sgm v a).disp r c = (mismSgm v a).disp r c
    ∧ (sgm v a).flag r c = (mismSgm v a).flag r c := by
  have h8 := bit8_false_of_bit9 hwf hr hc h9
  have h5 : v.op = .add → (a.flag r c).testBit 5 = false := fun h => hwf.st9 h r c hr hc h9
  obtain ⟨he, hf⟩ := mismSgm_fill hg a r c hr hc h9 ht
  have : ((mismSgm v a).flag r c).testBit 8 = false := by
    by_cases h0 : nums (sourcesSgm a r c) = []
    · rw [(he h0).2]; exact h8
    · rw [(hf h0).2, upd_mism h9 h5, mismatch_pow, filledMismatch_pow, testBit_replaceBit]; simp [h8]
  rw [sgm_eq]
  exact occlSgm_unflagged _ r c this

theorem midOf_sgm_agree (hg : v.guard = true) (hwf : WFp v.op .sgm off a) :
    Agree (midOf .sgm a (sgm v a)) (mismSgm v a) := by
  have key : ∀ r c, r < a.rows → c < a.cols →
      (midOf .sgm a (sgm v a)).disp r c = (mismSgm v a).disp r c
      ∧ (midOf .sgm a (sgm v a)).flag r c = (mismSgm v a).flag r c := by
    intro r c hr hc
    by_cases h9 : (a.flag r c).testBit 9 = true
    · have h8 := bit8_false_of_bit9 hwf hr hc h9
      cases ht : touchesOcclusion a r c
      · have hk : kindOf .sgm a r c = .mism := by rw [kindOf_sgm_mism h8 h9, ht]; rfl
        simp only [midOf, hk, if_true]
        exact sgm_at_mism hg hwf hr hc h9 ht
      · have hk : kindOf .sgm a r c = .mismAsOccl := by rw [kindOf_sgm_mism h8 h9, ht]; rfl
        obtain ⟨e1, e2⟩ := mismSgm_touch (v := v) a r c hr hc h9 ht
        simp only [midOf, hk, e1, e2, upd_mism_occl h9 fun _ => h8]
        exact ⟨if_neg (by decide), trivial⟩
    · simp only [Bool.not_eq_true] at h9
      obtain ⟨e1, e2⟩ := mismSgm_unflagged (v := v) a r c h9
      simp only [midOf, kindOf, FlagWord.hasBit_occlusion, FlagWord.hasBit_mismatch, h9, e1, e2]
      cases (a.flag r c).testBit 8 <;> simp
  exact ⟨rfl, rfl, fun r c hr hc => (key r c hr hc).1, fun r c hr hc => (key r c hr hc).2⟩

theorem mismSgm_valid_bdd (hg : v.guard = true) (hwf : WFp v.op .sgm off a) {r c : Nat} (hr : r < a.rows) (hc : c < a.cols)
    (hv : (mismSgm v a).valid r c = true) {q : Rat}
    (hd : (mismSgm v a).disp r c = .num q) : Bdd a q := by
  by_cases h9 : (a.flag r c).testBit 9 = true
  · have h8 := bit8_false_of_bit9 hwf hr hc h9
    cases ht : touchesOcclusion a r c
    · obtain ⟨he, hf⟩ := mismSgm_fill hg a r c hr hc h9 ht
      by_cases h0 : nums (sourcesSgm a r c) = []
      · exfalso
        have : (mismSgm v a).valid r c = false := by
          apply not_valid_of_bit9; rw [(he h0).2]; exact h9
        rw [this] at hv; cases hv
      · rw [(hf h0).1] at hd
        exact Bdd.median (sgm_input_sources_bdd r c) hd
    · exfalso
      have : (mismSgm v a).valid r c = false := by
        apply not_valid_of_bit8
        rw [(mismSgm_touch (v := v) a r c hr hc h9 ht).2, upd_mism_occl h9 fun _ => h8, mismatch_pow, occlusion_pow, testBit_replaceBit]
        simp
      rw [this] at hv; cases hv
  · simp only [Bool.not_eq_true] at h9
    have := mismSgm_unflagged (v := v) a r c h9
    unfold DMap.valid at hv
    rw [this.2] at hv; rw [this.1] at hd
    exact Bdd.self hr hc hv hd

theorem sgm_sources_bdd (hg : v.guard = true) (hwf : WFp v.op .sgm off a) (r c : Nat) :
    ∀ q ∈ nums (sourcesSgm (mismSgm v a) r c), Bdd a q :=
  Bdd.sources (a := a) (m := mismSgm v a)
    (fun _ _ hr hc hv _ hd => mismSgm_valid_bdd hg hwf hr hc hv hd) dirs8 (posSgm r c)

/-- sgm fills an occlusion and a mismatch it handles as one alike: from the sources in the map after the first pass, the
    second lowest of them, two being needed -/
theorem sgm_asOccl {a b : DMap} {r c : Nat} (hk : kindOf .sgm a r c = .occl ∨ kindOf .sgm a r c = .mismAsOccl) :
    sourcesOf .sgm a b r c = nums (sourcesSgm (midOf .sgm a b) r c)
    ∧ (∀ n, enoughSources .sgm (kindOf .sgm a r c) n = decide (2 ≤ n))
    ∧ ∀ src q, valueOK .sgm (kindOf .sgm a r c) src (.num q)
        = (isSecondLowestAbs src q || (decide (src.length = 1) && src.contains q)) := by
  rcases hk with hk | hk <;> rw [hk] <;> exact ⟨by simp only [sourcesOf, hk], fun _ => rfl, fun _ _ => rfl⟩

/-- a pixel handled as an occlusion (bit 8 after the first pass), given its flag word after the first pass -/
theorem sgm_occl (hg : v.guard = true) (hwf : WFp v.op .sgm off a) {r c : Nat} (hr : r < a.rows) (hc : c < a.cols)
    (hk : kindOf .sgm a r c = .occl ∨ kindOf .sgm a r c = .mismAsOccl)
    (hfl : flagged (a.flag r c) = true) (hnb : onBorder off a r c = false)
    (h8 : ((mismSgm v a).flag r c).testBit 8 = true)
    (h4 : v.op = .add → ((mismSgm v a).flag r c).testBit 4 = false)
    (hun : (mismSgm v a).flag r c = unfilledFlag (kindOf .sgm a r c) (a.flag r c))
    (hfi : replaceBit ((mismSgm v a).flag r c) occlusion filledOcclusion
            = filledFlag (kindOf .sgm a r c) (a.flag r c))
    (hnf : flagged (filledFlag (kindOf .sgm a r c) (a.flag r c)) = false) :
    Outcome .sgm off a (sgm v a) r c := by
  obtain ⟨hso, hen, hvo⟩ := sgm_asOccl (b := sgm v a) hk
  have hsrcs : sourcesOf .sgm a (sgm v a) r c = nums (sourcesSgm (mismSgm v a) r c) := by
    rw [hso, sourcesSgm_congr (midOf_sgm_agree hg hwf)]
  obtain ⟨hlt, hge⟩ := occlSgm_flagged hg (mismSgm v a) r c hr hc h8
  by_cases h2 : 2 ≤ (nums (sourcesSgm (mismSgm v a) r c)).length
  · obtain ⟨⟨q, hq, hs⟩, hfg⟩ := hge h2
    have hg' : (sgm v a).flag r c = filledFlag (kindOf .sgm a r c) (a.flag r c) := by
      rw [sgm_eq, hfg, upd_occl h8 h4, hfi]
    refine Outcome.filled hfl hnb hg' (by rw [hg']; exact hnf) q (by rw [sgm_eq]; exact hq) ?_ ?_ ?_
    · rw [hsrcs, hvo, hs]; rfl
    · rw [betweenValid_iff]; exact sgm_sources_bdd hg hwf r c q (isSecondLowestAbs_mem hs)
    · rw [hsrcs, hen]; exact decide_eq_true h2
  · have hlt' : (nums (sourcesSgm (mismSgm v a) r c)).length < 2 := by omega
    have hg' : (sgm v a).flag r c = unfilledFlag (kindOf .sgm a r c) (a.flag r c) := by
      rw [sgm_eq, (hlt hlt').2, hun]
    refine Outcome.unfilled hfl hnb ?_ hg' ?_
    · rw [hsrcs, hen]; exact decide_eq_false (Nat.not_le_of_lt hlt')
    · rw [sgm_eq, (hlt hlt').2, flagged_eq, h8]; rfl

theorem sgm_outcome (hg : v.guard = true) (hwf : WFp v.op .sgm off a) {r c : Nat} (hr : r < a.rows) (hc : c < a.cols) :
    Outcome .sgm off a (sgm v a) r c := by
  by_cases h8 : (a.flag r c).testBit 8 = true
  -- bit 8: the first pass skips the pixel, the second handles it as an occlusion
  · have h9 : (a.flag r c).testBit 9 = false := hwf.one r c hr hc h8
    have h4 : v.op = .add → (a.flag r c).testBit 4 = false := fun h => hwf.st8 h r c hr hc h8
    have hfl : flagged (a.flag r c) = true := by rw [flagged_eq, h8]; rfl
    have hk : kindOf .sgm a r c = .occl := by simp [kindOf, FlagWord.hasBit_occlusion, h8]
    obtain ⟨_, hm2⟩ := mismSgm_unflagged (v := v) a r c h9
    refine sgm_occl hg hwf hr hc (Or.inl hk) hfl (not_border_of_bit hwf hr hc border_word_testBit8 h8) (by rw [hm2]; exact h8)
      (by rw [hm2]; exact h4) (by rw [hm2, hk]; rfl) (by rw [hm2, hk]; rfl) ?_
    rw [hk]; simp only [filledFlag]
    exact flagged_fill8 (j := 4) h9 (by decide) (by decide)
  · simp only [Bool.not_eq_true] at h8
    by_cases h9 : (a.flag r c).testBit 9 = true
    · have h5 : v.op = .add → (a.flag r c).testBit 5 = false := fun h => hwf.st9 h r c hr hc h9
      have h4 : v.op = .add → (a.flag r c).testBit 4 = false := fun h => hwf.st9s h rfl r c hr hc h9
      have hnb := not_border_of_bit hwf hr hc border_word_testBit9 h9
      have hfl : flagged (a.flag r c) = true := by rw [flagged_eq, h9]; simp
      cases ht : touchesOcclusion a r c
      -- bit 9: the first pass fills it (final), or, touching an occlusion, turns it into bit 8 for the second pass
      · have hk : kindOf .sgm a r c = .mism := by rw [kindOf_sgm_mism h8 h9, ht]; rfl
        obtain ⟨hb1, hb2⟩ := sgm_at_mism hg hwf hr hc h9 ht
        obtain ⟨he, hf⟩ := mismSgm_fill hg a r c hr hc h9 ht
        refine outcome_mism h8 h9 hnb hk (by simp only [sourcesOf, hk]) (sgm_input_sources_bdd r c) ?_ ?_
        · intro hne; rw [hb2, (he hne).2]
        · intro hne; rw [hb1, hb2, (hf hne).1, (hf hne).2, upd_mism h9 h5]; exact ⟨rfl, rfl⟩
      · have hk : kindOf .sgm a r c = .mismAsOccl := by rw [kindOf_sgm_mism h8 h9, ht]; rfl
        obtain ⟨_, hm2⟩ := mismSgm_touch (v := v) a r c hr hc h9 ht
        have hf1 : (mismSgm v a).flag r c = replaceBit (a.flag r c) (2 ^ 9) (2 ^ 8) := by
          rw [hm2, upd_mism_occl h9 fun _ => h8, mismatch_pow, occlusion_pow]
        refine sgm_occl hg hwf hr hc (Or.inr hk) hfl hnb (by rw [hf1, testBit_replaceBit]; simp)
          (by intro hop; rw [hf1, testBit_replaceBit]; simp [h4 hop]) (by rw [hf1, hk]; simp [unfilledFlag, mismatch_pow, occlusion_pow]) ?_ ?_
        · rw [hf1, hk, occlusion_pow, filledOcclusion_pow, replaceBit_twice _ 9 8 4 h8 (by decide)]
          simp [filledFlag, mismatch_pow, filledOcclusion_pow]
        · rw [hk]; simp only [filledFlag]
          exact flagged_fill9 (j := 4) h8 (by decide) (by decide)
    -- neither bit: both passes skip the pixel
    · simp only [Bool.not_eq_true] at h9
      have hfl : flagged (a.flag r c) = false := by rw [flagged_eq, h8, h9]; rfl
      obtain ⟨hd, hg'⟩ := sgm_unflagged (v := v) h8 h9
      exact Outcome.untouched hfl hd hg' (hwf.bc r c hr hc)

end sgm

/-- For every guarded text of the kernels (`+=` or `|=`), every well-formed map of any size and every pixel inside it:
    what happened to the pixel is one of the three outcomes the statement allows. -/
theorem outcome (v : Variant) (hg : v.guard = true) (meth : Method) (off : Nat) (a : DMap)
    (hwf : wf v.op meth off a = true) {r c : Nat} (hr : r < a.rows) (hc : c < a.cols) :
    Outcome meth off a (interpolate v meth off a) r c := by
  cases meth with
  | mccnn => exact mccnn_outcome hg (wf_elim hwf) hr hc
  | sgm => exact sgm_outcome hg (wf_elim hwf) hr hc

/-- all nine clauses at one pixel -/
theorem pixel_ok (v : Variant) (hg : v.guard = true) (meth : Method) (off : Nat) (a : DMap)
    (hwf : wf v.op meth off a = true) {r c : Nat} (hr : r < a.rows) (hc : c < a.cols) :
    pixelOK meth off a (interpolate v meth off a) r c = true :=
  pixelOK_of_outcome (outcome v hg meth off a hwf hr hc)

/-- … hence the whole specification (all nine clauses at every pixel). -/
theorem spec_holds (v : Variant) (hg : v.guard = true) (meth : Method) (off : Nat) (a : DMap)
    (hwf : wf v.op meth off a = true) : spec meth off a (interpolate v meth off a) = true := by
  unfold spec
  have h1 : (interpolate v meth off a).rows = a.rows := by cases meth <;> rfl
  have h2 : (interpolate v meth off a).cols = a.cols := by cases meth <;> rfl
  simp only [h1, h2, decide_true, Bool.true_and, List.all_eq_true, List.mem_range]
  intro r hr c hc
  exact pixel_ok v hg meth off a hwf hr hc

/-- The property for the source: the variant the translator read from
    `pandora/validation/interpolated_disparity.py` is guarded, and for it the specification holds on every well-formed
    map (`wf` asks for "no stale filled bit" of the `+=` form only). -/
theorem spec_holds_source (meth : Method) (off : Nat) (a : DMap) (hwf : wf sourceVariant.op meth off a = true) :
    spec meth off a (interpolate sourceVariant meth off a) = true :=
  spec_holds sourceVariant source_guarded meth off a hwf

/-- **A pixel that carries neither bit 8 nor bit 9 keeps its disparity and its flag word**, for every text of the kernels
    (guarded or not, `+=` or `|=`), both methods, every map: all that is asked is that the pixel, if it lies inside the
    border mc-cnn masks, carries the border word already. -/
theorem unflagged_untouched_of_clean (v : Variant) (meth : Method) (off : Nat) (a : DMap) {r c : Nat}
    (hb : onBorder off a r c = true → a.flag r c = leftNodataOrBorder) (hf : flagged (a.flag r c) = false) :
    (interpolate v meth off a).disp r c = a.disp r c ∧ (interpolate v meth off a).flag r c = a.flag r c := by
  rw [flagged_eq, Bool.or_eq_false_iff] at hf
  cases meth with
  | mccnn => exact mccnn_unflagged hb hf.1 hf.2
  | sgm => exact sgm_unflagged hf.1 hf.2

/-- clause `unflagged_untouched`; of its hypotheses only the clean border of `wf` is used (`unflagged_untouched_of_clean`:
    `hg` and the rest of `wf` are not needed) -/
theorem unflagged_untouched (v : Variant) (hg : v.guard = true) (meth : Method) (off : Nat) (a : DMap)
    (hwf : wf v.op meth off a = true) {r c : Nat} (hr : r < a.rows) (hc : c < a.cols)
    (hf : flagged (a.flag r c) = false) :
    (interpolate v meth off a).disp r c = a.disp r c ∧ (interpolate v meth off a).flag r c = a.flag r c :=
  unflagged_untouched_of_clean v meth off a ((wf_elim hwf).bc r c hr hc) hf

/-- a flagged pixel is never on the border and ends with bit 8 replaced by 4 / bit 9 by 5 (sgm: by 4 when it
    touches an occlusion) and a finite disparity, or stays flagged (bit 9 → 8 for an sgm mismatch touching an
    occlusion) with too few sources; no other bit ever changes -/
theorem filled_bits (v : Variant) (hg : v.guard = true) (meth : Method) (off : Nat) (a : DMap)
    (hwf : wf v.op meth off a = true) {r c : Nat} (hr : r < a.rows) (hc : c < a.cols)
    (hf : flagged (a.flag r c) = true) :
    (decide (off > 0) && isBorder a off r c) = false ∧
    (((interpolate v meth off a).flag r c = filledFlag (kindOf meth a r c) (a.flag r c)
        ∧ ∃ q, (interpolate v meth off a).disp r c = .num q)
      ∨ ((interpolate v meth off a).flag r c = unfilledFlag (kindOf meth a r c) (a.flag r c)
          ∧ flagged ((interpolate v meth off a).flag r c) = true
          ∧ enoughSources meth (kindOf meth a r c) (sourcesOf meth a (interpolate v meth off a) r c).length = false)) := by
  cases outcome v hg meth off a hwf hr hc with
  | untouched hf' => rw [hf] at hf'; cases hf'
  | unfilled _ hb hs hg' hfg => exact ⟨hb, Or.inr ⟨hg', hfg, hs⟩⟩
  | filled _ hb hg' _ q hd => exact ⟨hb, Or.inl ⟨hg', q, hd⟩⟩

/-- mc-cnn masks the border whatever the input and the variant: border pixels end with bit 0 only -/
theorem border_bit0_only_mccnn (v : Variant) (off : Nat) (a : DMap) (r c : Nat)
    (h : (decide (off > 0) && isBorder a off r c) = true) : (mccnn v off a).flag r c = leftNodataOrBorder := by
  rw [mccnn_flag, if_pos h]

theorem border_word_kept (v : Variant) (meth : Method) (off : Nat) (a : DMap) {r c : Nat}
    (hw : a.flag r c = leftNodataOrBorder) : (interpolate v meth off a).flag r c = leftNodataOrBorder :=
  (unflagged_untouched_of_clean v meth off a (fun _ => hw) (by rw [hw]; decide)).2.trans hw

/-- border pixels end with bit 0 only, both methods (sgm: because they are left untouched); of the hypotheses only the
    clean border of `wf` is used (`border_word_kept`) -/
theorem border_bit0_only (v : Variant) (hg : v.guard = true) (meth : Method) (off : Nat) (a : DMap)
    (hwf : wf v.op meth off a = true) {r c : Nat} (hr : r < a.rows) (hc : c < a.cols)
    (h : (decide (off > 0) && isBorder a off r c) = true) :
    (interpolate v meth off a).flag r c = leftNodataOrBorder :=
  border_word_kept v meth off a ((wf_elim hwf).bc r c hr hc h)

/-! ### Why the guards and `|=` are needed: the same statement is false of the unguarded kernels (findings F6a–F6d)
    and of the `+=` form (F4); inputs in `corpus/C14/`.  Non-vacuity. -/

def mapOf (disp : List (List Val)) (flag : List (List Nat)) : DMap :=
  { rows := flag.length, cols := (flag.headD []).length,
    disp := fun r c => (disp.getD r []).getD c .nan, flag := fun r c => (flag.getD r []).getD c 0 }

def okOf (cl : View → Clause) (v : Variant) (meth : Method) (off : Nat) (a : DMap) (r c : Nat) : Bool :=
  (cl (viewAt meth off a (interpolate v meth off a) r c)).ok

/-- the kernels without guards and with `+=` / with the guards only / with the guards and `|=` -/
def vOld : Variant := ⟨false, .add⟩
def vGuardAdd : Variant := ⟨true, .add⟩
def vNow : Variant := ⟨true, .or⟩

/-- F6a (corpus f6a_mccnn_mismatch_nan.json), unguarded kernels: a mismatch with no valid pixel on its 16 scan
    lines is filled with NaN and marked "filled mismatch"; the guarded kernels leave it flagged. -/
def exF6a : DMap := mapOf [[.num 5, .num 6, .nan, .num 8, .num 9]] [[1, 1, 512, 1, 1]]

theorem mccnn_mismatch_nan_counterexample :
    wf .add .mccnn 0 exF6a = true
    ∧ (mccnn vOld 0 exF6a).disp 0 2 = .nan ∧ (mccnn vOld 0 exF6a).flag 0 2 = 32
    ∧ okOf cFilledFinite vOld .mccnn 0 exF6a 0 2 = false ∧ okOf cNoSource vOld .mccnn 0 exF6a 0 2 = false
    ∧ spec .mccnn 0 exF6a (interpolate vOld .mccnn 0 exF6a) = false
    ∧ (mccnn vNow 0 exF6a).flag 0 2 = 512 := by decide +kernel

/-- F6b (corpus f6b_mccnn_mismatch_zero.json), unguarded kernels: two scan lines of the mismatch at (0,0) run
    their max(rows, cols) − 1 = 2 steps inside the image on invalid pixels: the 0 of `np.zeros` enters the median
    twice, the only valid pixel in sight carries 7, the pixel is filled with 0 — outside [7, 7].  Guarded: 7. -/
def exF6b : DMap := mapOf [[.nan, .nan, .nan], [.nan, .num 7, .nan]] [[512, 2, 2], [2, 0, 2]]

theorem mccnn_mismatch_zero_counterexample :
    wf .add .mccnn 0 exF6b = true
    ∧ (mccnn vOld 0 exF6b).disp 0 0 = .num 0 ∧ (mccnn vOld 0 exF6b).flag 0 0 = 32
    ∧ sourcesOf .mccnn exF6b (mccnn vOld 0 exF6b) 0 0 = [7]
    ∧ okOf (cFilledFromValid .mccnn) vOld .mccnn 0 exF6b 0 0 = false
    ∧ okOf (cFilledBetween exF6b) vOld .mccnn 0 exF6b 0 0 = false
    ∧ spec .mccnn 0 exF6b (interpolate vOld .mccnn 0 exF6b) = false
    ∧ (mccnn vNow 0 exF6b).disp 0 0 = .num 7 := by decide +kernel

/-- F6c (corpus f6c_sgm_mismatch_nan.json), unguarded: sgm mismatch without valid pixel on its 8 scan lines. -/
def exF6c : DMap :=
  mapOf [[.num 5, .num 6, .num 7], [.num 1, .nan, .num 3], [.num 1, .num 4, .num (-1)]] [[1, 1, 1], [1, 512, 1], [1, 1, 1]]

theorem sgm_mismatch_nan_counterexample :
    wf .add .sgm 0 exF6c = true
    ∧ (sgm vOld exF6c).disp 1 1 = .nan ∧ (sgm vOld exF6c).flag 1 1 = 32
    ∧ okOf cFilledFinite vOld .sgm 0 exF6c 1 1 = false ∧ okOf cNoSource vOld .sgm 0 exF6c 1 1 = false
    ∧ spec .sgm 0 exF6c (interpolate vOld .sgm 0 exF6c) = false
    ∧ (sgm vNow exF6c).flag 1 1 = 512 := by decide +kernel

/-- F6d (corpus f6d_sgm_occlusion_nan.json), unguarded: sgm occlusion with a single valid pixel in sight:
    `argsort(|·|)[1]` points at a NaN. -/
def exF6d : DMap :=
  mapOf [[.num 5, .num 6, .num 7], [.num 1, .nan, .num 3], [.num 1, .num 4, .num (-1)]] [[1, 1, 1], [0, 256, 1], [1, 1, 1]]

theorem sgm_occlusion_nan_counterexample :
    wf .add .sgm 0 exF6d = true
    ∧ sourcesOf .sgm exF6d (sgm vOld exF6d) 1 1 = [1]
    ∧ (sgm vOld exF6d).disp 1 1 = .nan ∧ (sgm vOld exF6d).flag 1 1 = 16
    ∧ okOf cFilledFinite vOld .sgm 0 exF6d 1 1 = false
    ∧ spec .sgm 0 exF6d (interpolate vOld .sgm 0 exF6d) = false
    ∧ (sgm vNow exF6d).flag 1 1 = 256 := by decide +kernel

/-- F4 (corpus f4_stale_filled_bit.json): an occlusion that already carries bit 4 (left by an earlier validation
    step with filling).  With `+=` (even with the guards) bit 4 + bit 4 carries into bit 5 and the specification
    fails — this is why the add-form needs `noStaleFill`; with `|=` the map is well-formed, the pixel ends with
    bit 4 and the whole specification holds. -/
def exF4 : DMap := mapOf [[.num 3, .nan, .num 4]] [[0, 272, 0]]

theorem stale_filled_bit_add_counterexample :
    noStaleFill .mccnn exF4 = false ∧ wf .add .mccnn 0 exF4 = false
    ∧ (mccnn vGuardAdd 0 exF4).flag 0 1 = 32 ∧ filledFlag .occl 272 = 16
    ∧ okOf cFilledBits vGuardAdd .mccnn 0 exF4 0 1 = false
    ∧ spec .mccnn 0 exF4 (interpolate vGuardAdd .mccnn 0 exF4) = false := by decide +kernel

theorem stale_filled_bit_or_ok :
    wf .or .mccnn 0 exF4 = true ∧ (mccnn vNow 0 exF4).flag 0 1 = 16 ∧ (mccnn vNow 0 exF4).disp 0 1 = .num 3
    ∧ spec .mccnn 0 exF4 (interpolate vNow .mccnn 0 exF4) = true := by decide +kernel

/-- non-vacuity, mc-cnn: an occlusion filled from its left (3) and a mismatch filled with the median of
    {4,4,4,3,3,3,5,5,5,4,4} = 4 (the filled occlusion is one of the sources, three times); a second mismatch in a
    corner without anything in sight would stay flagged. -/
def exOkMc : DMap := mapOf [[.num 3, .nan, .nan, .num 5], [.num 4, .num 4, .num 4, .num 4]] [[0, 256, 512, 0], [0, 0, 0, 0]]

example : wf .or .mccnn 0 exOkMc = true
    ∧ (mccnn vNow 0 exOkMc).disp 0 1 = .num 3 ∧ (mccnn vNow 0 exOkMc).flag 0 1 = 16
    ∧ (mccnn vNow 0 exOkMc).disp 0 2 = .num 4 ∧ (mccnn vNow 0 exOkMc).flag 0 2 = 32
    ∧ spec .mccnn 0 exOkMc (interpolate vNow .mccnn 0 exOkMc) = true := by decide +kernel

/-- non-vacuity, sgm: an occlusion (second lowest |d| of its 7 finite neighbours 6, 5, 4, 1, 2, 3, −2: the tie
    |2| = |−2| goes to the first in direction order, 2) and a mismatch touching it (handled as an occlusion:
    −2 among {−2, 1, 6}), offset 1 with a clean border on a 5×5 map. -/
def exOkSgm : DMap :=
  mapOf [[.nan, .nan, .nan, .nan, .nan], [.nan, .num 1, .num 2, .num 3, .nan], [.nan, .num 4, .nan, .num (-2), .nan],
         [.nan, .num 5, .num 6, .nan, .nan], [.nan, .nan, .nan, .nan, .nan]]
        [[1, 1, 1, 1, 1], [1, 0, 0, 0, 1], [1, 0, 256, 0, 1], [1, 0, 0, 512, 1], [1, 1, 1, 1, 1]]

example : wf .or .sgm 1 exOkSgm = true
    ∧ (sgm vNow exOkSgm).disp 2 2 = .num 2 ∧ (sgm vNow exOkSgm).flag 2 2 = 16
    ∧ (sgm vNow exOkSgm).disp 3 3 = .num (-2) ∧ (sgm vNow exOkSgm).flag 3 3 = 16
    ∧ spec .sgm 1 exOkSgm (interpolate vNow .sgm 1 exOkSgm) = true := by decide +kernel

end Pandora.C14
