/-
  C13 — vertical flip of the composed run of the step models (`fullRun`, `Model/PipelineRun.lean`): the run is the
  composed function `ccStage` on the scene array (`fullRunR_is_ccStage`), which commutes with the flip.
-/
import PandoraModel.Properties.C13Run
import PandoraModel.Properties.C13FlipFlags

namespace Pandora.C13
open Pandora.Locality

/-- `xF` is the pair `x` listed bottom-up, with the same configuration and the same global disparity ranges -/
structure FlipRun (x xF : MC.Input) : Prop where
  params : paramsOf xF = paramsOf x
  rows : xF.L.rows = x.L.rows
  cols : xF.L.cols = x.L.cols
  scene : ∀ r c, r < x.L.rows → c < x.L.cols → mcScene xF r c = mcScene x (x.L.rows - 1 - r) c
  gmin : gminOf xF = gminOf x
  gmax : gmaxOf xF = gmaxOf x
  gminR : gminOf (swapInput xF) = gminOf (swapInput x)
  gmaxR : gmaxOf (swapInput xF) = gmaxOf (swapInput x)

/-- **Vertical flip of a run with aggregation**: `agg`, `agg'` are the aggregation steps of the two chains (translation-
    equivariant steps that commute with the flip), `R`, `R'` (`RF`, `RF'`) the cost rows their cost stages compute for the pair and
    the swapped pair (for the pair listed bottom-up). -/
theorem runR_flip (K K' : RunCfg) (V : CrossCheck.Variant) (CP : CrossCheck.Params) (x xF : MC.Input)
    (hf : FlipRun x xF)
    {agg agg' : AggStep} (hAe : Equivariant agg) (hA : VFlipOn agg) (hAe' : Equivariant agg') (hA' : VFlipOn agg')
    {R R' RF RF' : Nat → Nat → List Val} {out outF : Nat → Nat → CrossCheck.PixOut}
    (h : RunOf K K' V CP x agg agg' R R' out) (hF : RunOf K K' V CP xF agg agg' RF RF' outF)
    (r c : Nat) (hr : r < x.L.rows) (hc : c < x.L.cols) :
    outF r c = out (x.L.rows - 1 - r) c := by
  have e := hF.cell r c (hf.rows ▸ hr) (hf.cols ▸ hc)
  rw [cfgOf_congr K hf.params hf.gmin hf.gmax, cfgOf_congr K' (paramsOf_swap_congr hf.params) hf.gminR hf.gmaxR,
    hf.rows, hf.cols, toImg_congr _ _ (mcScene xF) (flipArr x.L.rows (mcScene x)) hf.scene,
    pipeline_flip_flags (cfgOf K x) hAe hA K.doRefine K.doMedian (fun hm => (h.ok.med hm).odd)
      (rightDisp_equivariant (cfgOf K' (swapInput x)) hAe' (pipeFlags_equivariant _) K'.doRefine K'.doMedian)
      (rightDisp_vflip (cfgOf K' (swapInput x)) hA' (pipeFlags_vflip _) K'.doRefine K'.doMedian
        (fun hm => (h.ok.medR hm).odd)) V CP x.L.rows x.L.cols (mcScene x) ((r : Int), (c : Int)),
    ← Int.natCast_one, ← Int.natCast_sub (Nat.one_le_of_lt hr), ← Int.natCast_sub (Nat.le_sub_one_of_lt hr),
    h.cell (x.L.rows - 1 - r) c (by omega) hc] at e
  exact (Option.some.inj e).symm

/-- **Vertical flip of the run of the models.**  `out` is the result of the composed run (matching cost, criteria
    flags, winner-takes-all, refinement, median filter, the same chain on the swapped pair, cross-checking) on the
    pair `x`, `outF` the result on the pair listed bottom-up: every pixel `(r, c)` gets in the flipped run the flag
    word and confidence cell pixel `(rows - 1 - r, c)` gets in the run.  The matching-cost window is odd (`Shape`), the
    median filter is odd (`MedianOK`); both runs return and satisfy C07's hypothesis. -/
theorem run_flip (K K' : RunCfg) (V : CrossCheck.Variant) (CP : CrossCheck.Params) (x xF : MC.Input)
    (hf : FlipRun x xF) (ok : RunOK K K' x) (okF : RunOK K K' xF)
    (out outF : Nat → Nat → CrossCheck.PixOut)
    (hout : fullRun K K' V CP x = some out) (houtF : fullRun K K' V CP xF = some outF)
    (hin : ∀ A, afterFilter K x = some A → LeftInInterval CP x.L.rows x.L.cols A)
    (hinF : ∀ A, afterFilter K xF = some A → LeftInInterval CP xF.L.rows xF.L.cols A)
    (r c : Nat) (hr : r < x.L.rows) (hc : c < x.L.cols) :
    outF r c = out (x.L.rows - 1 - r) c :=
  runR_flip K K' V CP x xF hf noAgg_equivariant noAgg_vflip.toOn noAgg_equivariant noAgg_vflip.toOn
    ⟨ok, costStage_run K x ok.mc, costStage_run K' (swapInput x) ok.mcR, hout, hin⟩
    ⟨okF, costStage_run K xF okF.mc, costStage_run K' (swapInput xF) okF.mcR, houtF, hinF⟩ r c hr hc

/-! ### Non-vacuity: the 3 × 9 pair of `C13Run.lean` and the same pair listed bottom-up -/

namespace RunExample

def exFlip : MC.Input :=
  { exWhole with
    L := { rows := 3, cols := 9, px := fun r c => exL.px (2 - r) c }
    R := { rows := 3, cols := 9, px := fun r c => exR.px (2 - r) c } }

theorem exFlipRun : FlipRun exWhole exFlip := by
  refine ⟨rfl, rfl, rfl, ?_, by decide +kernel, by decide +kernel, by decide +kernel, by decide +kernel⟩
  intro r c hr _
  have e : ((exWhole.L.rows - 1 - r : Nat) : Int) = 2 - (r : Int) := Int.natCast_sub (Nat.le_of_lt_succ hr)
  unfold mcScene
  rw [e]
  rfl

theorem exFlipEval : (afterFilter exK exFlip).all (leftInIntervalB exCP 3 9) = true
    ∧ (fullRun exK exK' .asIs exCP exFlip).isSome = true := by decide +kernel

example : (fullRun exK exK' .asIs exCP exFlip).isSome = true := exFlipEval.2

theorem exInF : (afterFilter exK exFlip).all (leftInIntervalB exCP 3 9) = true := exFlipEval.1

example (out outF : Nat → Nat → CrossCheck.PixOut)
    (hout : fullRun exK exK' .asIs exCP exWhole = some out) (houtF : fullRun exK exK' .asIs exCP exFlip = some outF) :
    outF 0 4 = out (3 - 1 - 0) 4 :=
  run_flip exK exK' .asIs exCP exWhole exFlip exFlipRun
    exWholeOK
    (exOK exFlip rfl (by decide +kernel) (by decide +kernel) ⟨by decide, by decide⟩ ⟨by decide, by decide⟩)
    out outF hout houtF
    (leftInInterval_of_all exIn.1) (leftInInterval_of_all exInF)
    0 4 (by decide) (by decide)

end RunExample

end Pandora.C13
