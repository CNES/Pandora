/-
  C02 — the array functions of pandora/img_tools.py the measures are built on, REGENERATED from the source
  (`Generated/KernelsMcArr.lean`, translator/gen_kernels_mc_arr.py), are the model's: `census_transform` (the two loops
  threading `(census, shift)` over the strided window view), `compute_mean_raster` (the cumulative-sum pipeline) with
  `compute_std_raster`'s radicand on top, and the indexing of `shift_right_img` (what `zoom` computes stays the modelled
  primitive `MC.zoomCol`).
-/
import PandoraModel.Generated.KernelsMcArr
import PandoraModel.Properties.C02KernelsMcCost
import PandoraModel.Properties.C02Zncc

namespace Pandora.C02KernelsMcArr
open Pandora.MC Pandora.PyExpr
open Pandora.Generated

theorem foldl_countdown (g : Nat → Int → Nat → Nat) (d : Int) (n : Nat) (acc : Nat) (S : Int) :
    (List.range n).foldl (fun (st : Nat × Int) (i : Nat) => (g st.1 st.2 i, st.2 - d)) (acc, S)
      = ((List.range n).foldl (fun a (i : Nat) => g a (S - i * d) i) acc, S - n * d) := by
  induction n with
  | zero => simp
  | succ n ih =>
    rw [List.range_succ, List.foldl_append, List.foldl_append, ih]
    simp only [List.foldl_cons, List.foldl_nil]
    refine Prod.ext rfl ?_
    simp only
    push_cast
    ring

/-- the inner loop (`shift -= 1`), and the outer one, whose iteration is an inner loop: it lowers the shift by `w` -/
theorem foldl_countdown_rows (t : Nat → Nat → Int → Nat) (w m : Nat) (acc : Nat) (S : Int) :
    (List.range m).foldl (fun (st : Nat × Int) (row : Nat) =>
        (List.range w).foldl (fun (st : Nat × Int) (col : Nat) => (st.1 + t row col st.2, st.2 - 1)) st) (acc, S)
      = ((List.range m).foldl (fun a row => (List.range w).foldl (fun a col => a + t row col (S - row * w - col)) a) acc,
          S - m * w) := by
  have inner (row : Nat) (st : Nat × Int) :
      (List.range w).foldl (fun (st : Nat × Int) (col : Nat) => (st.1 + t row col st.2, st.2 - 1)) st
        = ((List.range w).foldl (fun a col => a + t row col (st.2 - col)) st.1, st.2 - w) := by
    simpa using foldl_countdown (fun a s col => a + t row col s) 1 w st.1 st.2
  simp only [inner]
  exact foldl_countdown (fun a s row => (List.range w).foldl (fun a col => a + t row col (s - col)) a) w m acc S

theorem censusBorder_eq (w : Nat) : KernelsMcArr.censusBorder (w : Int) = ((half w : Nat) : Int) := by
  unfold KernelsMcArr.censusBorder half
  cases w with
  | zero => decide +kernel
  | succ n =>
    have e : (((n + 1 : Nat) : Int) - 1) = ((n : Nat) : Int) := by push_cast; ring
    rw [e, rtrunc_half _ (Int.natCast_nonneg n)]
    simp only [Nat.add_sub_cancel]
    omega

theorem censusShift_toNat (w a b : Nat) (ha : a < w) (hb : b < w) :
    ((KernelsMcArr.censusShift0 (w : Int)) - (a : Int) * (w : Int) - (b : Int)).toNat = w * w - 1 - (a * w + b) := by
  unfold KernelsMcArr.censusShift0
  have h1 : (a + 1) * w ≤ w * w := Nat.mul_le_mul_right w ha
  have h2 : (a + 1) * w = a * w + w := by ring
  rw [← Int.natCast_mul, ← Int.natCast_mul]
  generalize a * w = P at *
  generalize w * w = Q at *
  omega

/-- **`census_transform`, regenerated, is the model's census bit string** — every window size, image and position -/
theorem censusTransform_eq (w : Nat) (img : Img) (i j : Int) :
    KernelsMcArr.censusTransformPx (w : Int) img.px i j = censusBits w img i j := by
  unfold KernelsMcArr.censusTransformPx KernelsMcArr.censusRange0 KernelsMcArr.censusRange1 censusBits
  simp only [Int.toNat_natCast]
  rw [foldl_countdown_rows (fun row col s => (if img.px (i + (row : Int)) (j + (col : Int)) >
      img.px (i + KernelsMcArr.censusBorder (w : Int)) (j + KernelsMcArr.censusBorder (w : Int)) then (1 : Nat) else 0) <<< s.toNat) w w]
  simp only
  rw [censusBorder_eq]
  refine List.foldl_ext _ _ _ fun acc a ha => ?_
  refine List.foldl_ext _ _ _ fun acc' b hb => ?_
  rw [censusShift_toNat w a b (List.mem_range.mp ha) (List.mem_range.mp hb)]

theorem censusShape_eq (w : Nat) (hw : w % 2 = 1) (ny nx : Int) :
    KernelsMcArr.censusShape0 (w : Int) ny nx = ny - 2 * ((half w : Nat) : Int)
    ∧ KernelsMcArr.censusShape1 (w : Int) ny nx = nx - 2 * ((half w : Nat) : Int) := by
  rw [KernelsMcArr.censusShape0, KernelsMcArr.censusShape1, C02Kernels.two_mul_half w hw]
  exact ⟨rfl, rfl⟩

/-- **census, end to end** (`w = 2o + 1`, `w² ≤ 32`): the regenerated cost of the regenerated census images of `A` and `B` at
    the window centred on `(r, c)` is the number of neighbours whose comparison with the centre differs between the two images -/
theorem census_generated_window (o : Nat) (h32 : (2 * o + 1) * (2 * o + 1) ≤ 32) (A B : Img) (r c : Int) :
    KernelsMcCost.censusCost (KernelsMcArr.censusTransformPx ((2 * o + 1 : Nat) : Int) A.px (r - o) (c - o))
        (KernelsMcArr.censusTransformPx ((2 * o + 1 : Nat) : Int) B.px (r - o) (c - o)) =
      winCount o (fun a b => decide (A.px a b > A.px r c) != decide (B.px a b > B.px r c)) r c := by
  rw [censusTransform_eq _ A, censusTransform_eq _ B]
  exact C02KernelsMcCost.censusCost_window o h32 A B r c

theorem census_generated_window3 (A B : Img) (r c : Int) :
    KernelsMcCost.censusCost (KernelsMcArr.censusTransformPx ((3 : Nat) : Int) A.px (r - 1) (c - 1))
        (KernelsMcArr.censusTransformPx ((3 : Nat) : Int) B.px (r - 1) (c - 1)) =
      winCount 1 (fun a b => decide (A.px a b > A.px r c) != decide (B.px a b > B.px r c)) r c :=
  census_generated_window 1 (by decide) A B r c

theorem census_generated_window5 (A B : Img) (r c : Int) :
    KernelsMcCost.censusCost (KernelsMcArr.censusTransformPx ((5 : Nat) : Int) A.px (r - 2) (c - 2))
        (KernelsMcArr.censusTransformPx ((5 : Nat) : Int) B.px (r - 2) (c - 2)) =
      winCount 2 (fun a b => decide (A.px a b > A.px r c) != decide (B.px a b > B.px r c)) r c :=
  census_generated_window 2 (by decide) A B r c

/-- non-vacuity: centre 5, neighbours above it at offsets (0,1) and (2,2) of a 3×3 window: bits 7 and 0 -/
example : KernelsMcArr.censusTransformPx 3 (fun r c => if (r, c) = (0, 1) ∨ (r, c) = (2, 2) then 9 else 5) 0 0 = 129 := by decide +kernel

theorem sumZ_leading_zero (g : Int → ℚ) (i : Int) (hi : 0 ≤ i) :
    sumZ (0 : ℚ) (fun k => if k = 0 then 0 else g (k - 1)) 0 (i + 1).toNat = sumZ (0 : ℚ) g 0 i.toNat := by
  obtain ⟨n, rfl⟩ := Int.eq_ofNat_of_zero_le hi
  rw [show ((n : Int) + 1).toNat = n + 1 from rfl, Int.toNat_natCast]
  induction n with
  | zero => simp [sumZ]
  | succ n ih =>
    rw [sumZ, ih (Int.natCast_nonneg n), sumZ, if_neg (by omega)]
    congr 2
    omega

theorem cumsum0_zeroRow (f : Int → Int → ℚ) (i j : Int) (hi : 0 ≤ i) :
    KernelsMcArr.cumsum0 (KernelsMcArr.zeroRow f) i j = sumZ (0 : ℚ) (fun i' => f i' j) 0 i.toNat :=
  sumZ_leading_zero (fun i' => f i' j) i hi

theorem cumsum1_zeroCol (g : Int → Int → ℚ) (i j : Int) (hj : 0 ≤ j) :
    KernelsMcArr.cumsum1 (KernelsMcArr.zeroCol g) i j = sumZ (0 : ℚ) (fun j' => g i j') 0 j.toNat :=
  sumZ_leading_zero (fun j' => g i j') j hj

/-- **`compute_mean_raster`, regenerated statement by statement, is the model's `meanRaster`** (any raster, any window size,
    any cell of the result) -/
theorem meanRasterPx_eq_model (w : Nat) (f : Int → Int → ℚ) (i j : Int) (hi : 0 ≤ i) (hj : 0 ≤ j) :
    KernelsMcArr.meanRasterPx w f i j = meanRaster w f i j := by
  unfold KernelsMcArr.meanRasterPx meanRaster KernelsMcArr.meanDen
  simp only [KernelsMcArr.diff1]
  rw [cumsum1_zeroCol _ i (j + w) (by omega), cumsum1_zeroCol _ i j hj]
  have hrow : ∀ j' : Int, KernelsMcArr.diff0 w (KernelsMcArr.cumsum0 (KernelsMcArr.zeroRow f)) i j'
      = sumZ (0 : ℚ) (fun i' => f i' j') 0 (i + w).toNat - sumZ (0 : ℚ) (fun i' => f i' j') 0 i.toNat := by
    intro j'
    unfold KernelsMcArr.diff0
    rw [cumsum0_zeroRow f (i + w) j' (by omega), cumsum0_zeroRow f i j' hi]
  simp only [hrow]
  push_cast
  rfl

/-- … hence the block mean `Σ_{window} f / w²` (C12's `std_intensity` calls the same two functions) -/
theorem meanRasterPx_eq_mean (w : Nat) (f : Int → Int → ℚ) (i j : Int) (hi : 0 ≤ i) (hj : 0 ≤ j) :
    KernelsMcArr.meanRasterPx w f i j = C02.mean w w f i j := by
  rw [meanRasterPx_eq_model w f i j hi hj]; exact C02.meanRaster_eq_mean w f i j hi hj

/-- the radicand of `compute_std_raster` computed from the REGENERATED mean rasters is the model's `varRaster`; written so
    that it holds whether or not the source takes `abs` of `mean_power_two` (it is never negative) -/
theorem stdRadicandPx_eq_model (w : Nat) (f : Int → Int → ℚ) (i j : Int) (hi : 0 ≤ i) (hj : 0 ≤ j) :
    varRaster w f i j = C02KernelsMcCost.stdRadicand (KernelsMcArr.meanRasterPx w (fun r c => f r c * f r c) i j)
      (KernelsMcArr.meanRasterPx w f i j) := by
  rw [meanRasterPx_eq_model w _ i j hi hj, meanRasterPx_eq_model w f i j hi hj]
  exact C02KernelsMcCost.stdRadicand_eq_model w f i j

/-- the number of columns kept by `[:, ind::subpix]` out of the zoomed width `nx·sp − (sp − 1)` is `nx − 1` -/
theorem shiftedCols_eq (nx ind sp : Int) (hs : 0 < sp) (h1 : 1 ≤ ind) (h2 : ind < sp) :
    KernelsMcArr.shiftedCols nx ind sp = nx - 1 := by
  unfold KernelsMcArr.shiftedCols KernelsMcArr.zoomedCols KernelsMcArr.shiftFirst KernelsMcArr.shiftStep
  have e : nx * sp - (sp - 1) - ind + sp - 1 = (sp - ind) + (nx - 1) * sp := by ring
  rw [e, Int.add_mul_ediv_right _ _ (ne_of_gt hs), Int.ediv_eq_zero_of_lt (by omega) (by omega)]
  ring

/-- **`shift_right_img` indexes the zoomed image as the model does**: the zoom is called on the selected band with factors
    `(1, (nx·sp − (sp − 1)) / nx)` and `order=1` (what `zoom` computes stays the modelled primitive: linear interpolation at
    `kk / sp`, `MC.zoomCol`); image number `i ≥ 1` of the list takes zoomed columns `i, i + sp, i + 2·sp, …`, `nx − 1` of them; number
    0 is the image itself -/
theorem shift_eq_model (R : Img) (sp i : Nat) (hs : 0 < sp) (hi1 : 1 ≤ i) (hi2 : i < sp) (hc : 1 ≤ R.cols) (r j : Int) :
    KernelsMcArr.zoomOrder = 1
    ∧ KernelsMcArr.zoomFactorRows (R.cols : Int) (sp : Int) = 1
    ∧ KernelsMcArr.zoomedCols (R.cols : Int) (sp : Int) = ((R.cols : Int) - 1) * sp + 1
    ∧ (shiftRight R sp i).px r j = zoomCol R sp r (KernelsMcArr.shiftedCol (i : Int) (sp : Int) j)
    ∧ ((shiftRight R sp i).cols : Int) = KernelsMcArr.shiftedCols (R.cols : Int) (i : Int) (sp : Int)
    ∧ shiftRight R sp 0 = R := by
  have hi0 : ¬ (i = 0) := by omega
  refine ⟨rfl, rfl, ?_, ?_, ?_, ?_⟩
  · unfold KernelsMcArr.zoomedCols; ring
  · unfold shiftRight KernelsMcArr.shiftedCol KernelsMcArr.shiftFirst KernelsMcArr.shiftStep
    rw [if_neg hi0]
  · rw [shiftedCols_eq _ _ _ (by exact_mod_cast hs) (by exact_mod_cast hi1) (by exact_mod_cast hi2)]
    unfold shiftRight
    rw [if_neg hi0]
    simp only
    omega
  · unfold shiftRight; rw [if_pos rfl]

/-- the last zoomed column is the last image column: positions `0, 1/sp, …, nx − 1` -/
example : KernelsMcArr.zoomedCols 5 4 = 17 ∧ KernelsMcArr.shiftedCols 5 3 4 = 4 ∧ KernelsMcArr.shiftedCol 3 4 2 = 11 := by decide +kernel

end Pandora.C02KernelsMcArr
