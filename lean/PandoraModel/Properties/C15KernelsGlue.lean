/-
  C15 — what happens to the maps `disparity_range` returns, the pyramid sizes and the multiscale parameters, regenerated from
  the source (`Generated/KernelsMultiscaleGlue.lean`, written by `translator/gen_kernels_multiscale_glue.py`): with every
  link generated (`disparity_range`, the hand-over of `run_multiscale`, `matching_cost_prepare`, the crop of `cv_masked`)
  the grids of the next level are the model's `nextLevelGrids`, and `convert_pyramid_to_dataset` writes no array that
  existed before the call.
-/
import PandoraModel.Properties.C15Kernels
import PandoraModel.Generated.KernelsMultiscaleGlue

namespace Pandora.C15Kernels
open Pandora.PyArr Pandora.Multiscale Pandora.C15
open Pandora.Generated.KernelsMultiscaleGlue

/-- both maps have the shape `sh` that `disparity_range` returned; a Python slice `a[0:n]` of an axis of length `L` keeps
    `min n L` samples from 0 -/
theorem cvMaskedCrop_eq (ny nx : Nat) (sh : Nat × Nat) :
    cvMaskedCrop ny nx sh sh
      = (((min ny sh.1, min nx sh.2), (0, 0)), ((min ny sh.1, min nx sh.2), (0, 0))) := by
  obtain ⟨a, b⟩ := sh
  unfold cvMaskedCrop
  dsimp only
  by_cases h1 : a > ny <;> by_cases h2 : b > nx <;>
    simp only [h1, h2, decide_true, decide_false, if_true, Bool.false_eq_true, if_false, Nat.zero_min, Nat.sub_zero,
      Nat.add_zero, Prod.mk.injEq, and_self, and_true, true_and] <;> omega

/-- **`grid * scale_factor` + the crop of `cv_masked`, regenerated = `cropMul`**, for every shape, content, factor and size of
    the finer level -/
theorem nextGrids_eq_cropMul (f fineRows fineCols : Nat) (sh : Nat × Nat) (amin amax : Arr Val) :
    nextGrids f fineRows fineCols sh amin amax
      = (cropMul sh amin f fineRows fineCols, cropMul sh amax f fineRows fineCols) := by
  unfold nextGrids cropMul
  simp only [cvMaskedCrop_eq, Blocks.tabulate, Nat.add_zero]
  exact Prod.ext
    (Blocks.tabulate_congr fun i _ j _ => congrArg (fun g => Val.map g _) (funext fun x => (mcPrepare_generated x f).1))
    (Blocks.tabulate_congr fun i _ j _ => congrArg (fun g => Val.map g _) (funext fun x => (mcPrepare_generated x f).2.1))

/-- the grids the next level searches, with EVERY link generated: `disparity_range`, the hand-over of `run_multiscale` (first
    returned map → `disp_min`, second → `disp_max`: `runMultiscale_wiring`), `matching_cost_prepare`, `cv_masked` -/
def generatedNextLevelFull (disp : Multiscale.Grid Val) (flags : Multiscale.Grid Nat) (w marge f : Nat)
    (userMin nmaxMin nminMax userMax : Rat) (z : ZoomFn) (dm : Nat) (s0 : Store Val) (fineRows fineCols : Nat) :
    Multiscale.Grid Val × Multiscale.Grid Val :=
  let R := Generated.KernelsMultiscale.disparityRange w marge f disp.rows disp.cols (fun r c => flags.get r c)
    userMin nmaxMin nminMax userMax z dm s0
  nextGrids f fineRows fineCols (Generated.KernelsMultiscale.disparityRangeShape f disp.rows disp.cols)
    (R.1.arr R.2.1) (R.1.arr R.2.2)

theorem generatedNextLevelFull_eq (disp : Multiscale.Grid Val) (flags : Multiscale.Grid Nat) (w marge f : Nat)
    (userMin nmaxMin nminMax userMax : Rat) (z : ZoomFn) (dm : Nat) (s0 : Store Val) (fineRows fineCols : Nat)
    (hd : dm < s0.next) (hA : ∀ r c, r < disp.rows → c < disp.cols → s0.arr dm r c = disp.get r c)
    (hodd : w % 2 = 1) (hrows : w ≤ disp.rows) (hcols : w ≤ disp.cols) (hf : 1 ≤ f) (hz : ZoomIsNearest z) :
    generatedNextLevelFull disp flags w marge f userMin nmaxMin nminMax userMax z dm s0 fineRows fineCols
      = nextLevelGrids disp flags w marge f userMin userMax fineRows fineCols := by
  rw [← generatedNextLevel_eq disp flags w marge f userMin nmaxMin nminMax userMax z dm s0 fineRows fineCols hd hA hodd hrows
    hcols hf hz]
  unfold generatedNextLevelFull generatedNextLevel
  exact nextGrids_eq_cropMul _ _ _ _ _ _

theorem generatedNextLevelFull_eq_spec (disp : Multiscale.Grid Val) (flags : Multiscale.Grid Nat) (w marge f : Nat)
    (userMin nmaxMin nminMax userMax : Rat) (z : ZoomFn) (dm : Nat) (s0 : Store Val) (fineRows fineCols i j : Nat)
    (hd : dm < s0.next) (hA : ∀ r c, r < disp.rows → c < disp.cols → s0.arr dm r c = disp.get r c)
    (hodd : w % 2 = 1) (hrows : w ≤ disp.rows) (hcols : w ≤ disp.cols) (hf : 1 ≤ f) (hz : ZoomIsNearest z)
    (hi : i < fineRows) (hj : j < fineCols) (hiz : i < f * disp.rows) (hjz : j < f * disp.cols)
    (hnum : Flags.isInvalid (flags.get (zoomIndex disp.rows f i) (zoomIndex disp.cols f j)) = false →
      (disp.get (zoomIndex disp.rows f i) (zoomIndex disp.cols f j)).isNan = false) :
    ((generatedNextLevelFull disp flags w marge f userMin nmaxMin nminMax userMax z dm s0 fineRows fineCols).1.get i j,
     (generatedNextLevelFull disp flags w marge f userMin nmaxMin nminMax userMax z dm s0 fineRows fineCols).2.get i j)
      = specInterval disp flags w marge f userMin userMax (zoomIndex disp.rows f i) (zoomIndex disp.cols f j) := by
  rw [generatedNextLevelFull_eq disp flags w marge f userMin nmaxMin nminMax userMax z dm s0 fineRows fineCols hd hA hodd
    hrows hcols hf hz]
  exact nextLevelGrids_eq_spec disp flags w marge f userMin userMax fineRows fineCols i j hf hi hj hiz hjz hnum

/-- `run_multiscale`: `self.disp_min, self.disp_max = multiscale_.disparity_range(self.left_disparity, self.dmin_user,
    self.dmax_user)` (and the right analogue), on the object built from the two current images and the step's section -/
theorem runMultiscale_wiring :
    rangeCallLeft = (["disp_min", "disp_max"], ["left_disparity", "dmin_user", "dmax_user"])
    ∧ rangeCallRight = (["right_disp_min", "right_disp_max"], ["right_disparity", "dmin_user_right", "dmax_user_right"])
    ∧ rangeObject = (["self.left_img", "self.right_img"], ["cfg['pipeline'][input_step]"], []) := by decide

theorem msUser_generated (bound : Rat) (f : Nat) :
    msUserMin bound (f : Int) = bound * (f : Rat) ∧ msUserMax bound (f : Int) = bound * (f : Rat)
    ∧ msUserRightMin bound (f : Int) = bound * (f : Rat) ∧ msUserRightMax bound (f : Int) = bound * (f : Rat) := by
  refine ⟨?_, ?_, ?_, ?_⟩ <;> simp only [msUserMin, msUserMax, msUserRightMin, msUserRightMax] <;> push_cast <;> ring

def pyramidPinned : PyramidArgs :=
  { sigma := "1.2", order := "1", padMode := "reflect", cval := "0", channelAxis := "channel_axis", preserveRange := "False" }

/-- the library's output-size rule (skimage `pyramid_gaussian`: `max_layer + 1` layers, each `ceil(previous / downscale)`),
    assumed for the pinned keyword arguments only, for the size and factor at hand (the library stops earlier once a layer
    has the shape of the previous one, e.g. a 1 × 1 image: outside the hypothesis) -/
def PyramidIsCeil (lib : PyramidLib) (n downscale : Nat) : Prop :=
  ∀ maxLayer, lib pyramidPinned n maxLayer downscale = levelSizesFine n downscale (maxLayer + 1)

/-- **`prepare_pyramid`'s level sizes = the model's `levelSizes`**, for every size, factor, number of scales ≥ 1 -/
theorem pyramidSizes_generated (lib : PyramidLib) (n numScales f : Nat) (hlib : PyramidIsCeil lib n f) (hs : 1 ≤ numScales) :
    pyramidSizes lib n numScales f = levelSizes n f numScales := by
  unfold pyramidSizes levelSizes
  have hp : pyramidArgs = pyramidPinned := by decide
  simp only [hp]
  rw [hlib, show numScales - 1 + 1 = numScales by omega]

theorem convertLevel_eq (s : Store Val) (layer : Nat × Nat) :
    convertLevel s layer = (s.push [s.arr layer.1, (s.push [s.arr layer.1]).arr layer.2], (s.next, s.next + 1)) := by
  unfold convertLevel
  simp only [copy_eq, alloc_eq_push, push_push, push_next]
  rfl

theorem convertPyramidFrom_frame (orig : Nat × Nat) :
    ∀ (layers : List (Nat × Nat)) (index : Nat) (s : Store Val),
      (∃ cs, (convertPyramidFrom orig index layers s).1 = s.push cs)
      ∧ (convertPyramidFrom orig index layers s).2.length = layers.length
      ∧ (∀ p ∈ (convertPyramidFrom orig index layers s).2, p = orig ∨ (s.next ≤ p.1 ∧ s.next ≤ p.2))
  | [], index, s => ⟨⟨[], rfl⟩, rfl, fun _ h => nomatch h⟩
  | layer :: rest, index, s => by
    unfold convertPyramidFrom
    by_cases h0 : index = 0
    · obtain ⟨a, c, d⟩ := convertPyramidFrom_frame orig rest (index + 1) s
      simp only [h0, if_true] at *
      exact ⟨a, congrArg (· + 1) c, fun p hp => (List.mem_cons.1 hp).elim Or.inl (d p)⟩
    · obtain ⟨⟨cs, a⟩, c, d⟩ := convertPyramidFrom_frame orig rest (index + 1) (convertLevel s layer).1
      simp only [h0, if_false]
      rw [convertLevel_eq] at a d ⊢
      refine ⟨⟨_, a.trans (push_push _ _ _)⟩, congrArg (· + 1) c, fun p hp => ?_⟩
      rcases List.mem_cons.1 hp with h | h
      · exact Or.inr (h ▸ ⟨Nat.le_refl _, Nat.le_succ _⟩)
      · exact (d p h).imp_right fun h' => by rw [push_next] at h'; omega

/-- **`convert_pyramid_to_dataset` does not modify its input**: for every store, original dataset and
    list of layers, every array that existed before the call keeps its content; one dataset per layer; the first one IS the
    original (image, mask); every other one is the original or made of arrays allocated by the call. -/
theorem convertPyramid_frame (orig : Nat × Nat) (layers : List (Nat × Nat)) (s : Store Val) :
    (∀ k, k < s.next → (convertPyramid orig layers s).1.arr k = s.arr k)
    ∧ (convertPyramid orig layers s).2.length = layers.length
    ∧ (layers ≠ [] → (convertPyramid orig layers s).2.head? = some orig)
    ∧ (∀ p ∈ (convertPyramid orig layers s).2, p = orig ∨ (s.next ≤ p.1 ∧ s.next ≤ p.2)) := by
  obtain ⟨⟨cs, a⟩, c, d⟩ := convertPyramidFrom_frame orig layers 0 s
  refine ⟨fun k hk => by rw [show (convertPyramid orig layers s).1 = s.push cs from a, push_arr_old _ _ hk], c, ?_, d⟩
  intro hne
  cases layers with
  | nil => exact absurd rfl hne
  | cons l rest => simp [convertPyramid, convertPyramidFrom]

/-- the levels after the first are really fresh: on a store where the original arrays exist, their identities differ from
    the original's (so a later write into a coarse level cannot reach the input image or mask) -/
example : (convertPyramid (0, 1) [(2, 3), (4, 5), (6, 7)] (Store.init (List.replicate 8 (fun _ _ => Val.num 0)) (fun _ _ => Val.nan))).2
    = [(0, 1), (8, 9), (10, 11)] := by decide +kernel

/-- `read_multiscale_params` regenerated: the parameters of the multiscale object when the pipeline has a `multiscale`
    step, `(1, 1)` otherwise -/
theorem readMultiscaleParams_generated (has : Bool) (n f : Int) :
    readMultiscaleParams has n f = if has then (n, f) else (1, 1) := by
  cases has <;> rfl

/-- the object whose `cfg` is read is built from the two images and the `multiscale` section of `cfg["pipeline"]` -/
theorem paramsObject_pinned :
    paramsObject = (["left_img", "right_img"], ["cfg['pipeline']['multiscale']"], []) := by decide

end Pandora.C15Kernels
