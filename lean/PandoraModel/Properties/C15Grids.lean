/-
  C15 — the per-pixel interval of a finer level: model = specification, and the block loop of
  `disparity_range`.
-/
import PandoraModel.Model.Multiscale
import PandoraModel.Model.MultiscaleBlocks
import PandoraModel.Properties.C15
import PandoraModel.Lemmas.Blocks
import PandoraModel.Lemmas.Grid
import PandoraModel.Lemmas.Median
import PandoraModel.Generated.Blocks
import Mathlib.Tactic.Linarith
import Mathlib.Tactic.Ring
import Mathlib.Algebra.Order.Field.Rat

namespace Pandora.C15
open Pandora.Multiscale

/-- the grid formula of `coarseRanges`, `zoom0`, `upsampleCrop`; `Blocks.tabulate` is the same (`rangeBandBlocked_eq`) -/
abbrev tab {α} (R C : Nat) (h : Nat → Nat → α) : Multiscale.Grid α :=
  (List.range R).map fun r => (List.range C).map fun c => h r c

theorem get_tab {α} [Inhabited α] (R C : Nat) (h : Nat → Nat → α) (r c : Nat) (hr : r < R) (hc : c < C) :
    (tab R C h).get r c = h r c :=
  (Blocks.getD_tabulate R C h default r c).trans (if_pos ⟨hr, hc⟩)

theorem rows_tab {α} (R C : Nat) (h : Nat → Nat → α) : (tab R C h).rows = R := by
  simp [Multiscale.Grid.rows]

theorem cols_tab {α} (R C : Nat) (h : Nat → Nat → α) (hR : 0 < R) : (tab R C h).cols = C := by
  obtain ⟨R', rfl⟩ : ∃ R', R = R' + 1 := ⟨R - 1, by omega⟩
  simp [Multiscale.Grid.cols, List.getD, List.range_succ_eq_map]

/-- the fold steps of `Filter.minOf` / `Filter.maxOf`, as `specInterval` writes them -/
def minStep (a b : Rat) : Rat := if b < a then b else a
def maxStep (a b : Rat) : Rat := if a < b then b else a

/-- the step of `nanMin` / `nanMax` -/
def nanStep (pick : Rat → Rat → Rat) : Val → Val → Val
  | Val.nan, x => x
  | x, Val.nan => x
  | Val.num a, Val.num b => Val.num (pick a b)

theorem nanFold_from_num (pick : Rat → Rat → Rat) (vs : List Val) : ∀ (a : Rat),
    vs.foldl (nanStep pick) (Val.num a) = Val.num ((Filter.nums vs).foldl pick a) := by
  induction vs with
  | nil => intro a; rfl
  | cons v vs ih =>
    intro a
    cases v with
    | nan => exact ih a
    | num b => exact ih (pick a b)

theorem nanFold_eq (pick : Rat → Rat → Rat) (vs : List Val) :
    vs.foldl (nanStep pick) Val.nan = match Filter.nums vs with
      | [] => Val.nan
      | q :: qs => Val.num (qs.foldl pick q) := by
  induction vs with
  | nil => rfl
  | cons v vs ih =>
    cases v with
    | nan => exact ih
    | num b => exact nanFold_from_num pick vs b

theorem nanMin_eq (vs : List Val) :
    nanMin vs = match Filter.nums vs with
      | [] => Val.nan
      | q :: qs => Val.num (qs.foldl minStep q) :=
  nanFold_eq minStep vs

theorem nanMax_eq (vs : List Val) :
    nanMax vs = match Filter.nums vs with
      | [] => Val.nan
      | q :: qs => Val.num (qs.foldl maxStep q) :=
  nanFold_eq maxStep vs

variable {disp : Multiscale.Grid Val} {flags : Multiscale.Grid Nat} {w marge f : Nat} {userMin userMax : Rat}

def maskedCell (disp : Multiscale.Grid Val) (flags : Multiscale.Grid Nat) (r c : Nat) : Val :=
  if Flags.isInvalid (flags.get r c) then Val.nan else disp.get r c

theorem maskInvalid_get {r c : Nat} (hr : r < disp.rows) (hc : c < disp.cols) :
    (maskInvalid disp flags).get r c = maskedCell disp flags r c :=
  get_tab disp.rows disp.cols (fun r c => maskedCell disp flags r c) r c hr hc

/-- the test `interior` of `coarseRanges` and `border` of `specInterval`: the window around `(r, c)` lies inside the map
    (`Filter.interior off off`, written without `decide`) -/
def interiorB (off rows cols r c : Nat) : Bool := off ≤ r && r + off < rows && off ≤ c && c + off < cols

theorem interiorB_iff (off rows cols r c : Nat) :
    interiorB off rows cols r c = true ↔ off ≤ r ∧ r + off < rows ∧ off ≤ c ∧ c + off < cols := by
  simp [interiorB, and_assoc]

/-- the local function `cell` of `Multiscale.coarseRanges`, named (`coarseRanges_eq`) -/
def coarseCell (disp : Multiscale.Grid Val) (flags : Multiscale.Grid Nat) (window_size marge : Nat) (userMin userMax : Rat)
    (r c : Nat) (isMin : Bool) : Val :=
  let off := (window_size - 1) / 2
  let masked := maskInvalid disp flags
  let umin : Val := Val.num (ratTrunc userMin)
  let umax : Val := Val.num (ratTrunc userMax)
  if !interiorB off disp.rows disp.cols r c then (if isMin then umin else umax)
  else if (masked.get r c).isNan then (if isMin then umin else umax)
  else if isMin then addRat (nanMin (window masked off r c)) (-(marge : Rat))
  else addRat (nanMax (window masked off r c)) (marge : Rat)

theorem coarseRanges_eq :
    coarseRanges disp flags w marge userMin userMax =
      ((List.range disp.rows).map fun r => (List.range disp.cols).map fun c =>
          coarseCell disp flags w marge userMin userMax r c true,
       (List.range disp.rows).map fun r => (List.range disp.cols).map fun c =>
          coarseCell disp flags w marge userMin userMax r c false) := rfl

theorem window_masked {off r c : Nat}
    (hi : interiorB off disp.rows disp.cols r c = true) :
    window (maskInvalid disp flags) off r c =
      (List.range (2 * off + 1)).flatMap fun dr => (List.range (2 * off + 1)).map fun dc =>
        maskedCell disp flags (r - off + dr) (c - off + dc) := by
  rw [interiorB_iff] at hi
  unfold window
  apply List.flatMap_congr
  intro dr hdr
  apply List.map_congr_left
  intro dc hdc
  rw [List.mem_range] at hdr hdc
  exact maskInvalid_get (by omega) (by omega)

/-- the local list `valid` of `Multiscale.specInterval`, named (`specInterval_eq`) -/
def specValid (disp : Multiscale.Grid Val) (flags : Multiscale.Grid Nat) (off pr pc : Nat) : List Rat :=
  (List.range (2 * off + 1)).flatMap fun dr => (List.range (2 * off + 1)).filterMap fun dc =>
    let r := pr - off + dr
    let c := pc - off + dc
    if Flags.isInvalid (flags.get r c) then none
    else match disp.get r c with
      | Val.num q => some q
      | Val.nan => none

theorem specInterval_eq (pr pc : Nat) :
    specInterval disp flags w marge f userMin userMax pr pc =
      if (!interiorB ((w - 1) / 2) disp.rows disp.cols pr pc || Flags.isInvalid (flags.get pr pc)) = true then
        (Val.num ((f : Rat) * ratTrunc userMin), Val.num ((f : Rat) * ratTrunc userMax))
      else match specValid disp flags ((w - 1) / 2) pr pc with
        | [] => (Val.nan, Val.nan)
        | q :: qs => (Val.num ((f : Rat) * (qs.foldl minStep q - marge)),
                      Val.num ((f : Rat) * (qs.foldl maxStep q + marge))) := rfl

theorem num?_maskedCell (r c : Nat) :
    Filter.num? (maskedCell disp flags r c) =
      if Flags.isInvalid (flags.get r c) then none
      else match disp.get r c with
        | Val.num q => some q
        | Val.nan => none := by
  unfold maskedCell
  split
  · rfl
  · cases disp.get r c <;> rfl

theorem nums_window {off r c : Nat} (hi : interiorB off disp.rows disp.cols r c = true) :
    Filter.nums (window (maskInvalid disp flags) off r c) = specValid disp flags off r c := by
  rw [window_masked hi]
  unfold Filter.nums specValid
  rw [List.filterMap_flatMap]
  apply List.flatMap_congr
  intro dr _
  rw [List.filterMap_map]
  apply List.filterMap_congr
  intro dc _
  exact num?_maskedCell _ _

theorem zoomIndex_one (n i : Nat) (hi : i < n) : zoomIndex n 1 i = i := by
  obtain ⟨m, rfl⟩ : ∃ m, n = m + 1 := ⟨n - 1, by omega⟩
  by_cases hm : m = 0
  · subst hm
    obtain rfl : i = 0 := by omega
    rfl
  · -- `D = m` and `i·m` is the multiple `i·D`
    rw [zoomIndex_eq m 1 i m (Nat.one_mul _) (by omega)]
    exact Nat.le_antisymm (roundDiv_le_of_le_mul _ m i (by omega) (Nat.le_refl _))
      (le_roundDiv _ m i (by omega) (Nat.le_refl _))

theorem zoom0_tab (R C f : Nat) (h : Nat → Nat → Val) (hR : 0 < R) :
    zoom0 (tab R C h) f = tab (f * R) (f * C) fun i j =>
      (tab R C h).get (zoomIndex R f i) (zoomIndex C f j) := by
  unfold zoom0
  simp only [tab, rows_tab, cols_tab R C h hR]

theorem nextLevelGrids_eq (fineRows fineCols : Nat) :
    nextLevelGrids disp flags w marge f userMin userMax fineRows fineCols =
      (upsampleCrop (coarseRanges disp flags w marge userMin userMax).1 f fineRows fineCols,
       upsampleCrop (coarseRanges disp flags w marge userMin userMax).2 f fineRows fineCols) := rfl

theorem upsampleCrop_eq_tab (R C f fr fc : Nat) (h : Nat → Nat → Val) (hf : 1 ≤ f) (hR : 0 < R) :
    upsampleCrop (tab R C h) f fr fc
      = tab (min fr (f * R)) (min fc (f * C)) fun i j => (h (zoomIndex R f i) (zoomIndex C f j)).map (· * (f : Rat)) := by
  unfold upsampleCrop
  by_cases h1 : f = 1
  · subst h1
    simp only [if_true, rows_tab, cols_tab R C h hR, Nat.one_mul]
    refine Blocks.tabulate_congr fun i hi j hj => ?_
    rw [get_tab R C h i j (by omega) (by omega), zoomIndex_one R i (by omega), zoomIndex_one C j (by omega)]
  · have hfR : 0 < f * R := Nat.mul_pos (by omega) hR
    simp only [if_neg h1, zoom0_tab R C f h hR, rows_tab, cols_tab (f * R) (f * C) _ hfR]
    refine Blocks.tabulate_congr fun i hi j hj => ?_
    have hjz : j < f * C := by omega
    rw [get_tab (f * R) (f * C) _ i j (by omega) hjz,
      get_tab R C h _ _ (zoomIndex_lt R f i hR hf (by omega)) (zoomIndex_lt C f j (Nat.pos_of_lt_mul_left hjz) hf hjz)]

theorem upsampleCrop_tab (R C f fineRows fineCols : Nat) (h : Nat → Nat → Val) (i j : Nat) (hf : 1 ≤ f)
    (hi : i < fineRows) (hj : j < fineCols) (hiz : i < f * R) (hjz : j < f * C) :
    (upsampleCrop (tab R C h) f fineRows fineCols).get i j =
      (h (zoomIndex R f i) (zoomIndex C f j)).map (· * (f : Rat)) := by
  rw [upsampleCrop_eq_tab R C f fineRows fineCols h hf (Nat.pos_of_lt_mul_left hiz), get_tab _ _ _ i j (by omega) (by omega)]

/-- **The coarse cell, multiplied by the factor, is the specified interval of that coarse pixel.**
    `hnum`: an interior pixel that is not flagged invalid carries a number (Pandora writes its NaN
    `invalid_disparity` on invalid pixels only); without it the code gives a valid NaN pixel the user
    interval while the statement speaks of the window (see `nan_valid_parent_differs`). -/
theorem coarseCell_spec {pr pc : Nat} (hr : pr < disp.rows) (hc : pc < disp.cols)
    (hnum : interiorB ((w - 1) / 2) disp.rows disp.cols pr pc = true → Flags.isInvalid (flags.get pr pc) = false →
      (disp.get pr pc).isNan = false) :
    ((coarseCell disp flags w marge userMin userMax pr pc true).map (· * (f : Rat)),
     (coarseCell disp flags w marge userMin userMax pr pc false).map (· * (f : Rat)))
      = specInterval disp flags w marge f userMin userMax pr pc := by
  rw [specInterval_eq]
  unfold coarseCell
  dsimp only
  simp only [↓reduceIte, Bool.false_eq_true]
  by_cases hi : interiorB ((w - 1) / 2) disp.rows disp.cols pr pc = true
  · rw [maskInvalid_get hr hc, nanMin_eq, nanMax_eq, nums_window hi]
    simp only [hi, Bool.not_true, Bool.false_eq_true, ↓reduceIte, Bool.false_or]
    unfold maskedCell
    by_cases hv : Flags.isInvalid (flags.get pr pc) = true
    · simp only [hv, ↓reduceIte, Val.isNan, Val.map]
      rw [mul_comm, mul_comm (ratTrunc userMax : Rat)]
    · have hv' : Flags.isInvalid (flags.get pr pc) = false := by simpa using hv
      have hn := hnum hi hv'
      simp only [hv', Bool.false_eq_true, ↓reduceIte, hn]
      cases specValid disp flags ((w - 1) / 2) pr pc with
      | nil => rfl
      | cons q qs =>
        simp only [addRat, Val.map]
        congr 2 <;> ring
  · have hi' : interiorB ((w - 1) / 2) disp.rows disp.cols pr pc = false := by simpa using hi
    simp only [hi', Bool.not_false, ↓reduceIte, Bool.true_or, Val.map]
    rw [mul_comm, mul_comm (ratTrunc userMax : Rat)]

/-- `nextLevelGrids_eq_spec` with `hnum` asked of interior valid parents only -/
theorem nextLevelGrids_eq_spec_general {fineRows fineCols i j : Nat} (hf : 1 ≤ f)
    (hi : i < fineRows) (hj : j < fineCols) (hiz : i < f * disp.rows) (hjz : j < f * disp.cols)
    (hnum : interiorB ((w - 1) / 2) disp.rows disp.cols (zoomIndex disp.rows f i) (zoomIndex disp.cols f j) = true →
      Flags.isInvalid (flags.get (zoomIndex disp.rows f i) (zoomIndex disp.cols f j)) = false →
      (disp.get (zoomIndex disp.rows f i) (zoomIndex disp.cols f j)).isNan = false) :
    ((nextLevelGrids disp flags w marge f userMin userMax fineRows fineCols).1.get i j,
     (nextLevelGrids disp flags w marge f userMin userMax fineRows fineCols).2.get i j)
      = specInterval disp flags w marge f userMin userMax (zoomIndex disp.rows f i) (zoomIndex disp.cols f j) := by
  rw [nextLevelGrids_eq, coarseRanges_eq]
  dsimp only
  rw [upsampleCrop_tab disp.rows disp.cols f fineRows fineCols _ i j hf hi hj hiz hjz,
    upsampleCrop_tab disp.rows disp.cols f fineRows fineCols _ i j hf hi hj hiz hjz]
  exact coarseCell_spec
    (zoomIndex_lt disp.rows f i (Nat.pos_of_lt_mul_left hiz) hf hiz) (zoomIndex_lt disp.cols f j (Nat.pos_of_lt_mul_left hjz) hf hjz) hnum

/-- **Model = specification.**  For every disparity map, validity mask, window size, marge, factor `f ≥ 1`,
    user interval and size of the finer level: at every fine pixel `(i, j)` inside the cropped upsampled
    grid, the pair `nextLevelGrids` holds is `specInterval` evaluated at the coarse pixel
    `(zoomIndex rows f i, zoomIndex cols f j)` — the parent that `parent_near` shows to be within one pixel
    of `(i / f, j / f)`.  No shape hypothesis is needed: model and specification read both maps through the
    same total lookup `Grid.get` (`rows` = number of rows, `cols` = length of the first row). -/
theorem nextLevelGrids_eq_spec (disp : Multiscale.Grid Val) (flags : Multiscale.Grid Nat) (w marge f : Nat)
    (userMin userMax : Rat) (fineRows fineCols i j : Nat) (hf : 1 ≤ f)
    (hi : i < fineRows) (hj : j < fineCols) (hiz : i < f * disp.rows) (hjz : j < f * disp.cols)
    (hnum : Flags.isInvalid (flags.get (zoomIndex disp.rows f i) (zoomIndex disp.cols f j)) = false →
      (disp.get (zoomIndex disp.rows f i) (zoomIndex disp.cols f j)).isNan = false) :
    ((nextLevelGrids disp flags w marge f userMin userMax fineRows fineCols).1.get i j,
     (nextLevelGrids disp flags w marge f userMin userMax fineRows fineCols).2.get i j)
      = specInterval disp flags w marge f userMin userMax (zoomIndex disp.rows f i) (zoomIndex disp.cols f j) :=
  nextLevelGrids_eq_spec_general hf hi hj hiz hjz fun _ => hnum

theorem nextLevelGrids_eq_spec_one (disp : Multiscale.Grid Val) (flags : Multiscale.Grid Nat) (w marge : Nat)
    (userMin userMax : Rat) (fineRows fineCols i j : Nat)
    (hi : i < fineRows) (hj : j < fineCols) (hiz : i < disp.rows) (hjz : j < disp.cols)
    (hnum : Flags.isInvalid (flags.get i j) = false → (disp.get i j).isNan = false) :
    ((nextLevelGrids disp flags w marge 1 userMin userMax fineRows fineCols).1.get i j,
     (nextLevelGrids disp flags w marge 1 userMin userMax fineRows fineCols).2.get i j)
      = specInterval disp flags w marge 1 userMin userMax i j := by
  have h := nextLevelGrids_eq_spec disp flags w marge 1 userMin userMax fineRows fineCols i j (le_refl 1) hi hj
    (by omega) (by omega)
  rw [zoomIndex_one disp.rows i hiz, zoomIndex_one disp.cols j hjz] at h
  exact h hnum

theorem ratTrunc_mono (a b : Rat) (h : a ≤ b) : ratTrunc a ≤ ratTrunc b := by
  unfold ratTrunc
  have fl : ∀ q : Rat, ((q.floor : Int) : Rat) ≤ q := fun q => Rat.le_floor_iff.mp (le_refl _)
  have cl : ∀ q : Rat, q ≤ ((q.ceil : Int) : Rat) := fun q => Rat.ceil_le_iff.mp (le_refl _)
  by_cases ha : 0 ≤ a
  · have hb : 0 ≤ b := le_trans ha h
    rw [if_pos ha, if_pos hb]
    exact Rat.le_floor_iff.mpr (le_trans (fl a) h)
  · rw [if_neg ha]
    by_cases hb : 0 ≤ b
    · rw [if_pos hb]
      have h1 : a.ceil ≤ 0 := Rat.ceil_le_iff.mpr (by push_cast; linarith)
      have h2 : (0 : Int) ≤ b.floor := Rat.le_floor_iff.mpr (by simpa using hb)
      omega
    · rw [if_neg hb]
      exact Rat.ceil_le_iff.mpr (le_trans h (cl b))

theorem centre_mem_specValid {off pr pc : Nat} {d : Rat}
    (hi : interiorB off disp.rows disp.cols pr pc = true)
    (hv : Flags.isInvalid (flags.get pr pc) = false) (hd : disp.get pr pc = Val.num d) :
    d ∈ specValid disp flags off pr pc := by
  rw [interiorB_iff] at hi
  unfold specValid
  refine List.mem_flatMap.2 ⟨off, List.mem_range.2 (by omega), List.mem_filterMap.2 ⟨off, List.mem_range.2 (by omega), ?_⟩⟩
  have h1 : pr - off + off = pr := by omega
  have h2 : pc - off + off = pc := by omega
  simp only [h1, h2, hv, hd, Bool.false_eq_true, if_false]

/-- `invalid_parent_full_interval`: a parent that is invalid or nearer to the border than the window radius
    hands down `f ×` the (truncated) user interval of the coarse level -/
theorem specInterval_user {pr pc : Nat}
    (h : interiorB ((w - 1) / 2) disp.rows disp.cols pr pc = false ∨ Flags.isInvalid (flags.get pr pc) = true) :
    specInterval disp flags w marge f userMin userMax pr pc =
      (Val.num ((f : Rat) * ratTrunc userMin), Val.num ((f : Rat) * ratTrunc userMax)) := by
  rw [specInterval_eq]
  rcases h with h | h <;> simp [h]

/-- `finer_interval_rule`: a valid interior parent of disparity `d` hands down an interval that contains
    `[f·(d − marge), f·(d + marge)]` -/
theorem specInterval_contains_parent {pr pc : Nat} {d : Rat}
    (hi : interiorB ((w - 1) / 2) disp.rows disp.cols pr pc = true)
    (hv : Flags.isInvalid (flags.get pr pc) = false) (hd : disp.get pr pc = Val.num d) :
    ∃ lo hi', specInterval disp flags w marge f userMin userMax pr pc = (Val.num lo, Val.num hi')
      ∧ lo ≤ (f : Rat) * (d - marge) ∧ (f : Rat) * (d + marge) ≤ hi' := by
  have hmem := centre_mem_specValid hi hv hd
  rw [specInterval_eq]
  simp only [hi, hv, Bool.not_true, Bool.or_false, Bool.false_eq_true, if_false]
  have hf0 : (0 : Rat) ≤ (f : Rat) := Nat.cast_nonneg f
  cases hl : specValid disp flags ((w - 1) / 2) pr pc with
  | nil => rw [hl] at hmem; simp at hmem
  | cons q qs =>
    rw [hl] at hmem
    exact ⟨_, _, rfl,
      mul_le_mul_of_nonneg_left (sub_le_sub_right (Filter.minOf_le _ d hmem) _) hf0,
      mul_le_mul_of_nonneg_left (add_le_add_left (Filter.le_maxOf _ d hmem) _) hf0⟩

theorem specInterval_min_le_max {pr pc : Nat} (huser : userMin ≤ userMax)
    (hnum : Flags.isInvalid (flags.get pr pc) = false → (disp.get pr pc).isNan = false) :
    ∃ lo hi', specInterval disp flags w marge f userMin userMax pr pc = (Val.num lo, Val.num hi') ∧ lo ≤ hi' := by
  have hf0 : (0 : Rat) ≤ (f : Rat) := Nat.cast_nonneg f
  by_cases h : interiorB ((w - 1) / 2) disp.rows disp.cols pr pc = false ∨ Flags.isInvalid (flags.get pr pc) = true
  · exact ⟨_, _, specInterval_user h, mul_le_mul_of_nonneg_left (by exact_mod_cast ratTrunc_mono _ _ huser) hf0⟩
  · simp only [not_or, Bool.not_eq_false, Bool.not_eq_true] at h
    cases hd : disp.get pr pc with
    | nan => simpa [hd, Val.isNan] using hnum h.2
    | num d =>
      refine (specInterval_contains_parent h.1 h.2 hd).imp fun lo => Exists.imp fun hi' ⟨he, h1, h2⟩ => ⟨he, ?_⟩
      have hm : (0 : Rat) ≤ (marge : Rat) := Nat.cast_nonneg marge
      have : (f : Rat) * (d - marge) ≤ (f : Rat) * (d + marge) := mul_le_mul_of_nonneg_left (by linarith) hf0
      linarith

theorem exists_num_pair_of_eq {A B : Val} {S : Val × Val} {Q : Rat → Rat → Prop} (h : (A, B) = S)
    (hS : ∃ lo hi', S = (Val.num lo, Val.num hi') ∧ Q lo hi') : ∃ lo hi', A = Val.num lo ∧ B = Val.num hi' ∧ Q lo hi' := by
  obtain ⟨lo, hi', he, hQ⟩ := hS
  obtain ⟨hA, hB⟩ := Prod.mk.inj (h.trans he)
  exact ⟨lo, hi', hA, hB, hQ⟩

/-- **The interval the next level searches at a fine pixel whose parent is a valid interior pixel of
    disparity `d` contains `[f·(d − marge), f·(d + marge)]`** (stated on the model `nextLevelGrids`). -/
theorem fine_interval_contains_parent (disp : Multiscale.Grid Val) (flags : Multiscale.Grid Nat) (w marge f : Nat)
    (userMin userMax : Rat) (fineRows fineCols i j : Nat) (d : Rat) (hf : 1 ≤ f)
    (hi : i < fineRows) (hj : j < fineCols) (hiz : i < f * disp.rows) (hjz : j < f * disp.cols)
    (hint : interiorB ((w - 1) / 2) disp.rows disp.cols (zoomIndex disp.rows f i) (zoomIndex disp.cols f j) = true)
    (hv : Flags.isInvalid (flags.get (zoomIndex disp.rows f i) (zoomIndex disp.cols f j)) = false)
    (hd : disp.get (zoomIndex disp.rows f i) (zoomIndex disp.cols f j) = Val.num d) :
    ∃ lo hi',
      (nextLevelGrids disp flags w marge f userMin userMax fineRows fineCols).1.get i j = Val.num lo
      ∧ (nextLevelGrids disp flags w marge f userMin userMax fineRows fineCols).2.get i j = Val.num hi'
      ∧ lo ≤ (f : Rat) * (d - marge) ∧ (f : Rat) * (d + marge) ≤ hi' := by
  exact exists_num_pair_of_eq
    (nextLevelGrids_eq_spec disp flags w marge f userMin userMax fineRows fineCols i j hf hi hj hiz hjz
      fun _ => by rw [hd]; rfl)
    (specInterval_contains_parent hint hv hd)

/-- **A fine pixel whose parent is invalid or on the border searches `f ×` the user interval of the coarse level.** -/
theorem fine_interval_user (disp : Multiscale.Grid Val) (flags : Multiscale.Grid Nat) (w marge f : Nat)
    (userMin userMax : Rat) (fineRows fineCols i j : Nat) (hf : 1 ≤ f)
    (hi : i < fineRows) (hj : j < fineCols) (hiz : i < f * disp.rows) (hjz : j < f * disp.cols)
    (h : interiorB ((w - 1) / 2) disp.rows disp.cols (zoomIndex disp.rows f i) (zoomIndex disp.cols f j) = false
      ∨ Flags.isInvalid (flags.get (zoomIndex disp.rows f i) (zoomIndex disp.cols f j)) = true) :
    (nextLevelGrids disp flags w marge f userMin userMax fineRows fineCols).1.get i j
        = Val.num ((f : Rat) * ratTrunc userMin)
    ∧ (nextLevelGrids disp flags w marge f userMin userMax fineRows fineCols).2.get i j
        = Val.num ((f : Rat) * ratTrunc userMax) := by
  exact Prod.mk.inj ((nextLevelGrids_eq_spec_general hf hi hj hiz hjz fun hint hv => by
    rcases h with h | h <;> simp [hint, hv] at h).trans (specInterval_user h))

/-- **Every fine pixel gets a non-empty interval** (`min ≤ max`), the user interval being one. -/
theorem fine_interval_min_le_max (disp : Multiscale.Grid Val) (flags : Multiscale.Grid Nat) (w marge f : Nat)
    (userMin userMax : Rat) (fineRows fineCols i j : Nat) (hf : 1 ≤ f)
    (hi : i < fineRows) (hj : j < fineCols) (hiz : i < f * disp.rows) (hjz : j < f * disp.cols)
    (huser : userMin ≤ userMax)
    (hnum : Flags.isInvalid (flags.get (zoomIndex disp.rows f i) (zoomIndex disp.cols f j)) = false →
      (disp.get (zoomIndex disp.rows f i) (zoomIndex disp.cols f j)).isNan = false) :
    ∃ lo hi',
      (nextLevelGrids disp flags w marge f userMin userMax fineRows fineCols).1.get i j = Val.num lo
      ∧ (nextLevelGrids disp flags w marge f userMin userMax fineRows fineCols).2.get i j = Val.num hi'
      ∧ lo ≤ hi' := by
  exact exists_num_pair_of_eq
    (nextLevelGrids_eq_spec disp flags w marge f userMin userMax fineRows fineCols i j hf hi hj hiz hjz hnum)
    (specInterval_min_le_max huser hnum)

theorem windowAt_centred (g : Multiscale.Grid Val) {w off : Nat} (r c : Nat) (hw : w = 2 * off + 1) :
    windowAt g w (r - off) (c - off) = window g off r c := by
  subst hw; rfl

/-- one of the two maps of `disparity_range` before `zoom`, as an index function: the user bound where the masked map
    is NaN, elsewhere what the block loop leaves in a map initialised to the user bound -/
def bandArr (plan : Blocks.Plan) (kern masked : Nat → Nat → Val) (user : Val) : Nat → Nat → Val :=
  fun r c => if (masked r c).isNan then user else Blocks.blocked plan kern (fun _ _ => user) r c

theorem bandArr_eq (s : Blocks.Split) (ly lx : Nat) (dims : List Nat) (kern masked : Nat → Nat → Val) (user : Val) :
    bandArr (s.plan ly lx dims) kern masked user = fun r c =>
      if (masked r c).isNan then user
      else if s.beginY ≤ r ∧ r < s.beginY + ly ∧ s.beginX ≤ c ∧ c < s.beginX + lx
        then kern (r - s.beginY) (c - s.beginX) else user := by
  unfold bandArr
  rw [Blocks.blocked_eq_direct]
  rfl

theorem rangeBandBlocked_eq (s : Blocks.Split) (masked : Multiscale.Grid Val) (rows cols w marge : Nat) (user : Val)
    (isMin : Bool) :
    rangeBandBlocked s masked rows cols w marge user isMin
      = tab rows cols (bandArr (s.plan (rows - w + 1) (cols - w + 1) [rows, cols]) (rangeKernel masked w marge isMin)
          (fun r c => masked.get r c) user) := rfl

theorem rangeBand_cell {s : Blocks.Split} (isMin : Bool)
    (hy : s.beginY = (w - 1) / 2) (hx : s.beginX = (w - 1) / 2) (hodd : w % 2 = 1)
    (hrows : w ≤ disp.rows) (hcols : w ≤ disp.cols) (r c : Nat) :
    bandArr (s.plan (disp.rows - w + 1) (disp.cols - w + 1) [disp.rows, disp.cols])
        (rangeKernel (maskInvalid disp flags) w marge isMin) (fun r c => (maskInvalid disp flags).get r c)
        (if isMin then Val.num (ratTrunc userMin) else Val.num (ratTrunc userMax)) r c
      = coarseCell disp flags w marge userMin userMax r c isMin := by
  -- the radius as a variable: `w = 2·off + 1` is all that is needed
  generalize hoff : (w - 1) / 2 = off at hy hx
  obtain rfl : w = 2 * off + 1 := by omega
  have e : 2 * off + 1 - 1 - off = off := by omega
  unfold bandArr coarseCell
  rw [Blocks.blocked_windows s off _ _ _ _ _ hy hx (by omega) hrows hcols, e, hoff]
  simp only [interiorB, Bool.and_eq_true, decide_eq_true_eq, and_assoc, Bool.not_eq_true', ← Bool.not_eq_true]
  by_cases hi : off ≤ r ∧ r + off < disp.rows ∧ off ≤ c ∧ c + off < disp.cols
  · rw [if_pos hi, if_neg (not_not.2 hi)]
    unfold rangeKernel
    rw [windowAt_centred _ r c rfl]
  · rw [if_neg hi, if_pos hi, ite_self]

/-- **Block independence of `disparity_range`.**  For every disparity map and validity mask, every odd
    window that fits in the map, every marge and user interval, and every split of the window array into
    chunks (any `np.arange(start, stop, step)` on both axes — the step 100 of the source is one instance)
    whose offsets start at the window radius `int((w - 1) / 2)`: the two maps filled chunk by chunk at
    accumulated offsets are the maps `coarseRanges` computes pixel by pixel. -/
theorem coarseRangesBlocked_eq (s : Blocks.Split) (disp : Multiscale.Grid Val) (flags : Multiscale.Grid Nat)
    (w marge : Nat) (userMin userMax : Rat)
    (hy : s.beginY = (w - 1) / 2) (hx : s.beginX = (w - 1) / 2) (hodd : w % 2 = 1)
    (hrows : w ≤ disp.rows) (hcols : w ≤ disp.cols) :
    coarseRangesBlocked s disp flags w marge userMin userMax = coarseRanges disp flags w marge userMin userMax := by
  rw [coarseRanges_eq]
  unfold coarseRangesBlocked
  dsimp only
  rw [rangeBandBlocked_eq, rangeBandBlocked_eq]
  exact Prod.ext
    (Blocks.tabulate_congr fun r _ c _ => rangeBand_cell true hy hx hodd hrows hcols r c)
    (Blocks.tabulate_congr fun r _ c _ => rangeBand_cell false hy hx hodd hrows hcols r c)

/-- two splits with the same initial offsets give the same maps (no hypothesis on the window or the sizes) -/
theorem coarseRangesBlocked_block_independent (s s' : Blocks.Split) (disp : Multiscale.Grid Val)
    (flags : Multiscale.Grid Nat) (w marge : Nat) (userMin userMax : Rat)
    (hy : s.beginY = s'.beginY) (hx : s.beginX = s'.beginX) :
    coarseRangesBlocked s disp flags w marge userMin userMax
      = coarseRangesBlocked s' disp flags w marge userMin userMax := by
  unfold coarseRangesBlocked
  simp only [rangeBandBlocked_eq, bandArr_eq, hy, hx]

theorem nextLevelGridsBlocked_eq {s : Blocks.Split} (fineRows fineCols : Nat)
    (hy : s.beginY = (w - 1) / 2) (hx : s.beginX = (w - 1) / 2) (hodd : w % 2 = 1)
    (hrows : w ≤ disp.rows) (hcols : w ≤ disp.cols) :
    nextLevelGridsBlocked s disp flags w marge f userMin userMax fineRows fineCols
      = nextLevelGrids disp flags w marge f userMin userMax fineRows fineCols := by
  unfold nextLevelGridsBlocked
  rw [coarseRangesBlocked_eq s disp flags w marge userMin userMax hy hx hodd hrows hcols, nextLevelGrids_eq]

set_option linter.unusedVariables false in
set_option linter.unnecessarySeqFocus false in
/-- for an odd window the offsets the source starts from are the window radius of the model (whether the
    source writes `int((w - 1) / 2)` or `int(w / 2)`), and its steps are positive; which dimension each
    `np.arange` stops at is irrelevant to the result, so nothing is required of it -/
theorem source_multiscaleRange_offsets (w : Nat) (hodd : w % 2 = 1) :
    (Generated.Blocks.multiscaleRange w).beginY = (w - 1) / 2
    ∧ (Generated.Blocks.multiscaleRange w).beginX = (w - 1) / 2
    ∧ 0 < (Generated.Blocks.multiscaleRange w).stepY ∧ 0 < (Generated.Blocks.multiscaleRange w).stepX := by
  refine ⟨?_, ?_, ?_, ?_⟩ <;>
    first
    | rfl
    | (simp only [Generated.Blocks.multiscaleRange] <;> omega)

theorem source_multiscaleRange_spec (disp : Multiscale.Grid Val) (flags : Multiscale.Grid Nat) (w marge : Nat)
    (userMin userMax : Rat) (hodd : w % 2 = 1) (hrows : w ≤ disp.rows) (hcols : w ≤ disp.cols) :
    coarseRangesBlocked (Generated.Blocks.multiscaleRange w) disp flags w marge userMin userMax
      = coarseRanges disp flags w marge userMin userMax :=
  coarseRangesBlocked_eq _ disp flags w marge userMin userMax (source_multiscaleRange_offsets w hodd).1
    (source_multiscaleRange_offsets w hodd).2.1 hodd hrows hcols

/-- **Source loop + upsampling + crop = specification**: with the chunk loop read in the source, every fine
    pixel inside the cropped upsampled grid searches the interval the statement gives its parent. -/
theorem source_nextLevel_spec (disp : Multiscale.Grid Val) (flags : Multiscale.Grid Nat) (w marge f : Nat)
    (userMin userMax : Rat) (fineRows fineCols i j : Nat) (hf : 1 ≤ f)
    (hodd : w % 2 = 1) (hrows : w ≤ disp.rows) (hcols : w ≤ disp.cols)
    (hi : i < fineRows) (hj : j < fineCols) (hiz : i < f * disp.rows) (hjz : j < f * disp.cols)
    (hnum : Flags.isInvalid (flags.get (zoomIndex disp.rows f i) (zoomIndex disp.cols f j)) = false →
      (disp.get (zoomIndex disp.rows f i) (zoomIndex disp.cols f j)).isNan = false) :
    ((nextLevelGridsBlocked (Generated.Blocks.multiscaleRange w) disp flags w marge f userMin userMax
        fineRows fineCols).1.get i j,
     (nextLevelGridsBlocked (Generated.Blocks.multiscaleRange w) disp flags w marge f userMin userMax
        fineRows fineCols).2.get i j)
      = specInterval disp flags w marge f userMin userMax (zoomIndex disp.rows f i) (zoomIndex disp.cols f j) := by
  rw [nextLevelGridsBlocked_eq fineRows fineCols (source_multiscaleRange_offsets w hodd).1 (source_multiscaleRange_offsets w hodd).2.1 hodd hrows hcols]
  exact nextLevelGrids_eq_spec disp flags w marge f userMin userMax fineRows fineCols i j hf hi hj hiz hjz hnum

/-- a 4 × 5 coarse map with one invalid pixel (bit 6) next to the interior -/
def demoDisp : Multiscale.Grid Val :=
  [[.num 1, .num 2, .num 3, .num 2, .num 1],
   [.num 0, .num 4, .num (-2), .num 5, .num 1],
   [.num 1, .num 3, .num 7, .num 2, .num 0],
   [.num 2, .num 2, .num 1, .num 1, .num 3]]
def demoFlags : Multiscale.Grid Nat :=
  [[0, 0, 0, 0, 0], [0, 0, 64, 0, 0], [0, 0, 0, 4, 0], [0, 0, 0, 0, 0]]

-- 7 × 9 finer level, factor 2.  Fine pixel (3, 4): parent (1, 2) is invalid → user interval × 2.  Fine pixel (4, 3): parent
-- (2, 1) has disparity 3 and the valid window values 0, 4, 1, 3, 7, 2, 2, 1 → 2·[0 − 1, 7 + 1] ⊇ 2·[3 − 1, 3 + 1].
example : zoomIndex 4 2 3 = 1 ∧ zoomIndex 5 2 4 = 2 ∧ zoomIndex 4 2 4 = 2 ∧ zoomIndex 5 2 3 = 1 := by decide
example : (nextLevelGrids demoDisp demoFlags 3 1 2 (-7 / 2) (7 / 2) 7 9).1.get 3 4 = .num (-6)
    ∧ (nextLevelGrids demoDisp demoFlags 3 1 2 (-7 / 2) (7 / 2) 7 9).2.get 3 4 = .num 6 := by decide +kernel
example : (nextLevelGrids demoDisp demoFlags 3 1 2 (-7 / 2) (7 / 2) 7 9).1.get 4 3 = .num (-2)
    ∧ (nextLevelGrids demoDisp demoFlags 3 1 2 (-7 / 2) (7 / 2) 7 9).2.get 4 3 = .num 16 := by decide +kernel
/-- the hypotheses of `nextLevelGrids_eq_spec` / `fine_interval_contains_parent` hold there -/
example : 1 ≤ 2 ∧ 4 < 7 ∧ 3 < 9 ∧ 4 < 2 * demoDisp.rows ∧ 3 < 2 * demoDisp.cols
    ∧ interiorB ((3 - 1) / 2) demoDisp.rows demoDisp.cols 2 1 = true
    ∧ Flags.isInvalid (demoFlags.get 2 1) = false ∧ demoDisp.get 2 1 = .num 3 := by decide +kernel
/-- the specification rejects another interval: it is not trivially true -/
example : specInterval demoDisp demoFlags 3 1 2 (-7 / 2) (7 / 2) 2 1 = (.num (-2), .num 16) := by decide +kernel

/-- a split that really cuts the 2 × 3 window array of the 4 × 5 map (steps 1 and 2: 2 row chunks, 2 column
    chunks) with offsets at the radius: hypotheses of `coarseRangesBlocked_eq` satisfiable, and the blocked
    model really runs through several chunks -/
def demoSplit : Blocks.Split :=
  { startY := 1, stepY := 1, stopYDim := 0, startX := 2, stepX := 2, stopXDim := 1, beginY := 1, beginX := 1 }
example : (Blocks.arraySplit 2 (Blocks.arange 1 4 1)).length = 4 ∧ (Blocks.arraySplit 3 (Blocks.arange 2 5 2)).length = 3
    ∧ demoSplit.beginY = (3 - 1) / 2 ∧ 3 % 2 = 1 ∧ 3 ≤ demoDisp.rows ∧ 3 ≤ demoDisp.cols := by decide
example : coarseRangesBlocked demoSplit demoDisp demoFlags 3 1 (-7 / 2) (7 / 2)
    = coarseRanges demoDisp demoFlags 3 1 (-7 / 2) (7 / 2) :=
  coarseRangesBlocked_eq demoSplit demoDisp demoFlags 3 1 _ _ rfl rfl rfl (by decide) (by decide)
/-- with the split read in the source: interior valid cell (2, 2), invalid cell (1, 2), border cell (0, 0) -/
example : (coarseRangesBlocked (Generated.Blocks.multiscaleRange 3) demoDisp demoFlags 3 1 (-7 / 2) (7 / 2)).1.get 2 2 = .num 0
    ∧ (coarseRangesBlocked (Generated.Blocks.multiscaleRange 3) demoDisp demoFlags 3 1 (-7 / 2) (7 / 2)).2.get 2 2 = .num 8
    ∧ (coarseRangesBlocked (Generated.Blocks.multiscaleRange 3) demoDisp demoFlags 3 1 (-7 / 2) (7 / 2)).1.get 1 2 = .num (-3)
    ∧ (coarseRangesBlocked (Generated.Blocks.multiscaleRange 3) demoDisp demoFlags 3 1 (-7 / 2) (7 / 2)).2.get 0 0 = .num 3 := by
  decide +kernel
/-- with offsets that do not start at the radius the chunk loop writes somewhere else: the hypothesis on
    the offsets is not decorative -/
example : coarseRangesBlocked { demoSplit with beginY := 0 } demoDisp demoFlags 3 1 (-7 / 2) (7 / 2)
    ≠ coarseRanges demoDisp demoFlags 3 1 (-7 / 2) (7 / 2) := by decide +kernel

/-- **Why `hnum`.**  A pixel that is *not* flagged invalid but whose disparity is NaN: the code
    (`invalid_ind = where(isnan(tmp_disp_map))`) gives it the user interval, the statement ("valid coarse
    disparities in the window around the parent, user interval when the parent is invalid") gives it the
    window's interval.  Pandora writes NaN (`invalid_disparity: "NaN"`) on invalid pixels only, so the case
    does not arise in a run; it is the exact boundary of the theorem. -/
theorem nan_valid_parent_differs :
    (nextLevelGrids [[.num 0, .num 0, .num 0], [.num 0, .nan, .num 0], [.num 0, .num 0, .num 0]]
        [[0, 0, 0], [0, 0, 0], [0, 0, 0]] 3 0 1 (-5) 5 3 3).1.get 1 1 = .num (-5)
    ∧ (specInterval [[.num 0, .num 0, .num 0], [.num 0, .nan, .num 0], [.num 0, .num 0, .num 0]]
        [[0, 0, 0], [0, 0, 0], [0, 0, 0]] 3 0 1 (-5) 5 1 1).1 = .num 0 := by decide +kernel

end Pandora.C15
