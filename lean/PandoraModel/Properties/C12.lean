/-
  C12 — Confidence bands follow their definitions, bracket the winner, only add bands.

  Theorems about the executable model `Model/Confidence.lean` (which follows the algorithms of
  pandora/cost_volume_confidence/*.py and pandora/interval_tools.py) against the declarative
  specification `Confidence.Spec`, for all inputs: any volume size, any number of disparities, any eta
  grid, any threshold, any image size, any list of steps.  The band stems, the band prefix and the
  indicator rule are the ones the translator regenerated from the source text (`Generated/Confidence`).

  Conventions of the specification (DESIGN_NOTES/C12.md): "best" = smallest finite cost for a min measure,
  largest for a max measure; a NaN cost counts as within eta of the best; exact rational arithmetic
  (floating point is modelled, not verified).

  Clause of the property → theorem → the general lemma it rests on (file under `Lemmas/`):
  * ambiguity_def → `ambiguity_def` → `pixelAmbiguity_spec`, `pixelSampled_spec` → `pixelCmp_eq`: the flat
    repeat/reshape/T/flatten layout is the (disparity × eta) table of `Spec.within` (C12Layout)
  * ambiguity_normalised_range → `ambiguity_normalised_range` → `normalize_unit` (C12Frame)
  * risk_def, risk_order → `risk_def`, `risk_order` → `pixelRisk_spec` (→ `spreads_eq` → `pixelCmp_eq`), `risk_order_spec`
    → `card_le_span` (C12Risk)
  * bounds_def → `bounds_def` → `pixelBounds_def` → `possibility_eq`, `boundIdx_cases` (C12Bounds)
  * bounds_bracket_wta → `bounds_bracket_wta` → `pixelBounds_bracket`, `wtaIdx_best` → `boundIdx_around`: the two indices
    lie around every selected index (C12Bounds)
  * quantile1_widens → `intervalRegularization_widens` (C12Regul; no volume-level restatement here) → `graphRegularization_cell`:
    what a pixel holds after `graph_regularization`, any quantile; about the generated function in C12KernelsBorders, carried
    to the filter step in C10C12
  * std_def → `stdBandSq_spec` (C12Std; stated there) → `stdBandSq_eq` → `varRaster_eq` → `windowSums_eq` →
    `windowSums_tabulate`: the integral image of a grid given by an index function is the grid of direct window sums, and a
    rectangular image is such a grid (`rect_eq_tabulate`)
  * bands_appended_named, existing_bands_same, cv_same, later_disp_flags_same → `existing_bands_prefix`, `names_as_specified`,
    `later_disparity_same` → `runSteps_frame` over the relation `Appends` (C12Frame); the names from the regenerated rule for
    every step name: `C12Names.names_generated_eq_spec`
  The generated kernels equal the model: Properties/C12Kernels*.lean.
-/
import PandoraModel.Lemmas.C12Risk
import PandoraModel.Lemmas.C12Bounds
import PandoraModel.Lemmas.C12Regul
import PandoraModel.Lemmas.C12Frame
import PandoraModel.Lemmas.C12Std
import PandoraModel.Generated.Confidence

namespace Pandora.C12
open Pandora.Confidence

def methodKey : Method → Name
  | .ambiguity .. => "ambiguity".toList
  | .risk .. => "risk".toList
  | .intervalBounds .. => "interval_bounds".toList
  | .stdIntensity => "std_intensity".toList

/-- the band stems of the specification are the ones the source allocates, in the same order -/
theorem stems_from_source :
    Generated.Confidence.stems =
      [(methodKey (.ambiguity [] false), Spec.stems (.ambiguity [] false)),
       (methodKey (.risk []), Spec.stems (.risk [])),
       (methodKey (.intervalBounds 0 none), Spec.stems (.intervalBounds 0 none)),
       (methodKey .stdIntensity, Spec.stems .stdIntensity)] := by decide +kernel

theorem prefix_from_source : Generated.Confidence.bandPrefix = confPrefix := rfl

/-- the rule found in `cost_volume_confidence_run`: `indicator = ""; if len(parts) == 2: indicator = "." + parts[1]` with
    `parts = step.split(".")` or `step.split(".", 1)`.  The source holds the second, one-cut form, which yields the
    specification's suffix for every step name (`C12Names.indicator_generated_eq_spec`); the hand model's `indicatorOf` is the
    first, all-dots form, and differs from it on names with two dots or more (`indicator_two_dots_counterexample`) -/
theorem indicator_rule_from_source :
    Generated.Confidence.indicatorRule = ⟨['.'], none, 2, ['.'], 1, []⟩
    ∨ Generated.Confidence.indicatorRule = ⟨['.'], some 1, 2, ['.'], 1, []⟩ := by decide +kernel

/-- the quantifier of the property: the cost volume holds at least two distinct finite costs -/
def WFVol (v : Volume) : Bool :=
  match globalMin v, globalMax v with
  | some mn, some mx => mn != mx
  | _, _ => false

/-- an eta grid as `np.arange(0, eta_max, eta_step)` produces for `0 < eta_max`, `0 < eta_step`:
    non-empty, non-negative samples -/
def WFEtas (etas : List Rat) : Bool := !etas.isEmpty && etas.all (fun e => decide (0 ≤ e))

theorem wfVol_iff (v : Volume) : WFVol v = true ↔ ∃ mn mx, globalMin v = some mn ∧ globalMax v = some mx ∧ mn < mx := by
  unfold WFVol
  cases hmn : globalMin v with
  | none => simp
  | some mn =>
    cases hmx : globalMax v with
    | none => simp
    | some mx =>
      have hle : mn ≤ mx := by
        unfold globalMin at hmn; unfold globalMax at hmx
        exact le_trans ((lmin_spec _ _ hmn).2 mn ((lmin_spec _ _ hmn).1)) ((lmax_spec _ _ hmx).2 mn ((lmin_spec _ _ hmn).1))
      simp only [bne_iff_ne, ne_eq, Option.some.injEq, exists_and_left, exists_eq_left']
      constructor
      · intro h; exact lt_of_le_of_ne hle h
      · intro h; exact ne_of_lt h

theorem wfEtas_iff (etas : List Rat) : WFEtas etas = true ↔ etas ≠ [] ∧ ∀ e ∈ etas, 0 ≤ e := by
  unfold WFEtas
  cases etas <;> simp

theorem arange_wf (stop step : Rat) (h1 : 0 < stop) (h2 : 0 < step) : WFEtas (arange 0 stop step) = true := by
  rw [wfEtas_iff]
  unfold arange
  simp only [not_le.2 h2, if_false]
  have hpos : 0 < (stop - 0) / step := by simp; exact div_pos h1 h2
  have hceil : 0 < ((stop - 0) / step).ceil := by
    have h : (0 : Rat) < ((((stop - 0) / step).ceil : Int) : Rat) := lt_of_lt_of_le hpos Rat.le_ceil
    exact_mod_cast h
  constructor
  · intro h
    have hlen := congrArg List.length h
    simp only [List.length_map, List.length_range, List.length_nil] at hlen
    omega
  · intro e he
    obtain ⟨i, _, rfl⟩ := List.mem_map.1 he
    have : (0 : Rat) ≤ (i : Rat) := by exact_mod_cast Nat.zero_le i
    have := mul_nonneg this (le_of_lt h2)
    linarith

/-- **ambiguity_def**: for every cost volume with two distinct finite costs and every eta grid,
    `compute_ambiguity` returns, at every pixel, the number of (eta, disparity) pairs whose normalised cost
    is within eta of the pixel's smallest cost (NaN costs counted) — `min` measure -/
theorem ambiguity_def (etas : List Rat) (v : Volume) (h : WFVol v = true) :
    ∃ mn mx, globalMin v = some mn ∧ globalMax v = some mx ∧
      computeAmbiguity etas v = some (mapVolume (Spec.ambCount false mn mx etas) v)
      ∧ computeSampled etas v = some (mapVolume (fun c => etas.map (Spec.ambAt false mn mx c)) v) := by
  obtain ⟨mn, mx, hmn, hmx, hlt⟩ := (wfVol_iff v).1 h
  refine ⟨mn, mx, hmn, hmx, ?_, ?_⟩
  · rw [computeAmbiguity, hmn, hmx]
    exact congrArg (fun f => some (mapVolume f v)) (funext fun c => pixelAmbiguity_spec mn mx etas c (ne_of_gt hlt))
  · rw [computeSampled, hmn, hmx]
    exact congrArg (fun f => some (mapVolume f v)) (funext fun c => pixelSampled_spec mn mx etas c (ne_of_gt hlt))

/-- **ambiguity_normalised_range**: when the percentile-clipped ambiguity map takes two distinct values,
    every cell of the normalised confidence band is a finite number of `[0, 1]` -/
theorem ambiguity_normalised_range (etas : List Rat) (v : Volume) (amb : Grid Nat) (band : Grid Val)
    (hamb : computeAmbiguity etas v = some amb)
    (hband : ambiguityBand etas true 1 v = some band)
    (hd : ∃ x ∈ clipped 1 (amb.flatten.map (fun (n : Nat) => (n : Rat))),
          ∃ y ∈ clipped 1 (amb.flatten.map (fun (n : Nat) => (n : Rat))), x ≠ y) :
    ∀ row ∈ band, ∀ x ∈ row, Spec.inUnit x = true := by
  unfold ambiguityBand at hband
  rw [hamb] at hband
  simp only [if_true, Option.some.injEq] at hband
  subst hband
  intro row hrow x hx
  have hmem := mem_chunks _ _ _ row hrow x hx
  obtain ⟨y, hy, rfl⟩ := List.mem_map.1 hmem
  exact (normalize_unit 1 _ hd y hy).2

/-- **risk_def**: `compute_risk` returns at every pixel the eta-means of the disparity spread and of
    `1 + spread − count` (NaN for a pixel without finite cost) -/
theorem risk_def (etas : List Rat) (v : Volume) (h : WFVol v = true) (he : WFEtas etas = true) :
    ∃ mn mx, globalMin v = some mn ∧ globalMax v = some mx ∧
      computeRisk etas v = some (mapVolume (fun c => riskVals (Spec.risk false mn mx etas c)) v) := by
  obtain ⟨mn, mx, hmn, hmx, hlt⟩ := (wfVol_iff v).1 h
  obtain ⟨hne, hpos⟩ := (wfEtas_iff etas).1 he
  refine ⟨mn, mx, hmn, hmx, ?_⟩
  rw [computeRisk, hmn, hmx]
  exact congrArg (fun f => some (mapVolume f v)) (funext fun c => pixelRisk_spec mn mx etas c (ne_of_gt hlt) hpos hne)

/-- **risk_order** -/
theorem risk_order (etas : List Rat) (v : Volume) (h : WFVol v = true) (he : WFEtas etas = true)
    (g : Grid (Val × Val)) (hg : computeRisk etas v = some g) :
    ∀ row ∈ g, ∀ p ∈ row, (p = (Val.nan, Val.nan)) ∨ (∃ a b, p = (Val.num a, Val.num b) ∧ 0 ≤ b ∧ b ≤ a) := by
  obtain ⟨mn, mx, _, _, hr⟩ := risk_def etas v h he
  obtain ⟨_, hpos⟩ := (wfEtas_iff etas).1 he
  rw [hr] at hg
  simp only [Option.some.injEq] at hg
  subst hg
  intro row hrow p hp
  simp only [mapVolume, List.mem_map] at hrow
  obtain ⟨vrow, _, rfl⟩ := hrow
  obtain ⟨c, _, rfl⟩ := List.mem_map.1 hp
  cases hs : Spec.risk false mn mx etas c with
  | none => left; rfl
  | some ab =>
    obtain ⟨a, b⟩ := ab
    right
    exact ⟨a, b, rfl, risk_order_spec mn mx etas c hpos a b hs⟩

/-- **bounds_def**: at every pixel `(inf, sup)` are the disparities of the first / last index whose
    possibility `1 − |c − best|/(max − min)` reaches the threshold, widened by one sample at a best;
    both measure types -/
theorem bounds_def (isMax : Bool) (thr : Rat) (disp : List Rat) (v : Volume) (h : WFVol v = true) (hthr : thr ≤ 1) :
    ∃ mn mx g, globalMin v = some mn ∧ globalMax v = some mx ∧ computeBounds isMax thr disp v = some g ∧
      g = mapVolume (pixelBounds mn mx (typeFactor isMax) thr disp) v ∧
      ∀ row ∈ v, ∀ c ∈ row,
        Spec.boundsOk isMax mn mx thr disp c (pixelBounds mn mx (typeFactor isMax) thr disp c).1
          (pixelBounds mn mx (typeFactor isMax) thr disp c).2 = true := by
  obtain ⟨mn, mx, hmn, hmx, hlt⟩ := (wfVol_iff v).1 h
  refine ⟨mn, mx, _, hmn, hmx, ?_, rfl, ?_⟩
  · unfold computeBounds; rw [hmn, hmx]
  · intro row _ c _
    exact pixelBounds_def isMax mn mx thr disp c hlt hthr

/-- **bounds_bracket_wta**: for every pixel that has a finite cost, the winner-takes-all disparity of the
    later disparity step lies in `[inf, sup]` — ascending disparity coordinate, threshold `≤ 1` -/
theorem bounds_bracket_wta (isMax : Bool) (thr : Rat) (disp : List Rat) (v : Volume) (h : WFVol v = true)
    (hthr : thr ≤ 1) (hdisp : disp.Pairwise (· ≤ ·)) :
    ∃ mn mx, globalMin v = some mn ∧ globalMax v = some mx ∧
      ∀ row ∈ v, ∀ c ∈ row, disp.length = c.length → ∀ w, wtaIdx isMax c = some w →
        Spec.bracket (pixelBounds mn mx (typeFactor isMax) thr disp c).1
          (pixelBounds mn mx (typeFactor isMax) thr disp c).2 (disp.getD w 0) = true := by
  obtain ⟨mn, mx, hmn, hmx, hlt⟩ := (wfVol_iff v).1 h
  refine ⟨mn, mx, hmn, hmx, ?_⟩
  intro row _ c _ hlen w hw
  obtain ⟨hwlt, b, hb, hcw⟩ := wtaIdx_best isMax c w hw
  exact pixelBounds_bracket isMax mn mx thr disp c hlt hthr hdisp hlen b hb w hwlt hcw

/-- **existing_bands_same / bands_appended_named** in the form used by the check: after any list of steps the
    old bands are a prefix of the new list, in place and unchanged -/
theorem existing_bands_prefix (steps : List Step) (st st' : CState) (h : runSteps st steps = some st') :
    (st.cvBands.getD []) <+: (st'.cvBands.getD []) := by
  obtain ⟨new, _, hb⟩ := runSteps_frame steps st st' h
  exact ⟨new, hb.bands.symm⟩

/-- the names appended by well-formed step names (at most one dot each) are the specification's -/
theorem names_as_specified (s : Step) (kind sfx : List Char) (hk : ∀ c ∈ kind, c ≠ '.') (hs : ∀ c ∈ sfx, c ≠ '.')
    (hname : s.name = kind ++ '.' :: sfx ∨ s.name = kind) : modelNames s = Spec.expectedNames s := by
  unfold modelNames Spec.expectedNames
  rcases hname with h | h
  · rw [h, indicatorOf_eq_suffix kind sfx hk hs]; simp [List.append_assoc]
  · rw [h, indicatorOf_no_dot kind hk]; simp [List.append_assoc]

/-- a volume within the quantifier of the property, with NaN holes, ties and an all-NaN pixel -/
def exVol : Volume :=
  [[[.nan, .num 1, .num 3], [.num 4, .num 1, .num 1], [.nan, .nan, .nan]],
   [[.num 5, .nan, .num 0], [.num 2, .num 2, .num 2], [.num 0, .num 8, .num 0]]]

example : WFVol exVol = true := by decide +kernel
example : WFEtas (arange 0 (3/4) (1/4)) = true := by decide +kernel
example : arange 0 (3/4) (1/4) = [0, 1/4, 1/2] := by decide +kernel
example : computeAmbiguity [0, 1/4, 1/2] exVol = some [[8, 7, 9], [6, 9, 6]] := by decide +kernel
example : computeRisk [0, 1/2] exVol
    = some [[(.num (3/2), .num 0), (.num (3/2), .num 0), (.nan, .nan)],
            [(.num 1, .num 0), (.num 2, .num 0), (.num 2, .num 1)]] := by decide +kernel
example : computeBounds false (3/4) [-1, 0, 1] exVol
    = some [[(.num (-1), .num 1), (.num (-1), .num 1), (.nan, .nan)],
            [(.num 0, .num 1), (.num (-1), .num 1), (.num (-1), .num 1)]] := by decide +kernel
example : wtaMap false [-1, 0, 1] exVol = [[some 0, some 0, none], [some 1, some (-1), some (-1)]] := by decide +kernel
example : ([-1, 0, 1] : List Rat).Pairwise (· ≤ ·) := by decide +kernel

def exInf : Grid Val := [[.num 0, .num (-1), .num 2, .nan], [.num 1, .num 1, .num 0, .num 3]]
def exSup : Grid Val := [[.num 1, .num 2, .num 2, .nan], [.num 1, .num 4, .num 2, .num 3]]
def exAmb : Grid Val := [[.num (1/8), .num (1/4), .num 1, .num 1], [.num 1, .num (1/2), .num (1/8), .num 1]]

example : borders (5/8) 1 exAmb = ([(0, 0), (1, 1)], [(0, 1), (1, 2)]) := by decide +kernel
example : intervalRegularization exInf exSup exAmb (5/8) 1 1 1
    = ([[.num (-1), .num (-1), .num 2, .nan], [.num 1, .num (-1), .num (-1), .num 3]],
       [[.num 4, .num 4, .num 2, .nan], [.num 1, .num 4, .num 4, .num 3]]) := by decide +kernel
example : Spec.widened exInf exSup (intervalRegularization exInf exSup exAmb (5/8) 1 1 1).1
    (intervalRegularization exInf exSup exAmb (5/8) 1 1 1).2 = true := by decide +kernel

def exState : CState :=
  { cost := exVol, isMax := false, disp := [-1, 0, 1], img := [[1, 2, 3], [4, 6, 5]], window := 1,
    cvBands := none, dispDS := .ds none }

def exSteps : List Step :=
  [⟨"cost_volume_confidence.amb".toList, .ambiguity [0, 1/2] false⟩,
   ⟨"cost_volume_confidence".toList, .risk [0, 1/2]⟩,
   ⟨"cost_volume_confidence.std".toList, .stdIntensity⟩,
   ⟨"cost_volume_confidence.b".toList, .intervalBounds (3/4) none⟩]

example : ((runSteps exState exSteps).map (fun st => (st.cvBands.getD []).map (fun b => String.ofList b.name)))
    = some ["confidence_from_ambiguity.amb", "confidence_from_risk_max", "confidence_from_risk_min",
            "confidence_from_intensity_std.std", "confidence_from_interval_bounds_inf.b",
            "confidence_from_interval_bounds_sup.b"] := by decide +kernel
example : exSteps.flatMap modelNames = exSteps.flatMap Spec.expectedNames := by decide +kernel

example : stdBandSq 3 [[1, 2, 3, 4], [4, 6, 5, 0], [7, 8, 9, 1]]
    = [[.nan, .nan, .nan, .nan], [.nan, .num (20/3), .num (680/81), .nan], [.nan, .nan, .nan, .nan]] := by
  decide +kernel
example : Spec.windowVar 3 [[1, 2, 3, 4], [4, 6, 5, 0], [7, 8, 9, 1]] 0 1 = 680/81 := by decide +kernel

end Pandora.C12
