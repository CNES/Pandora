/-
  C04 — Validity flags, NaN costs and invalid disparities tell one coherent story: the mask `criteria.py` builds with
  the cost volume (`Model/Criteria.lean`) meets every "before validation" clause; the later steps
  (`Model/FlagSteps.lean`) never produce an undocumented bit and change only their own bits as long as the bit they add
  with `+=` is clear; the flag sites read from the source on this run are the ones the model follows.
-/
import PandoraModel.Lemmas.C04Criteria
import PandoraModel.Lemmas.C04Steps
import PandoraModel.Properties.Flags
import PandoraModel.Generated.FlagOps

namespace Pandora.C04
open Pandora.Criteria Pandora.Flags Pandora.FlagSteps

structure Interior (I : Input) (r c : Nat) : Prop where
  r1 : I.off ≤ r
  r2 : r + I.off < I.rows
  c1 : I.off ≤ c
  c2 : c + I.off < I.cols

theorem interior_of_not_border (I : Input) (r c : Nat) (hr : r < I.rows) (hc : c < I.cols)
    (hb : isBorder I r c = false) : Interior I r c := by
  unfold isBorder Criteria.inBorder at hb
  by_cases h0 : 0 < I.off
  · simp [h0] at hb
    exact ⟨by omega, by omega, by omega, by omega⟩
  · have : I.off = 0 := by omega
    exact ⟨by omega, by omega, by omega, by omega⟩

theorem not_border_of_interior (I : Input) (r c : Nat) (h : Interior I r c) : isBorder I r c = false := by
  obtain ⟨h1, h2, h3, h4⟩ := h
  unfold isBorder Criteria.inBorder
  by_cases h0 : 0 < I.off
  · simp [h0]; omega
  · simp [h0]

theorem Interior.col {I : Input} {r c : Nat} (h : Interior I r c) : ColInterior I c := ⟨h.c1, h.c2⟩

def leftDil (I : Input) (r c : Nat) : Bool := I.hasL && dilated I.rows I.cols I.off I.mL r c
def leftInv (I : Input) (r c : Nat) : Bool := I.hasL && (I.mL r c == Cls.invalid)

theorem ite_eq_mul_toNat (b : Bool) (k : Nat) : (if b = true then k else 0) = k * b.toNat := by
  cases b <;> simp

theorem stage1_eq (I : Input) (r c : Nat) (hd : I.dmin ≤ I.dmax) :
    stage1 I r c = 4 * (vmBit2 I c).toNat + 2 * (vmBit1 I c).toNat + (leftDil I r c).toNat
      + 64 * (leftInv I r c).toNat + 128 * (I.hasR && right7 I r c).toNat + 2 * (I.hasR && rightN I r c).toNat := by
  unfold stage1 vm1 allocLeft leftDil leftInv
  simp only [allocRight_eq _ _ _ _ hd, rightIncompleteRange, rightNodataOrRangeMissing, leftNodataOrBorder,
    inValidityMaskLeft, inValidityMaskRight, ite_eq_mul_toNat]
  cases I.hasL <;> cases I.hasR <;>
    simp only [Bool.false_eq_true, if_true, if_false, Bool.true_and, Bool.false_and, Bool.toNat_false] <;> omega

theorem rightOk_imp (J : CvInput) (r c : Nat) (d : Int) (h : rightOk J r ((c : Int) + d) = true) :
    inIdx J.toInput c d = true ∧ (J.hasR = true → sat7 J.toInput r c d = false ∧ satN J.toInput r c d = false) := by
  unfold rightOk at h
  rw [Bool.and_eq_true, decide_eq_true_eq] at h
  have hi : inIdx J.toInput c d = true := by rw [inIdx_iff]; omega
  refine ⟨hi, fun hR => ?_⟩
  unfold sat7 satN
  rw [hR] at h
  revert h
  rw [hi]
  cases rDilAt J.toInput r ((c : Int) + d) <;> cases rInvAt J.toInput r ((c : Int) + d) <;> simp

theorem sample_in_interval (J : CvInput) (j : Nat) (hj : j < nDisp J) (hd : J.dmin ≤ J.dmax) :
    J.dmin ≤ J.dmin + ((j / J.subpix : Nat) : Int) ∧ J.dmin + ((j / J.subpix : Nat) : Int) ≤ J.dmax := by
  unfold nDisp at hj
  have h1 : j / J.subpix ≤ (J.dmax - J.dmin).toNat := by
    apply Nat.div_le_of_le_mul
    rw [Nat.mul_comm]; omega
  have h2 : ((j / J.subpix : Nat) : Int) ≤ ((J.dmax - J.dmin).toNat : Int) := Int.ofNat_le.mpr h1
  have h3 : (0 : Int) ≤ ((j / J.subpix : Nat) : Int) := Int.natCast_nonneg _
  generalize ((j / J.subpix : Nat) : Int) = q at h2 h3 ⊢
  omega

theorem computable_imp (J : CvInput) (r c j : Nat) (h : computable J r c j = true) :
    Interior J.toInput r c ∧ (leftDil J.toInput r c || leftInv J.toInput r c) = false ∧
      rightOk J r ((c : Int) + (J.dmin + ((j / J.subpix : Nat) : Int))) = true := by
  unfold computable winInside at h
  simp only [Bool.and_eq_true, decide_eq_true_eq] at h
  obtain ⟨⟨⟨hI, hL⟩, hR⟩, -⟩ := h
  refine ⟨⟨hI.1, hI.2.1, hI.2.2.1, hI.2.2.2⟩, ?_, ?_⟩
  · unfold leftDil leftInv; rw [← Bool.and_or_distrib_left]; exact Bool.not_eq_true' _ ▸ hL
  · rw [← Int.add_assoc]
    split at hR
    · exact hR
    · exact (Bool.and_eq_true _ _ ▸ hR).1

theorem exists_computable (J : CvInput) (r c : Nat) (h : allNanOf J r c = false) :
    ∃ j, j < nDisp J ∧ computable J r c j = true := by
  unfold allNanOf at h
  simpa using h


/-- `mask_invalid_variable_disparity_range` on an all-NaN pixel adds 2 unless bit 1 is set -/
theorem maskInvalidVar_true (f : Nat) : maskInvalidVar true f = if f / 2 % 2 = 1 then f else f + 2 := by
  have h2 : f &&& 2 = if f.testBit 1 then 2 else 0 := and_two_pow_eq f 1
  have hb : f.testBit 1 = decide (f / 2 % 2 = 1) := Nat.testBit_eq_decide_div_mod_eq
  unfold maskInvalidVar rightNodataOrRangeMissing
  rw [if_pos rfl, h2, hb]
  by_cases h : f / 2 % 2 = 1
  · rw [if_pos h, decide_eq_true h]; rfl
  · rw [if_neg h, decide_eq_false h]; rfl

/-- arithmetic of the flag word: six indicators added once each, 2 added twice at most once (the `bit_1` columns
    are excluded from the right mask), then `+ 2` for an all-NaN pixel whose bit 1 is clear, every cause of bit 1
    making the pixel all-NaN: bit 1 of the word is `a`, the others are untouched -/
theorem final_word (b2 b1 bd bi b7 bn a : Bool) (hx : b1 = true → bn = false) (ha : (b1 || bn) = true → a = true) :
    maskInvalidVar a (4 * b2.toNat + 2 * b1.toNat + bd.toNat + 64 * bi.toNat + 128 * b7.toNat + 2 * bn.toNat)
      = bd.toNat + 2 * a.toNat + 4 * b2.toNat + 64 * bi.toNat + 128 * b7.toNat := by
  have hd := Bool.toNat_le bd
  cases a
  · -- no cause of bit 1
    obtain ⟨rfl, rfl⟩ := Bool.or_eq_false_iff.1 (Bool.eq_false_iff.2 fun h => Bool.noConfusion (ha h))
    rw [show maskInvalidVar false _ = _ from if_neg Bool.false_ne_true, Bool.toNat_false]
    omega
  · -- `b1.toNat + bn.toNat ≤ 1`, so bit 1 before the update is set exactly when one of them is
    have h1n : b1.toNat + bn.toNat ≤ 1 := by
      cases b1
      · rw [Bool.toNat_false, Nat.zero_add]; exact Bool.toNat_le bn
      · rw [hx rfl]; exact Nat.le_refl 1
    rw [maskInvalidVar_true, Bool.toNat_true]
    split <;> omega

/-- the bits of a word made of the bits 0, 1, 2, 6, 7: the table of the 32 words -/
theorem word_reads (b0 b1 b2 b6 b7 : Bool) :
    let f := b0.toNat + 2 * b1.toNat + 4 * b2.toNat + 64 * b6.toNat + 128 * b7.toNat
    hasBit f leftNodataOrBorder = b0 ∧ hasBit f inValidityMaskLeft = b6 ∧ hasBit f rightNodataOrRangeMissing = b1
      ∧ hasBit f rightIncompleteRange = b2 ∧ hasBit f inValidityMaskRight = b7
      ∧ f < 256 ∧ hasBit f 8 = false ∧ hasBit f 16 = false ∧ hasBit f 32 = false := by
  revert b0 b1 b2 b6 b7
  decide

/-- `flag & (1 + 2 + 64 + 128) != 0` tests the bits 0, 6, 7, 1 -/
theorem isInvalidPre_eq (f : Nat) :
    isInvalidPre f = (hasBit f leftNodataOrBorder || hasBit f inValidityMaskLeft || hasBit f inValidityMaskRight
      || hasBit f rightNodataOrRangeMissing) := by
  unfold isInvalidPre hasBit
  rw [show preInvalidBits = leftNodataOrBorder ||| inValidityMaskLeft ||| inValidityMaskRight ||| rightNodataOrRangeMissing
    from by decide]
  simp only [and_or_ne_zero]

theorem word_bits (b0 b1 b2 b6 b7 : Bool) (f : Nat)
    (hf : f = b0.toNat + 2 * b1.toNat + 4 * b2.toNat + 64 * b6.toNat + 128 * b7.toNat)
    (h1 : (b0 || b6 || b7) = true → b1 = true) :
    hasBit f leftNodataOrBorder = b0 ∧ hasBit f inValidityMaskLeft = b6 ∧ hasBit f rightNodataOrRangeMissing = b1
      ∧ hasBit f rightIncompleteRange = b2 ∧ hasBit f inValidityMaskRight = b7 ∧ isInvalidPre f = b1
      ∧ f < 256 ∧ hasBit f 8 = false ∧ hasBit f 16 = false ∧ hasBit f 32 = false := by
  subst hf
  obtain ⟨r0, r6, r1, r2, r7, rest⟩ := word_reads b0 b1 b2 b6 b7
  refine ⟨r0, r6, r1, r2, r7, ?_, rest⟩
  -- an invalidating bit is set iff one of the bits 0, 6, 7, 1 is; the first three imply the last
  rw [isInvalidPre_eq, r0, r6, r7, r1]
  cases hc : (b0 || b6 || b7)
  · exact Bool.false_or b1
  · rw [h1 hc]; rfl

theorem modelMask_interior (J : CvInput) (r c : Nat) (h : Interior J.toInput r c) :
    modelMask J r c = maskInvalidVar (allNanOf J r c) (stage1 J.toInput r c) := by
  unfold modelMask finalMask maskBorder
  have hb := not_border_of_interior _ r c h
  unfold isBorder at hb
  by_cases h0 : 0 < J.off
  · simp [h0] at hb; simp [h0, hb]
  · simp [h0]

theorem specBit0_interior (I : Input) (r c : Nat) (h : Interior I r c) : specBit0 I r c = leftDil I r c := by
  unfold specBit0 leftDil
  rw [not_border_of_interior I r c h, dilated_eq_nodataInWindow]; simp

theorem specBit6_interior (I : Input) (r c : Nat) (h : Interior I r c) : specBit6 I r c = leftInv I r c := by
  unfold specBit6 leftInv
  rw [not_border_of_interior I r c h]; simp

theorem specBit2_interior (I : Input) (r c : Nat) (h : Interior I r c) (hd : I.dmin ≤ I.dmax) :
    specBit2 I r c = vmBit2 I c := by
  unfold specBit2
  rw [not_border_of_interior I r c h, Bool.eq_iff_iff, vmBit2_iff I c h.col hd]
  simp only [Bool.not_false, Bool.true_and, Bool.and_eq_true, Bool.not_eq_eq_eq_not, Bool.not_true,
    List.isEmpty_eq_false_iff, List.any_eq_true, ne_eq, mem_dispList, and_assoc]

theorem specBit7_interior (I : Input) (r c : Nat) (h : Interior I r c) (hd : I.dmin ≤ I.dmax) :
    specBit7 I r c = (I.hasR && right7 I r c) := by
  have hv : (inSet I c).isEmpty = vmBit1 I c := by
    rw [Bool.eq_iff_iff, List.isEmpty_iff, vmBit1_iff I c h.col hd]
  unfold specBit7 right7
  -- "every in-image candidate is masked" is "every candidate is outside the image or masked"
  rw [not_border_of_interior I r c h, hv, inSet, List.all_filter]
  cases I.hasR <;> cases vmBit1 I c <;> rfl

theorem specBit1_interior (J : CvInput) (r c : Nat) (h : Interior J.toInput r c) : specBit1 J r c = allNanOf J r c := by
  unfold specBit1
  rw [not_border_of_interior _ r c h]; simp

/-- each cause of an invalidating bit makes every cost of the pixel NaN -/
theorem allNan_of_cause (J : CvInput) (r c : Nat) (hd : J.dmin ≤ J.dmax) (h : Interior J.toInput r c)
    (hc : ((vmBit1 J.toInput c || (J.hasR && rightN J.toInput r c))
      || (leftDil J.toInput r c || leftInv J.toInput r c || (J.hasR && right7 J.toInput r c))) = true) :
    allNanOf J r c = true := by
  -- a computable sample refutes each cause: its right position is in the image and counts for neither counter
  refine Bool.of_not_eq_false fun hn => ?_
  obtain ⟨j, hj, hcomp⟩ := exists_computable J r c hn
  obtain ⟨-, hL, hok⟩ := computable_imp J r c j hcomp
  obtain ⟨h1, h2⟩ := sample_in_interval J j hj hd
  generalize J.dmin + ((j / J.subpix : Nat) : Int) = d at hok h1 h2
  obtain ⟨hin, hsat⟩ := rightOk_imp J r c d hok
  have hmem := mem_dispList.mpr ⟨h1, h2⟩
  simp only [hL, Bool.or_eq_true, Bool.and_eq_true, rightN, right7, List.all_eq_true, Bool.false_eq_true, false_or] at hc
  rcases hc with (hv | ⟨hR, hN⟩) | ⟨hR, h7⟩
  · rw [(inSet_eq_nil_iff J.toInput c).mp ((vmBit1_iff J.toInput c h.col hd).mp hv) d h1 h2] at hin
    cases hin
  · exact Bool.false_ne_true ((hsat hR).2 ▸ hN.2 d hmem)
  · exact Bool.false_ne_true ((hsat hR).1 ▸ h7.2 d hmem)

/-- **Interior pixels, in closed form**: the model's mask is the word whose bits 0, 1, 2, 6, 7 are the documented
    causes. -/
theorem modelMask_eq_specWord (J : CvInput) (r c : Nat) (hd : J.dmin ≤ J.dmax) (h : Interior J.toInput r c) :
    modelMask J r c = (specBit0 J.toInput r c).toNat + 2 * (specBit1 J r c).toNat + 4 * (specBit2 J.toInput r c).toNat
      + 64 * (specBit6 J.toInput r c).toNat + 128 * (specBit7 J.toInput r c).toNat := by
  rw [specBit0_interior _ r c h, specBit6_interior _ r c h, specBit1_interior J r c h,
    specBit2_interior _ r c h hd, specBit7_interior _ r c h hd, modelMask_interior J r c h, stage1_eq _ r c hd]
  exact final_word _ _ _ _ _ _ _ (fun hb => by simp [rightN, hb]) fun hb => allNan_of_cause J r c hd h (by rw [hb]; rfl)

/-- **Interior pixels**: every bit of the model's mask is raised exactly when its documented cause holds, the
    pixel carries an invalidating bit iff all its costs are NaN, and no other bit is ever set. -/
theorem criteria_interior (J : CvInput) (r c : Nat) (hd : J.dmin ≤ J.dmax) (h : Interior J.toInput r c) :
    hasBit (modelMask J r c) leftNodataOrBorder = specBit0 J.toInput r c
    ∧ hasBit (modelMask J r c) inValidityMaskLeft = specBit6 J.toInput r c
    ∧ hasBit (modelMask J r c) rightNodataOrRangeMissing = specBit1 J r c
    ∧ hasBit (modelMask J r c) rightIncompleteRange = specBit2 J.toInput r c
    ∧ hasBit (modelMask J r c) inValidityMaskRight = specBit7 J.toInput r c
    ∧ isInvalidPre (modelMask J r c) = allNanOf J r c
    ∧ modelMask J r c < 256 ∧ hasBit (modelMask J r c) 8 = false ∧ hasBit (modelMask J r c) 16 = false
    ∧ hasBit (modelMask J r c) 32 = false := by
  rw [← specBit1_interior J r c h]
  refine word_bits _ _ _ _ _ _ (modelMask_eq_specWord J r c hd h) fun hc => ?_
  rw [specBit0_interior _ r c h, specBit6_interior _ r c h, specBit7_interior _ r c h hd] at hc
  rw [specBit1_interior J r c h]
  exact allNan_of_cause J r c hd h (by rw [hc]; exact Bool.or_true _)

/-- **Border pixels** carry bit 0 only, and none of their costs is computable. -/
theorem criteria_border (J : CvInput) (r c : Nat) (hb : isBorder J.toInput r c = true) :
    modelMask J r c = leftNodataOrBorder ∧ allNanOf J r c = true := by
  constructor
  · unfold modelMask finalMask maskBorder
    unfold isBorder at hb
    simp only [Bool.and_eq_true, decide_eq_true_eq] at hb
    simp [hb.1, hb.2]
  · refine Bool.of_not_eq_false fun hn => ?_
    obtain ⟨j, -, hcomp⟩ := exists_computable J r c hn
    rw [not_border_of_interior _ r c (computable_imp J r c j hcomp).1] at hb
    cases hb

/-- what the disparity step may assume about `invalid_disparity`: NaN, or a value that is not one of the
    disparity samples (in particular any value outside the searched interval) -/
def InvalidNotSample (dmin : Int) (subpix n : Nat) (invalid : Val) : Prop :=
  ∀ j, j < n → sameVal (Val.num ((dmin : Rat) + ((j : Nat) : Rat) / ((subpix : Nat) : Rat))) invalid = false

theorem sameVal_refl (v : Val) : sameVal v v = true := by
  cases v <;> simp [sameVal]

theorem argBestAux_lt (isMax : Bool) (l : List Val) (i bi : Nat) (bv : Val) (h : bi < i) :
    argBestAux isMax l i bi bv < i + l.length := by
  induction l generalizing i bi bv with
  | nil => simpa [argBestAux] using h
  | cons v vs ih =>
    unfold argBestAux
    split
    · have := ih (i + 1) i v (by omega); simp only [List.length_cons]; omega
    · have := ih (i + 1) bi bv (by omega); simp only [List.length_cons]; omega

theorem argBest_lt (isMax : Bool) (costs : List Val) (h : costs ≠ []) : argBest isMax costs < costs.length := by
  cases costs with
  | nil => exact absurd rfl h
  | cons v vs =>
    unfold argBest
    have := argBestAux_lt isMax vs 1 0 v (by omega)
    simp only [List.length_cons]; omega

theorem toDisp_invalid_iff (isMax : Bool) (dmin : Int) (subpix : Nat) (invalid : Val) (costs : List Val)
    (hinv : InvalidNotSample dmin subpix costs.length invalid) :
    sameVal (toDisp isMax dmin subpix invalid costs) invalid = costs.all Val.isNan := by
  unfold toDisp
  cases hall : costs.all Val.isNan
  · have hne : costs ≠ [] := by intro h0; simp [h0] at hall
    simp only [Bool.false_eq_true, if_false]
    exact hinv _ (argBest_lt isMax costs hne)
  · simp [sameVal_refl]

theorem sample_ne_of_outside (dmin dmax : Int) (s j : Nat) (q : Rat) (hs : 0 < s)
    (hj : j ≤ (dmax - dmin).toNat * s) (hd : dmin ≤ dmax)
    (hq : q < (dmin : Rat) ∨ (dmax : Rat) < q) : (dmin : Rat) + (j : Rat) / (s : Rat) ≠ q := by
  have hs' : (0 : Rat) < (s : Rat) := Rat.natCast_pos.mpr hs
  have h0 : ¬ ((j : Rat) / (s : Rat) < 0) := by
    rw [Rat.div_lt_iff hs', Rat.zero_mul]
    exact Rat.not_lt.mpr Rat.natCast_nonneg
  have h1 : ¬ (((dmax - dmin).toNat : Rat) < (j : Rat) / (s : Rat)) := by
    rw [Rat.lt_div_iff hs', ← Rat.natCast_mul, Rat.not_lt, Rat.natCast_le_natCast]
    exact hj
  have h2 : ((dmax - dmin).toNat : Rat) = (dmax : Rat) - (dmin : Rat) := by
    have : ((dmax - dmin).toNat : Int) = dmax - dmin := by omega
    rw [← Rat.intCast_natCast, this]
    exact Rat.intCast_sub _ _
  rw [h2] at h1
  generalize (j : Rat) / (s : Rat) = x at h0 h1
  -- 0 ≤ x ≤ dmax - dmin and q outside [dmin, dmax]
  clear hs hs' hj hd h2
  grind

/-- the quantifier of the property ("NaN or outside the searched interval") implies the hypothesis of
    `criteria_spec_disp` -/
theorem invalidNotSample_of_outside (J : CvInput) (invalid : Val) (hs : 0 < J.subpix) (hd : J.dmin ≤ J.dmax)
    (h : invalid = Val.nan ∨ ∃ q, invalid = Val.num q ∧ (q < (J.dmin : Rat) ∨ (J.dmax : Rat) < q)) :
    InvalidNotSample J.dmin J.subpix (nDisp J) invalid := by
  intro j hj
  rcases h with rfl | ⟨q, rfl, hq⟩
  · rfl
  · unfold sameVal
    have := sample_ne_of_outside J.dmin J.dmax J.subpix j q hs (by unfold nDisp at hj; omega) hd hq
    simpa using this

/-- **The specification holds of the model** (mask after `matching_cost`, NaN pattern, no disparity observed):
    for every in-image pixel no clause fails. -/
theorem criteria_spec (J : CvInput) (invalid : Val) (r c : Nat) (hd : J.dmin ≤ J.dmax)
    (hr : r < J.rows) (hc : c < J.cols) :
    failingClauses J invalid r c (modelMask J r c) (allNanOf J r c) none = [] := by
  unfold failingClauses
  cases hb : isBorder J.toInput r c
  · have hI := interior_of_not_border _ r c hr hc hb
    obtain ⟨k0, k6, k1, k2, k7, kinv, klt, k3, k4, k5⟩ := criteria_interior J r c hd hI
    simp [k0, k6, k1, k2, k7, kinv, klt, k3, k4, k5, hb]
  · obtain ⟨hm, hn⟩ := criteria_border J r c hb
    simp [hm, hn, hb, specBit0, specBit6, specBit1, specBit2, specBit7, leftNodataOrBorder, inValidityMaskLeft,
      rightNodataOrRangeMissing, rightIncompleteRange, inValidityMaskRight, hasBit, isInvalidPre, preInvalidBits]

theorem invalidPre_eq_allNan (J : CvInput) (r c : Nat) (hd : J.dmin ≤ J.dmax) (hr : r < J.rows) (hc : c < J.cols) :
    isInvalidPre (modelMask J r c) = allNanOf J r c := by
  cases hb : isBorder J.toInput r c
  · exact (criteria_interior J r c hd (interior_of_not_border _ r c hr hc hb)).2.2.2.2.2.1
  · obtain ⟨hm, hn⟩ := criteria_border J r c hb
    rw [hm, hn]; decide

theorem failingClauses_some (J : CvInput) (invalid : Val) (r c f : Nat) (n : Bool) (d : Val) :
    failingClauses J invalid r c f n (some d) = [] ↔
      (failingClauses J invalid r c f n none = [] ∧ (sameVal d invalid == isInvalidPre f) = true) := by
  unfold failingClauses
  simp only [List.append_eq_nil_iff, List.append_nil]
  cases (sameVal d invalid == isInvalidPre f) <;> simp

/-- ... and with the disparity map of the disparity step: the pixel carries an invalidating flag iff its
    disparity is `invalid_disparity`, for any cost values that are NaN exactly where not computable. -/
theorem criteria_spec_disp (J : CvInput) (invalid : Val) (isMax : Bool) (r c : Nat) (costs : List Val)
    (hd : J.dmin ≤ J.dmax) (hr : r < J.rows) (hc : c < J.cols)
    (hnan : costs.all Val.isNan = allNanOf J r c)
    (hinv : InvalidNotSample J.dmin J.subpix costs.length invalid) :
    failingClauses J invalid r c (modelMask J r c) (allNanOf J r c)
      (some (toDisp isMax J.dmin J.subpix invalid costs)) = [] := by
  rw [failingClauses_some]
  refine ⟨criteria_spec J invalid r c hd hr hc, ?_⟩
  have hdisp := toDisp_invalid_iff isMax J.dmin J.subpix invalid costs hinv
  rw [hdisp, hnan, invalidPre_eq_allNan J r c hd hr hc]; simp


theorem stepFlag_border_one (ops : Ops) (s : Step) (hs : s ≠ .filterIntervals true) :
    stepFlag ops true s leftNodataOrBorder = leftNodataOrBorder := by
  have hi : isInvalid 1 = true := by decide
  cases s with
  | refine st => simp [stepFlag, refinePix, leftNodataOrBorder, hi]
  | filter => rfl
  | filterIntervals reg => cases reg <;> simp_all [stepFlag]
  | crossCheck d => simp [stepFlag, borderPix]
  | interpMcCnn fo fm => simp [stepFlag, borderPix]
  | interpSgm near fm fo => simp [stepFlag, sgmPix, leftNodataOrBorder, occlusion, mismatch]

theorem not_or_of_imp {a b : Bool} (h : a = true → b = true) : (!a || b) = true := by
  cases a
  · rfl
  · exact h rfl

/-- the clause of the specification for one replacement: what it raises, it raises in exchange for bit `k` -/
theorem replacedBit_clause {t : Nat → Bool} {k m : Nat} {go : Bool} (hmk : m ≠ k) (j : Nat) :
    (!(replacedBit t k m go j && !t j) || (t k && !replacedBit t k m go k)) = true :=
  not_or_of_imp fun h => by rw [(replacedBit_exchange hmk h).1, (replacedBit_exchange hmk h).2]; rfl

theorem sgm_target_ne (near : Bool) (j : Nat) (hj : j ≠ 8) (hj' : j ≠ 5) : (if near = true then 8 else 5) ≠ j := by
  cases near
  · exact Ne.symm hj'
  · exact Ne.symm hj

theorem expectedBit_89 (s : Step) (f : Nat) (h89 : (f.testBit 8 && f.testBit 9) = false) :
    (expectedBit s f 8 && expectedBit s f 9) = false := by
  cases s <;> simp only [expectedBit]
  · simpa using h89
  · exact h89
  · simpa using h89
  · rename_i d
    cases hv : isInvalid f
    · have a : f.testBit 8 = false := FlagWord.testBit_of_not_isInvalid hv rfl
      have b : f.testBit 9 = false := FlagWord.testBit_of_not_isInvalid hv rfl
      cases d <;> simp [a, b]
    · simpa using h89
  · -- mc-cnn raises neither bit: both were set before
    refine Bool.eq_false_iff.2 fun h => ?_
    rw [Bool.and_eq_true, replacedBit_other (j := 8) (by decide) (by decide)] at h
    have h9 := replacedBit_of_ne (by decide) h.2
    rw [replacedBit_other (by decide) (by decide)] at h9
    rw [replacedBit_of_ne (by decide) h.1, h9] at h89
    cases h89
  · -- sgm raises bit 8 only in exchange for bit 9
    rename_i near fm fo
    refine Bool.eq_false_iff.2 fun h => ?_
    rw [Bool.and_eq_true, replacedBit_other (j := 9) (by decide) (by decide)] at h
    have h8 := replacedBit_of_ne (by decide) h.1
    have t9 := replacedBit_of_ne (sgm_target_ne near 9 (by decide) (by decide)) h.2
    cases t8 : f.testBit 8
    · have := (replacedBit_exchange (j := 8) (sgm_target_ne near 9 (by decide) (by decide)) (by rw [h8, t8]; rfl)).2
      rw [h.2] at this
      cases this
    · rw [t8, t9] at h89
      cases h89

/-- the own bits are raised in the documented relation to each other (8 xor 9; 4 replaces 8, 5 replaces 9) -/
theorem replacementOK_of_clear (ops : Ops) (hreg : ops.reg = .or) (s : Step) (f : Nat) (h : RaiseClear ops s f) :
    replacementOK s f (stepFlag ops false s f) = true := by
  have hbit : ∀ j, (stepFlag ops false s f).testBit j = expectedBit s f j := fun j => stepFlag_testBit ops hreg s f j h
  cases s <;> simp only [replacementOK, hbit]
  · rename_i d
    cases h89 : (f.testBit 8 && f.testBit 9)
    · rw [expectedBit_89 _ f h89]; rfl
    · exact Bool.or_true _
  · -- mc-cnn: the replacement 9 → 5 leaves bits 4 and 8 alone, the replacement 8 → 4 bits 5 and 9
    rename_i fo fm
    simp only [expectedBit]
    rw [replacedBit_other (j := 4) (by decide) (by decide), replacedBit_other (j := 8) (by decide) (by decide),
      ← replacedBit_other (t := f.testBit) (k := 8) (m := 4) (go := fo) (j := 5) (by decide) (by decide),
      ← replacedBit_other (t := f.testBit) (k := 8) (m := 4) (go := fo) (j := 9) (by decide) (by decide), Bool.and_eq_true]
    exact ⟨replacedBit_clause (by decide) 4, replacedBit_clause (by decide) 5⟩
  · -- sgm: first 9 → 8 or 5, then 8 → 4, which leaves bits 5 and 9 alone
    rename_i near fm fo
    simp only [expectedBit]
    have hne := sgm_target_ne near 9 (by decide) (by decide)
    rw [replacedBit_other (j := 5) (by decide) (by decide), replacedBit_other (j := 9) (by decide) (by decide),
      Bool.and_eq_true, Bool.and_eq_true]
    refine ⟨⟨not_or_of_imp fun h4 => ?_, replacedBit_clause hne 5⟩, not_or_of_imp fun h8 => ?_⟩
    · -- bit 4 is not raised by the first replacement, so by the second: in exchange for bit 8, which was set or raised for bit 9
      rcases raised_via _ (replacedBit f.testBit 9 (if near = true then 8 else 5) (near || fm) 4) _ h4 with h | h
      · obtain ⟨s8, c8⟩ := replacedBit_exchange (by decide) h
        rw [c8]
        cases t8 : f.testBit 8
        · have t9 := (replacedBit_exchange (t := f.testBit) (go := near || fm) (j := 8) hne (by rw [s8, t8]; rfl)).1
          rw [t9]; rfl
        · rfl
      · exact absurd (replacedBit_raised h) (sgm_target_ne near 4 (by decide) (by decide))
    · -- bit 8 set afterwards was set after the first replacement, which raised it in exchange for bit 9
      rw [Bool.and_eq_true] at h8
      have s8 := replacedBit_of_ne (by decide) h8.1
      obtain ⟨t9, c9⟩ := replacedBit_exchange (j := 8) hne (by rw [s8]; exact h8.2)
      rw [t9, c9]; rfl

/-- **Each step changes only its own bits** (`later_steps_own_bits`, `bits_independent`,
    `no_undocumented_bit`, `border_bit0_only` for one step): whenever the bit the step adds with `+=` is
    currently clear — or the site uses `|=` — the observed transition satisfies the specification; a border
    pixel (flag 1) keeps flag 1 unless the step is a regularising `median_for_intervals`. -/
theorem stepOK_of_clear (ops : Ops) (hreg : ops.reg = .or) (border : Bool) (s : Step) (f : Nat) (hlt : f < 4096)
    (h : RaiseClear ops s f) (hb : border = true → f = leftNodataOrBorder ∧ s ≠ .filterIntervals true) :
    stepOK border s f (stepFlag ops border s f) = true := by
  unfold stepOK
  cases border
  · simp only [Bool.false_eq_true, if_false, Bool.and_eq_true]
    refine ⟨⟨⟨?_, replacementOK_of_clear ops hreg s f h⟩, ?_⟩, ?_⟩
    · exact List.all_eq_true.mpr fun k _ => not_or_of_imp fun hq =>
        expected_raised_own s f k (stepFlag_testBit ops hreg s f k h ▸ hq)
    · exact List.all_eq_true.mpr fun k _ => not_or_of_imp fun hq =>
        expected_cleared_may s f k (stepFlag_testBit ops hreg s f k h ▸ hq)
    · unfold documentedOnly
      simpa using stepFlag_lt ops hreg false s f hlt
  · obtain ⟨hf, hs⟩ := hb rfl
    rw [hf, stepFlag_border_one ops s hs]
    simp

def isRefine : Step → Bool
  | .refine _ => true
  | _ => false

def isFill : Step → Bool
  | .interpMcCnn _ _ => true
  | .interpSgm _ _ _ => true
  | _ => false

/-- a pipeline that runs at most one refinement and at most one interpolation (any number of filters and
    of cross-checkings) -/
def NoRepeat (steps : List Step) : Bool :=
  decide (steps.countP isRefine ≤ 1) && decide (steps.countP isFill ≤ 1)

/-- what the criteria mask guarantees to the later steps -/
def FlagInit (f : Nat) : Prop := f < 256 ∧ f.testBit 3 = false ∧ f.testBit 4 = false ∧ f.testBit 5 = false

/-- no regularising `median_for_intervals` step is applied to a border pixel -/
def BorderSafe (border : Bool) (steps : List Step) : Bool :=
  !border || steps.all fun s => s != .filterIntervals true

/-- what `+=` needs of the flag word: bit 3 is clear while a refinement is still to come, bits 4 and 5 while an
    interpolation is still to come, bits 8 and 9 are never both set, and at most one refinement and one interpolation
    are left -/
def FlagBits (steps : List Step) (f : Nat) : Prop :=
  (f.testBit 8 && f.testBit 9) = false
  ∧ (1 ≤ steps.countP isRefine → f.testBit 3 = false)
  ∧ (1 ≤ steps.countP isFill → f.testBit 4 = false ∧ f.testBit 5 = false)
  ∧ steps.countP isRefine ≤ 1 ∧ steps.countP isFill ≤ 1

structure FlagInv (ops : Ops) (border : Bool) (steps : List Step) (f : Nat) : Prop where
  lt : f < 4096
  onBorder : border = true → f = leftNodataOrBorder ∧ BorderSafe border steps = true
  bits : (ops.refine = .or ∧ ops.fill = .or) ∨ FlagBits steps f

theorem flagInv_of_init (ops : Ops) (border : Bool) (steps : List Step) (f : Nat) (h : FlagInit f)
    (hn : NoRepeat steps = true) (hb : border = true → f = leftNodataOrBorder ∧ BorderSafe border steps = true) :
    FlagInv ops border steps f := by
  obtain ⟨h1, h3, h4, h5⟩ := h
  unfold NoRepeat at hn
  simp only [Bool.and_eq_true, decide_eq_true_eq] at hn
  have h8 : f.testBit 8 = false := Nat.testBit_lt_two_pow (by omega)
  exact ⟨by omega, hb, Or.inr ⟨by simp [h8], fun _ => h3, fun _ => ⟨h4, h5⟩, hn.1, hn.2⟩⟩

theorem raiseClear_of_inv (ops : Ops) (border : Bool) (s : Step) (ss : List Step) (f : Nat)
    (h : FlagInv ops border (s :: ss) f) : RaiseClear ops s f := by
  rcases h.bits with hor | ⟨h89, h3, h45, _, _⟩
  · -- the sites use `|=`
    cases s with
    | refine _ => exact Or.inl hor.1
    | interpMcCnn _ _ => exact Or.inl hor.2
    | interpSgm _ _ _ => exact Or.inl hor.2
    | _ => trivial
  · cases s <;> simp only [RaiseClear]
    · exact Or.inr (h3 (by simp [isRefine]))
    · have := h45 (by simp [isFill]); exact Or.inr this
    · have := h45 (by simp [isFill]); exact Or.inr ⟨this.1, this.2, h89⟩

theorem borderSafe_cons (border : Bool) (s : Step) (ss : List Step) (h : BorderSafe border (s :: ss) = true)
    (hb : border = true) : s ≠ .filterIntervals true ∧ BorderSafe border ss = true := by
  unfold BorderSafe at h ⊢
  subst hb
  simp only [Bool.not_true, Bool.false_or, List.all_cons, Bool.and_eq_true, bne_iff_ne, ne_eq] at h ⊢
  exact ⟨h.1, by simpa using h.2⟩

theorem expectedBit_3 (s : Step) (f : Nat) (h : isRefine s = false) : expectedBit s f 3 = f.testBit 3 := by
  cases s <;> simp [isRefine] at h <;> simp [expectedBit, replacedBit]
  rename_i near _ _
  cases near <;> simp

theorem expectedBit_45 (s : Step) (f : Nat) (h : isFill s = false) :
    expectedBit s f 4 = f.testBit 4 ∧ expectedBit s f 5 = f.testBit 5 := by
  cases s <;> simp [isFill] at h <;> simp [expectedBit]

theorem flagBits_step (ops : Ops) (hreg : ops.reg = .or) (border : Bool) (s : Step) (ss : List Step) (f : Nat)
    (h : FlagInv ops border (s :: ss) f) (hbits : FlagBits (s :: ss) f) : FlagBits ss (stepFlag ops border s f) := by
  have hc := raiseClear_of_inv ops border s ss f h
  obtain ⟨h89, h3, h45, cR, cF⟩ := hbits
  simp only [List.countP_cons] at h3 h45 cR cF
  cases border
  · have hbit : ∀ j, (stepFlag ops false s f).testBit j = expectedBit s f j := fun j =>
      stepFlag_testBit ops hreg s f j hc
    refine ⟨by rw [hbit, hbit]; exact expectedBit_89 s f h89, fun hcnt => ?_, fun hcnt => ?_, by omega, by omega⟩
    · cases hs : isRefine s <;> simp only [hs, Bool.false_eq_true, if_true, if_false] at cR h3
      · rw [hbit, expectedBit_3 s f hs]; exact h3 (by omega)
      · omega
    · cases hs : isFill s <;> simp only [hs, Bool.false_eq_true, if_true, if_false] at cF h45
      · rw [hbit, hbit, (expectedBit_45 s f hs).1, (expectedBit_45 s f hs).2]; exact h45 (by omega)
      · omega
  · obtain ⟨hf, hsafe⟩ := h.onBorder rfl
    rw [hf, stepFlag_border_one ops s (borderSafe_cons true s ss hsafe rfl).1]
    exact ⟨by decide, fun _ => by decide, fun _ => by decide, by omega, by omega⟩

theorem flagInv_step (ops : Ops) (hreg : ops.reg = .or) (border : Bool) (s : Step) (ss : List Step) (f : Nat)
    (h : FlagInv ops border (s :: ss) f) : FlagInv ops border ss (stepFlag ops border s f) := by
  refine ⟨stepFlag_lt ops hreg border s f h.lt, fun hb => ?_, h.bits.imp id (flagBits_step ops hreg border s ss f h)⟩
  obtain ⟨hf, hsafe⟩ := h.onBorder hb
  obtain ⟨hs, hsafe'⟩ := borderSafe_cons border s ss hsafe hb
  subst hb
  rw [hf, stepFlag_border_one ops s hs]
  exact ⟨rfl, hsafe'⟩

theorem runOK_of_inv (ops : Ops) (hreg : ops.reg = .or) (border : Bool) (steps : List Step) (f : Nat)
    (h : FlagInv ops border steps f) : runOK ops border steps f = true := by
  induction steps generalizing f with
  | nil => rfl
  | cons s ss ih =>
    unfold runOK
    rw [Bool.and_eq_true]
    refine ⟨stepOK_of_clear ops hreg border s f h.lt (raiseClear_of_inv ops border s ss f h) fun hb => ?_,
      ih _ (flagInv_step ops hreg border s ss f h)⟩
    obtain ⟨hf, hsafe⟩ := h.onBorder hb
    exact ⟨hf, (borderSafe_cons border s ss hsafe hb).1⟩

/-- **Pipelines without a repeated refinement or interpolation**: with the `+=` of the source,
    from any flag the criteria can produce, every step of the run changes only its own bits, and a border pixel
    keeps exactly bit 0 as long as no regularising `median_for_intervals` touches it.
    (Full-strength statement — for *every* pipeline — is `run_ok_of_or` below; it needs `|=`.
    It is false for `+=`: `repeated_refinement_counterexample`, `repeated_interpolation_counterexample`;
    and false on the border after a regularisation: `border_regularized_counterexample`.) -/
theorem run_ok_partial (ops : Ops) (hreg : ops.reg = .or) (border : Bool) (steps : List Step) (f : Nat)
    (hinit : FlagInit f) (hn : NoRepeat steps = true)
    (hb : border = true → f = leftNodataOrBorder ∧ BorderSafe border steps = true) :
    runOK ops border steps f = true :=
  runOK_of_inv ops hreg border steps f (flagInv_of_init ops border steps f hinit hn hb)

/-- **Every pipeline, when the sites raise their bits with `|=`** (`later_steps_own_bits`, `bits_independent`,
    `no_undocumented_bit` at full strength — the statement the proposed fix establishes). -/
theorem run_ok_of_or (ops : Ops) (h : ops.refine = .or ∧ ops.fill = .or ∧ ops.reg = .or) (border : Bool)
    (steps : List Step) (f : Nat) (hlt : f < 4096)
    (hb : border = true → f = leftNodataOrBorder ∧ BorderSafe border steps = true) :
    runOK ops border steps f = true :=
  runOK_of_inv ops h.2.2 border steps f ⟨hlt, hb, Or.inl ⟨h.1, h.2.1⟩⟩

/-- **Border pixels after a regularising `median_for_intervals`**: the step raises bit 11 on a border pixel it
    lists in `mask_regularization` — "image-border pixels carry bit 0 only" is then false until the next
    `mask_border` (cross-checking, mc-cnn interpolation). -/
theorem border_regularized_counterexample (ops : Ops) (h : ops.reg = .or) :
    stepFlag ops true (.filterIntervals true) leftNodataOrBorder = 2049
    ∧ stepOK true (.filterIntervals true) leftNodataOrBorder (stepFlag ops true (.filterIntervals true) leftNodataOrBorder) = false
    ∧ stepFlag ops true (.crossCheck .consistent) 2049 = leftNodataOrBorder := by
  obtain ⟨r, c, fl, g⟩ := ops
  simp only at h
  subst h
  cases r <;> cases c <;> cases fl <;> decide

/-- **The full-strength statement is false for `+=`**: a second refinement that stops again on the same pixel
    turns "stopped interpolation" (8) into "filled occlusion" (16) — bit 3 cleared, bit 4 raised; such a run is
    excluded by `NoRepeat`. -/
theorem repeated_refinement_counterexample (ops : Ops) (h : ops.refine = .add) :
    runFlags ops false [.refine true, .refine true] 0 = 16
    ∧ runOK ops false [.refine true, .refine true] 0 = false
    ∧ NoRepeat [.refine true, .refine true] = false := by
  obtain ⟨r, c, fl, g⟩ := ops
  simp only at h
  subst h
  cases c <;> cases fl <;> cases g <;> decide

/-- ... and a second validation with interpolation on a pixel found occluded again turns "filled occlusion"
    (16) into "filled mismatch" (32). -/
theorem repeated_interpolation_counterexample (ops : Ops) (h : ops.cc = .add ∧ ops.fill = .add) :
    runFlags ops false [.crossCheck .occlusion, .interpMcCnn true true, .crossCheck .occlusion, .interpMcCnn true true] 0 = 32
    ∧ runOK ops false [.crossCheck .occlusion, .interpMcCnn true true, .crossCheck .occlusion, .interpMcCnn true true] 0 = false := by
  obtain ⟨r, c, fl, g⟩ := ops
  simp only at h
  obtain ⟨h1, h2⟩ := h
  subst h1 h2
  cases r <;> cases g <;> decide


open Pandora.Generated.FlagOps in
/-- the functions whose bit-raising operator (`+=` or `|=`) is a parameter of the model -/
def laterStepFuncs : List String :=
  ["loop_refinement", "loop_approximate_refinement", "disparity_checking", "interpolate_occlusion_mc_cnn",
   "interpolate_mismatch_mc_cnn", "interpolate_occlusion_sgm", "interpolate_mismatch_sgm"]

/-- `+=` and `|=` of the later steps are both written "raise" (which one it is, is read by `sourceOps`) -/
def normSite (x : String × String × String) : String × String × String :=
  if laterStepFuncs.contains x.1 && (x.2.1 == "add" || x.2.1 == "or") then (x.1, "raise", x.2.2) else x

/-- what the model assumes of the source: every statement that updates a validity mask, in order -/
def documentedSites : List (String × String × String) := [
  ("validity_mask", "add", "cst.PANDORA_MSK_PIXEL_RIGHT_INCOMPLETE_DISPARITY_RANGE"),
  ("validity_mask", "add", "cst.PANDORA_MSK_PIXEL_RIGHT_INCOMPLETE_DISPARITY_RANGE"),
  ("validity_mask", "add", "cst.PANDORA_MSK_PIXEL_RIGHT_INCOMPLETE_DISPARITY_RANGE"),
  ("validity_mask", "add", "cst.PANDORA_MSK_PIXEL_RIGHT_NODATA_OR_DISPARITY_RANGE_MISSING"),
  ("allocate_left_mask", "add", "dil.astype(np.uint16) * cst.PANDORA_MSK_PIXEL_LEFT_NODATA_OR_BORDER"),
  ("allocate_left_mask", "add", "xr.where((r_mask != img_left.attrs['no_data_mask']) & (r_mask != img_left.attrs['valid_pixels']), cst.PANDORA_MSK_PIXEL_IN_VALIDITY_MASK_LEFT, 0).astype(np.uint16)"),
  ("allocate_right_mask", "add", "cst.PANDORA_MSK_PIXEL_IN_VALIDITY_MASK_RIGHT"),
  ("allocate_right_mask", "add", "cst.PANDORA_MSK_PIXEL_RIGHT_NODATA_OR_DISPARITY_RANGE_MISSING"),
  ("loop_refinement", "raise", "valid"),
  ("loop_refinement", "raise", "cst.PANDORA_MSK_PIXEL_STOPPED_INTERPOLATION"),
  ("loop_approximate_refinement", "raise", "valid"),
  ("loop_approximate_refinement", "raise", "cst.PANDORA_MSK_PIXEL_STOPPED_INTERPOLATION"),
  ("disparity_checking", "raise", "cst.PANDORA_MSK_PIXEL_OCCLUSION"),
  ("disparity_checking", "raise", "(cst.PANDORA_MSK_PIXEL_MISMATCH * comp).astype(np.uint16)"),
  ("disparity_checking", "sub", "(cst.PANDORA_MSK_PIXEL_OCCLUSION * comp).astype(np.uint16)"),
  ("interpolate_occlusion_mc_cnn", "sub", "cst.PANDORA_MSK_PIXEL_OCCLUSION * msk[arg_valid]"),
  ("interpolate_occlusion_mc_cnn", "raise", "cst.PANDORA_MSK_PIXEL_FILLED_OCCLUSION * msk[arg_valid]"),
  ("interpolate_occlusion_mc_cnn", "sub", "cst.PANDORA_MSK_PIXEL_OCCLUSION * msk[arg_valid]"),
  ("interpolate_occlusion_mc_cnn", "raise", "cst.PANDORA_MSK_PIXEL_FILLED_OCCLUSION * msk[arg_valid]"),
  ("interpolate_mismatch_mc_cnn", "sub", "cst.PANDORA_MSK_PIXEL_MISMATCH"),
  ("interpolate_mismatch_mc_cnn", "raise", "cst.PANDORA_MSK_PIXEL_FILLED_MISMATCH"),
  ("interpolate_occlusion_sgm", "sub", "cst.PANDORA_MSK_PIXEL_OCCLUSION"),
  ("interpolate_occlusion_sgm", "raise", "cst.PANDORA_MSK_PIXEL_FILLED_OCCLUSION"),
  ("interpolate_mismatch_sgm", "sub", "cst.PANDORA_MSK_PIXEL_MISMATCH"),
  ("interpolate_mismatch_sgm", "raise", "cst.PANDORA_MSK_PIXEL_OCCLUSION"),
  ("interpolate_mismatch_sgm", "sub", "cst.PANDORA_MSK_PIXEL_MISMATCH"),
  ("interpolate_mismatch_sgm", "raise", "cst.PANDORA_MSK_PIXEL_FILLED_MISMATCH"),
  ("filter_disparity", "or", "PANDORA_MSK_PIXEL_INTERVAL_REGULARIZED")
]

/-- The statements that update a validity mask in the source are the ones the model follows: same functions,
    same order, same constants; `+=` in criteria.py, `|=` in median_for_intervals.py. -/
theorem sites_documented : Generated.FlagOps.sites.map normSite = documentedSites := by rfl

/-- the refinement methods return 0 or `PANDORA_MSK_PIXEL_STOPPED_INTERPOLATION` as the value added to the mask -/
theorem refinement_returns_documented :
    Generated.FlagOps.refinementReturns.all (fun x => x.2 == "0" || x.2 == "cst.PANDORA_MSK_PIXEL_STOPPED_INTERPOLATION") = true := by
  decide

/-- the constants of pandora/constants.py are the documented bits the model uses -/
theorem constants_documented :
    Generated.Constants.PANDORA_MSK_PIXEL_LEFT_NODATA_OR_BORDER = leftNodataOrBorder
    ∧ Generated.Constants.PANDORA_MSK_PIXEL_RIGHT_NODATA_OR_DISPARITY_RANGE_MISSING = rightNodataOrRangeMissing
    ∧ Generated.Constants.PANDORA_MSK_PIXEL_RIGHT_INCOMPLETE_DISPARITY_RANGE = rightIncompleteRange
    ∧ Generated.Constants.PANDORA_MSK_PIXEL_STOPPED_INTERPOLATION = stoppedInterpolation
    ∧ Generated.Constants.PANDORA_MSK_PIXEL_FILLED_OCCLUSION = filledOcclusion
    ∧ Generated.Constants.PANDORA_MSK_PIXEL_FILLED_MISMATCH = filledMismatch
    ∧ Generated.Constants.PANDORA_MSK_PIXEL_IN_VALIDITY_MASK_LEFT = inValidityMaskLeft
    ∧ Generated.Constants.PANDORA_MSK_PIXEL_IN_VALIDITY_MASK_RIGHT = inValidityMaskRight
    ∧ Generated.Constants.PANDORA_MSK_PIXEL_OCCLUSION = occlusion
    ∧ Generated.Constants.PANDORA_MSK_PIXEL_MISMATCH = mismatch
    ∧ Generated.Constants.PANDORA_MSK_PIXEL_INTERVAL_REGULARIZED = intervalRegularized
    ∧ Generated.Constants.PANDORA_MSK_PIXEL_INVALID = pixelInvalid := by
  obtain ⟨h1, h2, h3, h4, h5, h6, h7, h8, h9, h10, -, h12, h13⟩ := FlagsProps.constants_documented
  exact ⟨h1, h2, h3, h4, h5, h6, h7, h8, h9, h10, h12, h13⟩

def groupOp (funcs : List String) : AddOp :=
  let ops := (Generated.FlagOps.sites.filter fun x => funcs.contains x.1 && x.2.1 != "sub").map (·.2.1)
  if !ops.isEmpty && ops.all (· == "or") then .or else .add

/-- the operators the source uses -/
def sourceOps : Ops :=
  { refine := groupOp ["loop_refinement", "loop_approximate_refinement"],
    cc := groupOp ["disparity_checking"],
    fill := groupOp ["interpolate_occlusion_mc_cnn", "interpolate_mismatch_mc_cnn", "interpolate_occlusion_sgm", "interpolate_mismatch_sgm"],
    reg := groupOp ["filter_disparity"] }

theorem source_reg_or : sourceOps.reg = .or := by decide

theorem flagInit_modelMask (J : CvInput) (r c : Nat) (hd : J.dmin ≤ J.dmax) (hr : r < J.rows) (hc : c < J.cols) :
    FlagInit (modelMask J r c) := by
  cases hb : isBorder J.toInput r c
  · obtain ⟨_, _, _, _, _, _, klt, k3, k4, k5⟩ := criteria_interior J r c hd (interior_of_not_border _ r c hr hc hb)
    exact ⟨klt, (hasBit_two_pow _ 3).symm.trans k3, (hasBit_two_pow _ 4).symm.trans k4,
      (hasBit_two_pow _ 5).symm.trans k5⟩
  · rw [(criteria_border J r c hb).1]
    exact ⟨by decide, by decide, by decide, by decide⟩

/-- **C04 for the code as it is** — for every image pair, mask layout, interval, window, sub-pixel factor,
    every in-image pixel, and every sequence of later steps with arbitrary decisions:
    (1) the mask built with the cost volume satisfies every "before validation" clause (`criteria_spec`);
    (2) no undocumented bit ever appears, whatever is repeated;
    (3) when no refinement and no interpolation is repeated (and no regularisation touches a border pixel),
        each step changes only its own bits and border pixels keep exactly bit 0;
    (4) were every site to use `|=`, (3) would hold for every pipeline. -/
theorem source_story (J : CvInput) (invalid : Val) (r c : Nat) (hd : J.dmin ≤ J.dmax) (hr : r < J.rows) (hc : c < J.cols)
    (steps : List Step) (hsafe : BorderSafe (isBorder J.toInput r c) steps = true) :
    failingClauses J invalid r c (modelMask J r c) (allNanOf J r c) none = []
    ∧ runFlags sourceOps (isBorder J.toInput r c) steps (modelMask J r c) < 4096
    ∧ (NoRepeat steps = true → runOK sourceOps (isBorder J.toInput r c) steps (modelMask J r c) = true)
    ∧ ((sourceOps.refine = .or ∧ sourceOps.fill = .or) →
        runOK sourceOps (isBorder J.toInput r c) steps (modelMask J r c) = true) := by
  have hinit := flagInit_modelMask J r c hd hr hc
  have hlt : modelMask J r c < 4096 := by have := hinit.1; omega
  have hb : isBorder J.toInput r c = true →
      modelMask J r c = leftNodataOrBorder ∧ BorderSafe (isBorder J.toInput r c) steps = true :=
    fun hbt => ⟨(criteria_border J r c hbt).1, hsafe⟩
  exact ⟨criteria_spec J invalid r c hd hr hc,
    run_lt_4096 sourceOps source_reg_or _ steps _ hlt,
    fun hn => run_ok_partial sourceOps source_reg_or _ steps _ hinit hn hb,
    fun h => run_ok_of_or sourceOps ⟨h.1, h.2, source_reg_or⟩ _ steps _ hlt hb⟩

/-- ... and, as long as the source raises bit 3 with `+=`, the repeated refinement really breaks the
    independence of the bits (this theorem stays true, vacuously, once the source is fixed). -/
theorem source_repeated_refinement :
    sourceOps.refine = .add →
      runFlags sourceOps false [.refine true, .refine true] 0 = 16
      ∧ runOK sourceOps false [.refine true, .refine true] 0 = false :=
  fun h => ⟨(repeated_refinement_counterexample sourceOps h).1, (repeated_refinement_counterexample sourceOps h).2.1⟩

def exJ : CvInput :=
  { rows := 3, cols := 7, off := 1, col0 := 0, dmin := -2, dmax := 1, hasL := true,
    mL := fun r c => if r = 0 ∧ c = 5 then Cls.nodata else Cls.valid,
    hasR := true, mR := fun _ c => if c ≤ 2 then Cls.invalid else Cls.valid,
    subpix := 2, pixMin := fun _ _ => -2, pixMax := fun _ _ => 1 }

example : exJ.dmin ≤ exJ.dmax := by decide
example : (List.range 7).map (modelMask exJ 1) = [1, 134, 4, 0, 3, 7, 1] := by decide
example : failingClauses exJ (Val.num (-9999)) 1 1 (modelMask exJ 1 1) (allNanOf exJ 1 1) none = [] := by decide
example : failingClauses exJ (Val.num (-9999)) 1 1 4 (allNanOf exJ 1 1) none
    = ["invalid_iff_all_nan", "bit1_cause", "bit7_cause"] := by decide
example : InvalidNotSample exJ.dmin exJ.subpix (nDisp exJ) (Val.num (-9999)) :=
  invalidNotSample_of_outside exJ _ (by decide) (by decide) (Or.inr ⟨-9999, rfl, Or.inl (by decide)⟩)
example : NoRepeat [.refine true, .filter, .crossCheck .mismatch, .interpSgm false true true, .crossCheck .consistent] = true := by decide
example : runFlags Ops.current false [.refine true, .filter, .crossCheck .mismatch, .interpSgm false true true] 4 = 44 := by decide
example : sourceOps = Ops.current ∨ sourceOps.refine = .or ∨ sourceOps.fill = .or ∨ sourceOps.cc = .or := by decide

end Pandora.C04
