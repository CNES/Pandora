/-
  C07 — the body of `for row in range(0, nb_row)` of `CrossCheckingAccurate.disparity_checking`, REGENERATED from the
  Python source (`Generated/KernelsCrossCheck.lean: crossCheckRow`, written by translator/gen_kernels_crosscheck.py with
  the index extension of the vector sub-language, translator/pyvec_idx.py), is equal to the hand model
  `CrossCheck.ccRow .ruleFix` — for every row length up to 2^63, every disparity (NaN included), every uint16 flag word, every
  threshold and every disparity range — and never meets a numpy shape / bounds error (`Res.ok`).
-/
import PandoraModel.Lemmas.PyVecMap
import PandoraModel.Lemmas.PyExprRules
import PandoraModel.Generated.KernelsCrossCheck
import PandoraModel.Properties.C07HalfEven


namespace Pandora.C07Kernels
open Pandora.CrossCheck Pandora.PyLoops Pandora.PyVec Pandora.PyVecIdx

/-- `(L.map f)[np.where(L.map p)]` is `f` on the filtered list -/
theorem gather_where {β α : Type} [Inhabited β] (d : α) (L : List β) (f : β → α) (p : β → Bool) :
    gather d (L.map f) (whereIdx (L.map p)) = (L.filter p).map f := by
  conv_rhs => rw [← map_getD_range' L default, List.filter_map, List.map_map]
  simp only [gather, whereIdx, List.map_map, List.length_map]
  rw [List.filter_congr (q := (p ∘ fun i => L.getD i default))]
  · apply List.map_congr_left
    intro i hi
    have hi' : i < L.length := by simpa using (List.mem_filter.mp hi).1
    simp [getAt_natCast, List.getD_eq_getElem?_getD, hi']
  · intro i hi
    have hi' : i < L.length := by simpa using hi
    simp [List.getD_eq_getElem?_getD, hi']

/-- `v[cols] = h(cols)` on a tabulated row -/
theorem scatterSet_range {α : Type} [Inhabited α] (n : Nat) (g : Nat → α) (IC : List Nat) (h : Nat → α) :
    scatterSet ((List.range n).map g) (IC.map (fun (c : Nat) => (c : Int))) (IC.map h)
      = (List.range n).map (fun c => if c ∈ IC then h c else g c) := by
  have hv : IC.map h = (IC.map (fun (c : Nat) => (c : Int))).map (fun i => h i.toNat) := by
    simp [List.map_map]
  rw [hv]
  apply ext_getD default
  · simp [length_scatterSet]
  · intro c hc
    have hc' : c < n := by simpa [length_scatterSet] using hc
    rw [getD_scatterSet_map]
    have hm : ((c : Int) ∈ IC.map (fun (c : Nat) => (c : Int))) ↔ c ∈ IC := by
      simp
    simp [hm, hc', List.getD_eq_getElem?_getD]

/-- `(L.map a)[np.where(L.map p)] = g(L.filter p)` -/
theorem scatterSet_where {β α : Type} [Inhabited β] [Inhabited α] (L : List β) (a g : β → α) (p : β → Bool) :
    scatterSet (L.map a) (whereIdx (L.map p)) ((L.filter p).map g)
      = L.map (fun x => if p x then g x else a x) := by
  have hv : (L.filter p).map g = (whereIdx (L.map p)).map (fun i => g (L.getD i.toNat default)) := by
    rw [← gather_where default L g p]
    simp only [gather]
    apply List.map_congr_left
    intro i hi
    simp only [whereIdx, List.mem_map, List.mem_filter, List.mem_range, List.length_map] at hi
    obtain ⟨k, ⟨hk, _⟩, rfl⟩ := hi
    simp [getAt_natCast, List.getD_eq_getElem?_getD, hk]
  rw [hv]
  apply ext_getD default
  · simp [length_scatterSet]
  · intro c hc
    have hc' : c < L.length := by simpa [length_scatterSet] using hc
    rw [getD_scatterSet_map]
    simp only [mem_whereIdx]
    simp [List.getD_eq_getElem?_getD, hc']

theorem arange_len {α : Type} (v : List α) : PyVec.arange (len v) = (List.range v.length).map (fun (i : Nat) => (i : Int)) := by
  simp [PyVec.arange, len]

def embedRow (l : List Val) : List Fl := l.map Fl.ofVal

def confFl : Conf → Fl
  | .nan => .nan
  | .fin q => .fin q
  | .inf => .pinf

def extFl : Ext → Fl
  | .fin q => .fin q
  | .inf => .pinf

theorem confFl_toConf (e : Ext) : confFl e.toConf = extFl e := by cases e <;> rfl

theorem nan_to_inf (v : Val) : (if (Fl.ofVal v).isNan = true then Fl.pinf else Fl.ofVal v) = extFl (nanToInf v) := by
  cases v <;> simp [Fl.ofVal, Fl.isNan, nanToInf, extFl]

theorem abs_add_ext (a b : Ext) : Fl.abs (Fl.add (extFl a) (extFl b)) = extFl (absSum a b) := by
  cases a <;> cases b <;> simp [extFl, Fl.add, Fl.abs, absSum, PyExpr.rabs, ratAbs]

theorem lt_ext (t : ℚ) (e : Ext) : Fl.lt (.fin t) (extFl e) = e.gt t := by
  cases e <;> simp [extFl, Fl.lt, Ext.gt]

theorem valid_eq (x : Nat) : neq (Nat.land x 963) 0 = !Flags.isInvalid x := by
  have : Nat.land x 963 = x &&& 963 := rfl
  simp only [neq, Flags.isInvalid, Flags.pixelInvalid, this]
  by_cases h : x &&& 963 = 0 <;> simp [h]

theorem truncQ_intCast (z : Int) : truncQ (z : ℚ) = z := (PyExpr.truncQ_eq _).trans (PyExpr.rtrunc_intCast z)

theorem getD_embedRow (l : List Val) (c : Nat) : (embedRow l).getD c Fl.nan = Fl.ofVal (l.getD c .nan) :=
  getD_map_ofVal l c

theorem getAt_embedRow (l : List Val) (i : Int) : getAt Fl.nan (embedRow l) i = Fl.ofVal (l.getD i.toNat .nan) :=
  getAt_map_ofVal l i

theorem len_embedRow (l : List Val) : len (embedRow l) = (l.length : Int) := by simp [len, embedRow]

theorem castInt_rint (v : Val) :
    castInt (PyVecIdx.rint (Fl.ofVal v)) = match v with | .nan => intMin | .num q => CrossCheck.rint q := by
  cases v with
  | nan => rfl
  | num q => simp only [Fl.ofVal, PyVecIdx.rint, castInt, truncQ_intCast]; rfl

theorem inside_eq (n c : Nat) (v : Val) (hc : c < n) (hn : n ≤ 2 ^ 63) :
    (ile 0 (Int.add (c : Int) (castInt (PyVecIdx.rint (Fl.ofVal v))))
      && ilt (Int.add (c : Int) (castInt (PyVecIdx.rint (Fl.ofVal v)))) (n : Int)) = insideRight n (colRight c v) := by
  rw [castInt_rint]
  cases v with
  | nan =>
    have h : ¬ (0 : Int) ≤ Int.add (c : Int) intMin := by
      show ¬ (0 : Int) ≤ (c : Int) + (-9223372036854775808); omega
    simp only [colRight, insideRight, ile, h, decide_false, Bool.false_and]
  | num q => simp only [colRight, insideRight, ile, ilt]; rfl

theorem outside_aux (n : Nat) (x : Int) : (ilt x 0 || ile (n : Int) x) = !(ile 0 x && ilt x (n : Int)) := by
  simp only [ile, ilt]
  rw [Bool.eq_iff_iff]
  simp

theorem outside_eq (n c : Nat) (v : Val) (hc : c < n) (hn : n ≤ 2 ^ 63) :
    (ilt (Int.add (c : Int) (castInt (PyVecIdx.rint (Fl.ofVal v)))) 0
      || ile (n : Int) (Int.add (c : Int) (castInt (PyVecIdx.rint (Fl.ofVal v))))) = !insideRight n (colRight c v) := by
  rw [outside_aux, inside_eq n c v hc hn]

open Pandora.Generated.KernelsCrossCheck

def agreesOn (P : Params) (dL dR : List Val) (mask : List Nat) : Bool :=
  decide (crossCheckRow mask (embedRow dL) (embedRow dR) (.fin P.threshold) (arange P.dmin P.dmax)
    = .ok ((ccRow .ruleFix P dL dR mask).map (·.flag), (ccRow .ruleFix P dL dR mask).map (fun o => confFl o.conf)))

/-- rows chosen to separate the behaviours the statement depends on: distance equal to the threshold (kept), just above
    it, NaN on either side (distance inf), exact halves at both rounding sites (half to even), a correspondent left / right
    of the image classified by the same search, witnesses at both ends of the interval, two witnesses (clipped to one),
    already invalid pixels, information bits kept -/
def table : List (Params × List Val × List Val × List Nat) := [
  (⟨1, -1, 1, 0⟩, [.num 0, .num 1, .num (-1), .num 0, .nan], [.num 0, .num 3, .num (-1), .nan, .num (-1)], [0, 0, 0, 1, 0]),
  (⟨0, -1, 1, 0⟩, [.num (-1), .num (-1), .num (-1)], [.num (-1), .num (1/2), .num (-1)], [0, 0, 0]),
  (⟨1/2, -2, 0, 0⟩, [.num (1/2), .num (3/2), .num 5, .num 0], [.nan, .num (-1), .num (-2), .num 0], [4, 8, 0, 64]),
  (⟨1, -2, 2, 0⟩, [.num 1, .num (-1), .num (5/2), .num (-3)], [.num (-2), .num 0, .num 2, .num (-2)], [0, 2048, 0, 0]),
  (⟨0, 0, 1, 0⟩, [.num (1/2), .num (-1/2), .num (3/2)], [.num 0, .num (-1), .num 1], [0, 0, 16]),
  (⟨2, -1, 0, 0⟩, [.num (-1), .num 3], [.num 1, .num 1], [0, 32])]

theorem generated_eq_on_table : (table.all fun t => agreesOn t.1 t.2.1 t.2.2.1 t.2.2.2) = true := by decide +kernel

def validC (m : Nat → Nat) (c : Nat) : Bool := !Flags.isInvalid (m c)
def qOf (dL : List Val) (c : Nat) : Option Int := colRight c (dL.getD c .nan)
def inB (dL : List Val) (c : Nat) : Bool := insideRight dL.length (qOf dL c)
def distE (dL dR : List Val) (c : Nat) : Ext :=
  match qOf dL c with
  | some q => absSum (nanToInf (dR.getD q.toNat .nan)) (nanToInf (dL.getD c .nan))
  | none => .inf
/-- the columns the cross-checking invalidates, in the order of `invalid_col` -/
def ICcols (thr : ℚ) (m : Nat → Nat) (dL dR : List Val) : List Nat :=
  (List.range dL.length).filter (fun c => validC m c && inB dL c && (distE dL dR c).gt thr)
    ++ (List.range dL.length).filter (fun c => validC m c && !inB dL c)
def confModel (m : Nat → Nat) (dL dR : List Val) (c : Nat) : Fl :=
  if validC m c && inB dL c then extFl (distE dL dR c) else .nan

theorem dist_eq (dL dR : List Val) (c : Nat) (hin : inB dL c = true) :
    ((if (getAt Fl.nan (embedRow dR) (Int.add (c : Int) (castInt (PyVecIdx.rint (Fl.ofVal (dL.getD c Val.nan)))))).isNan = true
        then Fl.pinf
        else getAt Fl.nan (embedRow dR) (Int.add (c : Int) (castInt (PyVecIdx.rint (Fl.ofVal (dL.getD c Val.nan))))))
      = extFl (nanToInf (dR.getD (match qOf dL c with | some q => q | none => 0).toNat .nan))) := by
  unfold inB qOf at *
  rw [castInt_rint]
  cases h : dL.getD c Val.nan with
  | nan => rw [h] at hin; simp [colRight, insideRight] at hin
  | num r =>
    simp only [colRight, getAt_embedRow]
    exact nan_to_inf _

theorem int_add_eq (a b : Int) : Int.add a b = a + b := rfl

theorem int_mul_eq (a b : Int) : Int.mul a b = a * b := rfl

/-- the four bounds tests of the generated code on the correspondent `x` of a column of the row, and the hand model's inside
    test: `x` is left of the image, in it, or right of it -/
theorem col_tests (dL : List Val) (c : Nat) (x : Int)
    (hx : x = Int.add (c : Int) (castInt (PyVecIdx.rint (Fl.ofVal (dL.getD c .nan)))))
    (hc : c < dL.length) (hn : dL.length ≤ 2 ^ 63) :
    (ile 0 x = false ∧ ilt x dL.length = true ∧ ilt x 0 = true ∧ ile dL.length x = false ∧ inB dL c = false)
    ∨ (ile 0 x = true ∧ ilt x dL.length = true ∧ ilt x 0 = false ∧ ile dL.length x = false ∧ inB dL c = true)
    ∨ (ile 0 x = true ∧ ilt x dL.length = false ∧ ilt x 0 = false ∧ ile dL.length x = true ∧ inB dL c = false) := by
  have hin : inB dL c = (ile 0 x && ilt x dL.length) := hx ▸ (inside_eq dL.length c _ hc hn).symm
  rw [hin]
  simp only [ile, ilt, Bool.and_eq_true, Bool.and_eq_false_iff, decide_eq_true_eq, decide_eq_false_iff_not]
  omega

theorem distE_of_inB (dL dR : List Val) (c : Nat) (hin : inB dL c = true) :
    distE dL dR c = absSum
      (nanToInf (dR.getD (Int.add (c : Int) (castInt (PyVecIdx.rint (Fl.ofVal (dL.getD c .nan))))).toNat .nan))
      (nanToInf (dL.getD c .nan)) := by
  unfold inB qOf at hin
  unfold distE qOf
  rw [castInt_rint]
  cases h : dL.getD c Val.nan with
  | nan => rw [h] at hin; cases hin
  | num r => rfl

-- which of the Boolean simp lemmas fire depends on the operand order of the source's tests
set_option linter.unusedSimpArgs false in
/-- **the consistency part, for every row**: stage 1 of the generated row function (statements up to `invalid_col`) never meets
    a shape / bounds error and returns the row length, the confidence row of the hand model and the hand model's invalidated
    columns (inside and beyond the threshold first, then outside), for every row length ≤ 2^63, every disparity (NaN
    included), every flag word and threshold -/
theorem crossCheckRow_consistency_eq (thr : ℚ) (dL dR : List Val) (m : Nat → Nat) (hr : dR.length = dL.length) (hn : dL.length ≤ 2 ^ 63) :
    crossCheckRow_s1 ((List.range dL.length).map m) (embedRow dL) (embedRow dR) (.fin thr)
      = .ok ((dL.length : Int), (List.range dL.length).map (confModel m dL dR),
             (ICcols thr m dL dR).map (fun (c : Nat) => (c : Int))) := by
  have hl : (embedRow dL).length = dL.length := List.length_map _
  -- every vector of the stage is a map over a filtered `range`: the 20 tests
  have hsub : ∀ (p : Nat → Bool) (c : Nat), c ∈ (List.range dL.length).filter p → c < dL.length :=
    fun p c hc => List.mem_range.mp (List.mem_filter.mp hc).1
  simp only [crossCheckRow_s1, arange_natCast, full_natCast, mapR, mapL, zip2, List.map_map, Function.comp_def,
    gather_where, gather_map, zipWith_map_map, select_map, maskSet_map, concat, ← List.map_append, List.filter_filter,
    getAt_natCast, scatterSet_range, getD_embedRow, getAt_embedRow, len_embedRow, valid_eq, nan_to_inf, abs_add_ext, lt_ext,
    scatterOk, sameLen_map, gatherOk_where_map,
    sameLen_of_length ((List.range dL.length).map m) (embedRow dL) (by rw [List.length_map, List.length_range, hl]),
    sameLen_of_length (embedRow dR) (embedRow dL) (by rw [hl, ← hr]; exact List.length_map _),
    gatherOk_natCast (embedRow dL) _ _ hl (hsub _),
    gatherOk_natCast ((List.range dL.length).map fun _ => Fl.nan) _ _ (by rw [List.length_map, List.length_range]) (hsub _),
    Bool.and_self, Bool.and_true, Bool.true_and]
  -- the read of the right row: the inside test, however it is written, implies the bounds test
  rw [gatherOk_map_filter, if_pos rfl]
  swap
  · intro c h
    simp only [inRange_iff, ile, ilt, len_embedRow, hr, Bool.and_eq_true, decide_eq_true_eq] at h ⊢
    omega
  congr 1
  refine Prod.ext rfl (Prod.ext (List.map_congr_left ?_) ?_)
  · intro c hc
    rcases col_tests dL c _ rfl (List.mem_range.mp hc) hn with
      ⟨t1, t2, t3, t4, hin⟩ | ⟨t1, t2, t3, t4, hin⟩ | ⟨t1, t2, t3, t4, hin⟩ <;>
    simp only [List.mem_filter, hc, true_and, t1, t2, hin, confModel, validC, distE_of_inB,
      Bool.and_true, Bool.true_and, Bool.and_false, Bool.false_and, Bool.false_eq_true, and_false, if_false]
  · show List.map _ _ = List.map _ _
    unfold ICcols
    congr 2 <;> apply List.filter_congr <;> intro c hc <;>
    rcases col_tests dL c _ rfl (List.mem_range.mp hc) hn with
      ⟨t1, t2, t3, t4, hin⟩ | ⟨t1, t2, t3, t4, hin⟩ | ⟨t1, t2, t3, t4, hin⟩ <;>
    simp only [t1, t2, t3, t4, hin, validC, distE_of_inB, Bool.and_true, Bool.true_and, Bool.and_false, Bool.false_and,
      Bool.or_true, Bool.true_or, Bool.or_false, Bool.not_true, Bool.not_false, Bool.and_comm]

theorem all_id_map_true {α : Type} (L : List α) : (L.map (fun _ => true)).all id = true := by
  simp

theorem length_whereIdx_map {α : Type} [Inhabited α] (L : List α) (p : α → Bool) :
    (whereIdx (L.map p)).length = (L.filter p).length := by
  have := congrArg List.length (gather_where () L (fun _ => ()) p)
  simpa [gather] using this

theorem scatter2Ok_map {α β γ δ : Type} [Inhabited β] (L : List α) (R : List β) (a : α → β → γ) (p : α → β → Bool)
    (g : α → β → δ) :
    scatter2Ok (L.map fun x => R.map (a x)) (L.map fun x => whereIdx (R.map (p x)))
      (L.map fun x => (R.filter (p x)).map (g x)) = true := by
  simp only [scatter2Ok, zipWith3_map, List.length_map, beq_self_eq_true, Bool.true_and]
  have : ∀ x, scatterOk (R.map (a x)) (whereIdx (R.map (p x))) ((R.filter (p x)).map (g x)) = true := by
    intro x
    simp only [scatterOk, sameLen, length_whereIdx_map, List.length_map, beq_self_eq_true, Bool.and_true]
    exact gatherOk_where _ _ (by simp)
  simp [this]

theorem index_add (d : Int) (c : Nat) : Fl.add (ofInt d) (ofInt (c : Int)) = Fl.fin (((d + (c : Int) : Int)) : ℚ) := by
  simp [ofInt, Fl.add]

theorem le_fin0 (s : Int) : Fl.le (.fin 0) (.fin (s : ℚ)) = decide (0 ≤ s) := by
  rw [Fl.le_fin]
  exact decide_eq_decide.mpr (by exact_mod_cast Iff.rfl)

theorem lt_finn (s : Int) (n : Nat) : Fl.lt (.fin (s : ℚ)) (ofInt (n : Int)) = decide (s < (n : Int)) :=
  decide_eq_decide.mpr (by exact_mod_cast Iff.rfl)

theorem castInt_fin (s : Int) : castInt (.fin (s : ℚ)) = s := truncQ_intCast s

theorem match_eq (n : Nat) (dR : List Val) (c : Nat) (d : Int) (b : Bool)
    (hb : b = true ↔ (0 ≤ d + (c : Int) ∧ d + (c : Int) < (n : Int))) :
    Fl.eq (PyVecIdx.rint (if b = true then Fl.ofVal (dR.getD (d + (c : Int)).toNat Val.nan) else Fl.pinf))
      (ofInt (Int.mul (-1) d)) = matchAt n dR c d := by
  unfold matchAt dispRightAt
  rw [Int.add_comm (c : Int) d]
  by_cases h : 0 ≤ d + (c : Int) ∧ d + (c : Int) < (n : Int)
  · rw [if_pos (hb.mpr h), if_pos h]
    cases dR.getD (d + (c : Int)).toNat Val.nan with
    | nan => rfl
    | num q =>
      simp only [Fl.ofVal, PyVecIdx.rint, Fl.eq, ofInt, int_mul_eq, Int.cast_inj, neg_one_mul]
      exact (beq_eq_decide _ _).symm
  · have hb' : ¬ (b = true) := fun e => h (hb.mp e)
    rw [if_neg hb', if_neg h]
    rfl

theorem comp_eq (n : Nat) (dR : List Val) (c : Nat) (R : List Int) (f : Int → Bool) (hf : ∀ d, f d = matchAt n dR c d) :
    (if ilt 1 (countTrue (R.map f)) = true then (1 : Int) else countTrue (R.map f)) = ((comp n dR c R : Nat) : Int) := by
  have : f = matchAt n dR c := funext hf
  subst this
  rw [countTrue_map]
  simp only [comp, ilt, decide_eq_true_eq, Nat.one_lt_cast, gt_iff_lt, Nat.cast_ite, Nat.cast_one]

/-- **the witness search, for every row**: stage 2 returns, for each invalidated column, the hand model's `comp` (the number of
    disparities `d` of the range with `rint(dR(c + d)) = −d`, inf outside the image, clipped to 1); none of its 7 tests fails -/
theorem crossCheckRow_witness_eq (n : Nat) (dR : List Val) (hr : dR.length = n) (R : List Int) (conf : List Fl) (IC : List Nat) :
    crossCheckRow_s2 (embedRow dR) R (n : Int) conf (IC.map (fun (c : Nat) => (c : Int)))
      = .ok (conf, IC.map (fun (c : Nat) => (c : Int)), IC.map (fun c => ((comp n dR c R : Nat) : Int))) := by
  simp only [crossCheckRow_s2, tileRows_len, tileCols_len, mmap, mzip, fullLike, where2, gather2, rgather, scatter2, rowCounts,
    mapL, List.map_map, Function.comp_def, zipWith_map_map, zipWith3_map, gather_where, gather_map, scatterSet_where,
    maskSet_map, getAt_embedRow, sameShape_map, gather2Ok_map, scatter2Ok_map, sameLen_map, Bool.true_and, Bool.and_true,
    index_add, le_fin0, lt_finn, castInt_fin]
  rw [if_pos]
  · congr 1
    refine Prod.ext rfl (Prod.ext rfl ?_)
    apply List.map_congr_left
    intro c _
    apply comp_eq
    intro d
    -- whichever way the bounds test of the grid is written
    refine match_eq n dR c d _ ⟨fun h => ?_, fun h => ?_⟩ <;>
      simp only [Bool.and_eq_true, decide_eq_true_eq] at h ⊢ <;> tauto
  · -- the read of the right row through the grid: the bounds test of the grid, whichever way it is written, implies it
    simp only [rgatherOk, List.all_map, List.all_eq_true, Function.comp]
    intro c _
    refine gatherOk_map_filter _ _ _ _ fun d hd => ?_
    rw [inRange_iff, len_embedRow, hr]
    simp only [Bool.and_eq_true, decide_eq_true_eq] at hd
    tauto

theorem castU16_512 (k : Nat) : castU16 (512 * (k : Int)) = 512 * k := by
  show ((512 : Int) * (k : Int)).toNat = 512 * k
  omega
theorem castU16_256 (k : Nat) : castU16 (256 * (k : Int)) = 256 * k := by
  show ((256 : Int) * (k : Int)).toNat = 256 * k
  omega

/-- **the flag update, for every row**: stage 3 adds OCCLUSION, then MISMATCH·k, and takes OCCLUSION·k back at the given columns;
    none of its 15 tests fails when the columns are in the row, their flag words leave room for bits 8 and 9, and k ≤ 1 -/
theorem crossCheckRow_flags_eq (n : Nat) (m : Nat → Nat) (conf : List Fl) (IC : List Nat) (k : Nat → Nat)
    (hIC : ∀ c ∈ IC, c < n ∧ m c + 768 < 65536) (hk : ∀ c, k c ≤ 1) :
    crossCheckRow_s3 ((List.range n).map m) conf (IC.map (fun (c : Nat) => (c : Int))) (IC.map (fun c => ((k c : Nat) : Int)))
      = .ok ((List.range n).map (fun c => if c ∈ IC then m c + 256 + 512 * k c - 256 * k c else m c), conf) := by
  have hI : ∀ c ∈ IC, c < n := fun c hc => (hIC c hc).1
  have hL : ∀ (g : Nat → Nat), ((List.range n).map g).length = n := fun g => by
    rw [List.length_map, List.length_range]
  simp only [crossCheckRow_s3, mapR, mapL, zip2, List.map_map, Function.comp_def, scatterOk,
    gather_range_cast _ n _ IC hI, gatherOk_natCast _ IC n (hL _) hI, zipWith_map_map, scatterSet_range, sameLen_map,
    Bool.true_and, Bool.and_true]
  rw [if_pos]
  · congr 1
    refine Prod.ext ?_ rfl
    apply List.map_congr_left
    intro c _
    by_cases hin : c ∈ IC
    · simp only [hin, if_true, int_mul_eq, castU16_512, castU16_256, Nat.add_eq, Nat.sub_eq]
    · simp only [hin, if_false]
  · -- the five uint16 range tests, each at every given column: `m c + 768 < 65536` and `k c ≤ 1` settle them
    simp only [Bool.and_eq_true]
    refine ⟨⟨⟨⟨?_, ?_⟩, ?_⟩, ?_⟩, ?_⟩ <;> apply all_map_id <;> intro x hx <;> (obtain ⟨h1, h2⟩ := hIC x hx) <;>
      (have h3 := hk x) <;>
      simp only [hx, if_true, int_mul_eq, castU16_512, castU16_256, u16AddOk, u16SubOk, u16Ok, Nat.add_eq,
        decide_eq_true_eq, Bool.and_eq_true] <;> omega

theorem mem_ICcols (thr : ℚ) (m : Nat → Nat) (dL dR : List Val) (c : Nat) :
    c ∈ ICcols thr m dL dR ↔
      c < dL.length ∧ validC m c = true ∧ (inB dL c = false ∨ (distE dL dR c).gt thr = true) := by
  simp only [ICcols, List.mem_append, List.mem_filter, List.mem_range, Bool.and_eq_true, Bool.not_eq_true']
  cases inB dL c <;> simp

theorem room_for_bits (f : Nat) (hf : f < 65536) (hv : Flags.isInvalid f = false) : f + 768 < 65536 := by
  obtain ⟨h8, h9⟩ := C07.valid_bits_clear f hv
  simp only [bitAt] at h8 h9
  omega

theorem ccPixel_ruleFix_eq (P : Params) (dL dR : List Val) (m : Nat → Nat) (c : Nat) :
    ccPixel .ruleFix P dL.length dL dR c (m c) =
      if validC m c && inB dL c then
        ⟨if (distE dL dR c).gt P.threshold then
            m c + Flags.occlusion + Flags.mismatch * comp dL.length dR c (arange P.dmin P.dmax)
              - Flags.occlusion * comp dL.length dR c (arange P.dmin P.dmax)
          else m c, (distE dL dR c).toConf⟩
      else
        ⟨if validC m c then
            m c + Flags.occlusion + Flags.mismatch * comp dL.length dR c (arange P.dmin P.dmax)
              - Flags.occlusion * comp dL.length dR c (arange P.dmin P.dmax)
          else m c, .nan⟩ := by
  unfold ccPixel validC inB distE qOf
  generalize colRight c (dL.getD c .nan) = qo
  cases Flags.isInvalid (m c)
  · rcases qo with _ | q
    · rfl
    · simp only [Bool.false_eq_true, if_false, Bool.not_false, Bool.true_and, if_true]
      split
      · unfold ccInside
        split <;> rename_i h <;> simp only [h, if_true, if_false, Bool.false_eq_true]
      · rfl
  · rfl

/-- **the row body regenerated from the source equals the hand model, for every row**: every row length up to 2^63 (column
    indices are int64), every left / right disparity row of that length (NaN included), every uint16 flag row, every threshold
    and every disparity interval — and none of the 42 shape / bounds / uint16 tests fails -/
theorem crossCheckRow_generated_eq (P : Params) (dL dR : List Val) (mask : List Nat)
    (hm : mask.length = dL.length) (hr : dR.length = dL.length) (hu : ∀ f ∈ mask, f < 65536)
    (hn : dL.length ≤ 2 ^ 63) :
    crossCheckRow mask (embedRow dL) (embedRow dR) (.fin P.threshold) (arange P.dmin P.dmax)
      = .ok ((ccRow .ruleFix P dL dR mask).map (·.flag),
             (ccRow .ruleFix P dL dR mask).map (fun o => confFl o.conf)) := by
  obtain ⟨m, hmdef⟩ : ∃ m : Nat → Nat, m = fun c => mask.getD c 0 := ⟨_, rfl⟩
  have e : mask = (List.range dL.length).map m := by
    rw [hmdef, ← hm]
    exact (map_getD_range' mask 0).symm
  have hroom : ∀ c ∈ ICcols P.threshold m dL dR, c < dL.length ∧ m c + 768 < 65536 := by
    intro c hc
    rw [mem_ICcols] at hc
    have hc' : c < mask.length := hm ▸ hc.1
    refine ⟨hc.1, room_for_bits _ ?_ (Bool.not_eq_true' _ ▸ hc.2.1)⟩
    rw [hmdef]
    show mask.getD c 0 < 65536
    rw [← List.getElem_eq_getD (h := hc') 0]
    exact hu _ (List.getElem_mem hc')
  have hk : ∀ c, comp dL.length dR c (arange P.dmin P.dmax) ≤ 1 := fun c => by
    rcases C07.comp_cases dL.length dR c (arange P.dmin P.dmax) with h | h <;> omega
  have h1 := crossCheckRow_consistency_eq P.threshold dL dR m hr hn
  have h3 := crossCheckRow_flags_eq dL.length m ((List.range dL.length).map (confModel m dL dR)) _ _ hroom hk
  rw [← e] at h1 h3
  unfold crossCheckRow
  rw [h1]
  dsimp only
  rw [crossCheckRow_witness_eq dL.length dR hr]
  dsimp only
  rw [h3]
  simp only [ccRow, List.map_map, Function.comp_def, show ∀ c, mask.getD c 0 = m c from fun c => hmdef ▸ rfl]
  congr 1
  refine Prod.ext (List.map_congr_left fun c hc => ?_) (List.map_congr_left fun c _ => ?_)
  · rw [ccPixel_ruleFix_eq]
    simp only [mem_ICcols, List.mem_range.mp hc, true_and, Flags.occlusion, Flags.mismatch]
    cases validC m c <;> cases inB dL c <;> cases (distE dL dR c).gt P.threshold <;> rfl
  · rw [ccPixel_ruleFix_eq, confModel]
    split
    · exact (confFl_toConf _).symm
    · rfl


theorem getD_ccRow (P : Params) (dL dR : List Val) (mask : List Nat) (c : Nat) (hc : c < dL.length) (d : PixOut) :
    (ccRow .ruleFix P dL dR mask).getD c d = ccPixel .ruleFix P dL.length dL dR c (mask.getD c 0) := by
  simp only [ccRow]
  rw [getD_range_map, if_pos hc]

/-- **every clause of the statement holds of what the generated row function returns** (both readings of `round`): the
    function returns the flag words and band values of a row `out` of per-pixel outputs that satisfy them at every column -/
theorem generated_row_clauses (P : Params) (dL dR : List Val) (mask : List Nat)
    (hm : mask.length = dL.length) (hr : dR.length = dL.length) (hu : ∀ f ∈ mask, f < 65536)
    (hn : dL.length ≤ 2 ^ 63) :
    ∃ out : List PixOut,
      crossCheckRow mask (embedRow dL) (embedRow dR) (.fin P.threshold) (arange P.dmin P.dmax)
        = .ok (out.map (·.flag), out.map (fun o => confFl o.conf)) ∧
      out.length = dL.length ∧
      ∀ c, c < dL.length →
        (∀ cl ∈ clausesPix P false dL dR c (mask.getD c 0) (out.getD c ⟨0, .nan⟩), cl.2 = true) ∧
        (∀ cl ∈ clausesPixEven P false dL dR c (mask.getD c 0) (out.getD c ⟨0, .nan⟩), cl.2 = true) := by
  refine ⟨ccRow .ruleFix P dL dR mask, crossCheckRow_generated_eq P dL dR mask hm hr hu hn, by simp [ccRow], ?_⟩
  intro c hc
  rw [getD_ccRow P dL dR mask c hc]
  exact ⟨List.all_eq_true.mp (C07.ccPixel_spec .ruleFix P dL.length dL dR c (mask.getD c 0) hr (Or.inl rfl)),
    List.all_eq_true.mp (C07.ccPixel_specEven .ruleFix P dL.length dL dR c (mask.getD c 0) hr (Or.inl rfl))⟩

theorem generated_flag_eq (P : Params) (dL dR : List Val) (mask flags : List Nat) (band : List Fl)
    (hm : mask.length = dL.length) (hr : dR.length = dL.length) (hu : ∀ f ∈ mask, f < 65536) (hn : dL.length ≤ 2 ^ 63)
    (h : crossCheckRow mask (embedRow dL) (embedRow dR) (.fin P.threshold) (arange P.dmin P.dmax) = .ok (flags, band))
    (c : Nat) (hc : c < dL.length) :
    flags.getD c 0 = (ccPixel .ruleFix P dL.length dL dR c (mask.getD c 0)).flag := by
  rw [crossCheckRow_generated_eq P dL dR mask hm hr hu hn] at h
  injection h with h
  rw [← (Prod.mk.inj h).1, ← getD_ccRow P dL dR mask c hc ⟨0, .nan⟩, List.getD_eq_getElem?_getD, List.getD_eq_getElem?_getD,
    List.getElem?_map]
  cases (ccRow .ruleFix P dL dR mask)[c]? <;> rfl

/-- **never_both / only_bits_8_9 on the returned flag row** -/
theorem generated_never_both (P : Params) (dL dR : List Val) (mask flags : List Nat) (band : List Fl)
    (hm : mask.length = dL.length) (hr : dR.length = dL.length) (hu : ∀ f ∈ mask, f < 65536) (hn : dL.length ≤ 2 ^ 63)
    (h : crossCheckRow mask (embedRow dL) (embedRow dR) (.fin P.threshold) (arange P.dmin P.dmax) = .ok (flags, band))
    (c : Nat) (hc : c < dL.length) (hv : Flags.isInvalid (mask.getD c 0) = false) :
    ¬(bitAt (flags.getD c 0) 8 = 1 ∧ bitAt (flags.getD c 0) 9 = 1)
      ∧ sameExcept89 (flags.getD c 0) (mask.getD c 0) = true := by
  rw [generated_flag_eq P dL dR mask flags band hm hr hu hn h c hc]
  exact C07.ccPixel_never_both .ruleFix P dL.length dL dR c _ hv

/-- **invalid_not_reexamined on the returned flag row** -/
theorem generated_invalid_untouched (P : Params) (dL dR : List Val) (mask flags : List Nat) (band : List Fl)
    (hm : mask.length = dL.length) (hr : dR.length = dL.length) (hu : ∀ f ∈ mask, f < 65536) (hn : dL.length ≤ 2 ^ 63)
    (h : crossCheckRow mask (embedRow dL) (embedRow dR) (.fin P.threshold) (arange P.dmin P.dmax) = .ok (flags, band))
    (c : Nat) (hc : c < dL.length) (hv : Flags.isInvalid (mask.getD c 0) = true) :
    flags.getD c 0 = mask.getD c 0 := by
  rw [generated_flag_eq P dL dR mask flags band hm hr hu hn h c hc, C07.ccPixel_invalid .ruleFix P dL.length dL dR c _ hv]

/-- non-vacuity: a row satisfying the hypotheses (the five-pixel row of the table) -/
example : ([0, 0, 0, 1, 0] : List Nat).length = ([Val.num 0, .num 1, .num (-1), .num 0, .nan] : List Val).length
    ∧ (∀ f ∈ ([0, 0, 0, 1, 0] : List Nat), f < 65536)
    ∧ ([Val.num 0, .num 1, .num (-1), .num 0, .nan] : List Val).length ≤ 2 ^ 63 := by
  refine ⟨rfl, by decide, by norm_num⟩

end Pandora.C07Kernels
