/-
  C16 — image datasets faithfully encode input rasters, masks, nodata and ROI: theorems about the executable model
  `Model/Dataset.lean` of `pandora/img_tools.py`, for every raster size, band count, sample values (NaN / ±inf included),
  nodata value, mask raster (any integers), disparity pair or grids, classification / segmentation rasters, every ROI and
  margin 4-tuple with `first ≤ last` and non-negative margins; instantiated at the end with the comparison operators and
  constants the translator reads in the source (`Generated/ImgTools.lean`).

  Two hypotheses depend on what the source says.  They are `true` for the non-strict comparisons and `!=` the source has
  (`Params.fixed`); `Params.current` keeps the strict comparisons (finding F8b) and `input_mask > 0` (finding F8a) the
  source had before their repair, for which they are needed:
    * `edgeFree`  with `col_off > width`, `… < 0` the ROI must not start exactly one past the last column/row nor end
                  exactly at −1 (`getWindow_current_counterexample`: otherwise an empty window is returned);
    * `maskOk`    with `input_mask > 0` the input mask must have no negative value (`mask_current_counterexample`).
  Modelled, not verified: rasterio (a windowed read is the crop of the full read; `out_dtype` conversions), float32
  representation of the samples, xarray.
-/
import PandoraModel.Lemmas.Dataset
import PandoraModel.Generated.ImgTools

namespace Pandora.C16
open Pandora.Dataset

theorem offTest_iff (s : Bool) (off size : Int) :
    offTest s off size = true ↔ (if s then off > size else off ≥ size) := by
  cases s <;> simp [offTest]

theorem endTest_iff (s : Bool) (e : Int) :
    endTest s e = true ↔ (if s then e < 0 else e ≤ 0) := by
  cases s <;> simp [endTest]

theorem clipAxis_eq_none (first last mLo mHi size : Int) :
    clipAxis first last mLo mHi size = none ↔ min (last + mHi) (size - 1) < max (first - mLo) 0 := by
  unfold clipAxis
  dsimp only
  split
  · exact ⟨(fun h => nomatch h), fun h => by omega⟩
  · exact ⟨fun _ => by omega, fun _ => rfl⟩

theorem strict_cmp_iff_of_ne (s : Bool) (a b : Int) (h : s = false ∨ a ≠ b) : (if s then a > b else a ≥ b) ↔ a ≥ b := by
  cases s
  · exact Iff.rfl
  · have : a ≠ b := h.resolve_left (by decide)
    simp only [if_true]
    omega

/-- one axis: refusal.  With the non-strict tests this is `hi < lo` for the clipped interval; a strict test differs
    from it only at equality, which `e1`, `e2` exclude. -/
theorem axis_refused (sOff sEnd : Bool) (first last mLo mHi size : Int)
    (h1 : first ≤ last) (h2 : 0 ≤ mLo) (h3 : 0 ≤ mHi) (hs : 0 < size)
    (e1 : sOff = false ∨ first - mLo ≠ size) (e2 : sEnd = false ∨ last + mHi ≠ -1) :
    (offTest sOff (max (first - mLo) 0) size = true ∨
      endTest sEnd (max (first - mLo) 0 + (last - max (first - mLo) 0 + mHi + 1)) = true)
      ↔ clipAxis first last mLo mHi size = none := by
  rw [offTest_iff, endTest_iff, clipAxis_eq_none, strict_cmp_iff_of_ne sOff _ size (e1.imp_right fun h => by omega)]
  have := strict_cmp_iff_of_ne sEnd 0 (max (first - mLo) 0 + (last - max (first - mLo) 0 + mHi + 1))
    (e2.imp_right fun h => by omega)
  rw [show _ ↔ _ from this]
  omega

theorem clipAxis_eq_some {first last mLo mHi size lo hi : Int} (h : clipAxis first last mLo mHi size = some (lo, hi)) :
    lo = max (first - mLo) 0 ∧ hi = min (last + mHi) (size - 1) ∧ 0 ≤ lo ∧ lo ≤ hi ∧ hi < size := by
  unfold clipAxis at h
  dsimp only at h
  split at h
  · cases h
    exact ⟨rfl, rfl, Int.le_max_right _ _, ‹_›, Int.lt_of_le_sub_one (Int.min_le_right _ _)⟩
  · cases h

theorem axis_kept (first last mLo mHi size : Int) (lo hi : Int)
    (h : clipAxis first last mLo mHi size = some (lo, hi)) :
    lo = max (first - mLo) 0 ∧
    (if lo + (last - lo + mHi + 1) > size then size - lo else last - lo + mHi + 1) = hi - lo + 1 := by
  obtain ⟨hlo, hhi, _, _, _⟩ := clipAxis_eq_some h
  refine ⟨hlo, ?_⟩
  split <;> omega

theorem getWindow_flags (p q : Params) (h1 : p.colOffStrict = q.colOffStrict) (h2 : p.rowOffStrict = q.rowOffStrict)
    (h3 : p.colEndStrict = q.colEndStrict) (h4 : p.rowEndStrict = q.rowEndStrict) (roi : Roi) (width height : Int) :
    getWindow p roi width height = getWindow q roi width height := by
  unfold getWindow
  rw [h1, h2, h3, h4]

/-- clauses `window_is_clip` and `outside_refused`: `get_window` returns the ROI with its margins clipped to the image, and
    refuses exactly the ROIs that miss it -/
theorem getWindow_eq_spec (p : Params) (roi : Roi) (width height : Int)
    (hwf : roi.wf = true) (hw : 0 < width) (hh : 0 < height)
    (hedge : edgeFree p roi width height = true) :
    getWindow p roi width height = windowSpec roi width height := by
  obtain ⟨cf, cl, rf, rl, ml, mu, mr, md⟩ := roi
  simp only [Roi.wf, Bool.and_eq_true, decide_eq_true_eq] at hwf
  obtain ⟨⟨⟨⟨⟨h1, h2⟩, h3⟩, h4⟩, h5⟩, h6⟩ := hwf
  simp only [edgeFree, Bool.and_eq_true, Bool.or_eq_true, Bool.not_eq_true', decide_eq_true_eq] at hedge
  obtain ⟨⟨⟨e1, e2⟩, e3⟩, e4⟩ := hedge
  have hc := axis_refused p.colOffStrict p.colEndStrict cf cl ml mr width h1 h3 h5 hw e1 e3
  have hr := axis_refused p.rowOffStrict p.rowEndStrict rf rl mu md height h2 h4 h6 hh e2 e4
  simp only [getWindow, windowSpec]
  cases hcc : clipAxis cf cl ml mr width with
  | none =>
    have := hc.2 hcc
    rw [if_pos]
    rcases this with t | t <;> simp [t]
  | some cw =>
    obtain ⟨c0, c1⟩ := cw
    cases hrr : clipAxis rf rl mu md height with
    | none =>
      have := hr.2 hrr
      rw [if_pos]
      rcases this with t | t <;> simp [t]
    | some rw_ =>
      obtain ⟨r0, r1⟩ := rw_
      rw [hcc] at hc
      rw [hrr] at hr
      simp only [reduceCtorEq, iff_false, not_or, Bool.not_eq_true] at hc hr
      rw [if_neg (by simp [hc.1, hc.2, hr.1, hr.2])]
      obtain ⟨hc0, hc1⟩ := axis_kept _ _ _ _ _ _ _ hcc
      obtain ⟨hr0, hr1⟩ := axis_kept _ _ _ _ _ _ _ hrr
      subst hc0 hr0
      simp only [hc1, hr1]

theorem detect_eq_same (nodata s : FVal) : detect nodata s = sameAsNodata nodata s := by
  cases nodata <;> cases s <;> simp [detect, sameAsNodata, FVal.isNan, FVal.isInf, FVal.npEq]
  rename_i a b
  by_cases h : a = b
  · simp [h]
  · have : ¬ b = a := fun e => h e.symm
    simp [h, this]

theorem detect_eq : detect = sameAsNodata := funext fun nodata => funext (detect_eq_same nodata)

theorem cropInput_zero (inp : Input) : cropInput inp 0 0 inp.rows inp.cols = inp := by
  obtain ⟨rows, cols, nb, bn, im, nd, mask, disp, classif, segm⟩ := inp
  have hm : mask.map (fun mf => fun r c => mf (r + 0) (c + 0)) = mask := by cases mask <;> rfl
  have hc : classif.map (fun cl => ({ names := cl.names, px := fun b r c => cl.px b (r + 0) (c + 0) } : Classif)) = classif := by
    cases classif <;> rfl
  have hs : segm.map (fun sg => fun r c => sg (r + 0) (c + 0)) = segm := by cases segm <;> rfl
  unfold cropInput
  rw [hm, hc, hs]
  cases disp <;> rfl

theorem mskValue_cases (p : Params) (hk : p.known = true) (mv : Option Int) (hit : Bool)
    (hm : p.maskCmp = .gt → 0 ≤ mv.getD 0) :
    (mskValue p mv hit = 1 ↔ hit = true) ∧
    ((mskValue p mv hit ≠ 0 ∧ mskValue p mv hit ≠ 1) ↔ (mv.getD 0 ≠ 0 ∧ hit = false)) ∧
    (mskValue p mv hit = 0 ↔ (mv.getD 0 = 0 ∧ hit = false)) := by
  simp only [Params.known, Bool.and_eq_true, decide_eq_true_eq] at hk
  obtain ⟨⟨hv, hn⟩, _⟩ := hk
  cases hit <;> cases mv with
  | none => simp [mskValue, hv, hn]
  | some v =>
    simp only [Option.getD_some] at hm
    cases hc : p.maskCmp with
    | ne =>
      by_cases h0 : v = 0 <;> simp [mskValue, hv, hn, hc, maskTest, Params.invalidValue, h0]
    | gt =>
      have := hm hc
      by_cases h0 : v = 0
      · simp [mskValue, hv, hn, hc, maskTest, h0]
      · have : v > 0 := by omega
        simp [mskValue, hv, hn, hc, maskTest, Params.invalidValue, h0, this]

section Read
variable {p : Params} {inp : Input} {ro co rows cols : Nat}

theorem hit_eq_fun :
    (fun r c => anyB inp.nbands fun b => detect inp.nodata (inp.im b (r + ro) (c + co)))
      = (cropInput inp ro co rows cols).noDataAt := by
  rw [detect_eq]
  rfl

theorem hit_eq (r c : Nat) :
    (anyB inp.nbands fun b => detect inp.nodata (inp.im b (r + ro) (c + co)))
      = (cropInput inp ro co rows cols).noDataAt r c :=
  congrFun (congrFun hit_eq_fun r) c

theorem readDS_im (b r c : Nat) :
    (readDS p inp ro co rows cols).im b r c =
      if (anyRC rows cols (cropInput inp ro co rows cols).noDataAt && nonFinite inp.nodata
          && sameAsNodata inp.nodata (inp.im b (r + ro) (c + co))) = true
      then FVal.ofInt p.replacement else inp.im b (r + ro) (c + co) := by
  simp only [readDS, detect_eq]
  rfl

theorem readDS_bandNames :
    (readDS p inp ro co rows cols).bandNames = if inp.nbands = 1 then none else some inp.bandNames := rfl

theorem readDS_disp :
    (readDS p inp ro co rows cols).disp =
      match inp.disp with
      | .absent => none
      | .null => none
      | .pair a b => some fun k _ _ => if k = 0 then FVal.ofInt a else FVal.ofInt b
      | .grid g => some fun k r c => g k (r + ro) (c + co) := rfl

theorem readDS_classif :
    (readDS p inp ro co rows cols).classif =
      inp.classif.map fun cl => { names := cl.names, px := fun b r c => cl.px b (r + ro) (c + co) } := rfl

theorem readDS_segm :
    (readDS p inp ro co rows cols).segm = inp.segm.map fun sg => fun r c => sg (r + ro) (c + co) := rfl

theorem readDS_rowCoord (i : Nat) : (readDS p inp ro co rows cols).rowCoord i = (ro : Int) + i := rfl

theorem readDS_colCoord (j : Nat) : (readDS p inp ro co rows cols).colCoord j = (co : Int) + j := rfl

theorem anyRC_noDataAt {b r c : Nat} (hb : b < inp.nbands) (hr : r < rows) (hc : c < cols)
    (h : sameAsNodata inp.nodata (inp.im b (r + ro) (c + co)) = true) :
    anyRC rows cols (cropInput inp ro co rows cols).noDataAt = true :=
  (anyRC_iff _ _ _).2 ⟨r, hr, c, hc, (anyB_iff _ _).2 ⟨b, hb, h⟩⟩

theorem read_samples : specSamples (cropInput inp ro co rows cols) (readDS p inp ro co rows cols) = true := by
  simp only [specSamples, Bool.and_eq_true, beq_iff_eq, allB_iff, allRC_iff, Bool.or_eq_true, decide_eq_true_eq]
  refine ⟨⟨⟨rfl, rfl⟩, rfl⟩, fun b _ r _ c _ => ?_⟩
  rw [readDS_im]
  split
  · rename_i h
    simp only [Bool.and_eq_true] at h
    exact Or.inl ⟨h.1.2, h.2⟩
  · exact Or.inr rfl

theorem read_bandNames : specBandNames (cropInput inp ro co rows cols) (readDS p inp ro co rows cols) = true := by
  simp only [specBandNames, readDS_bandNames, cropInput]
  split <;> simp

theorem read_replaced (hk : p.known = true) :
    specReplaced (cropInput inp ro co rows cols) (readDS p inp ro co rows cols) = true := by
  simp only [Params.known, Bool.and_eq_true, decide_eq_true_eq] at hk
  simp only [specReplaced, allB_iff, allRC_iff, Bool.or_eq_true, Bool.not_eq_true', decide_eq_true_eq]
  intro b hb r hr c hc
  rw [readDS_im, hk.2]
  show (nonFinite inp.nodata && sameAsNodata inp.nodata (inp.im b (r + ro) (c + co))) = false ∨ _
  cases hsame : sameAsNodata inp.nodata (inp.im b (r + ro) (c + co)) with
  | false => exact Or.inl (Bool.and_false _)
  | true =>
    rw [anyRC_noDataAt (inp := inp) (rows := rows) (cols := cols) hb hr hc hsame]
    cases nonFinite inp.nodata with
    | false => exact Or.inl rfl
    | true => exact Or.inr rfl
end Read

section Mask
variable {p : Params} {inp : Input} {ro co rows cols : Nat}

theorem maskAt_crop (r c : Nat) :
    (cropInput inp ro co rows cols).maskAt r c = (inp.mask.map fun mf => mf (r + ro) (c + co)).getD 0 := by
  unfold Input.maskAt cropInput
  cases inp.mask <;> rfl

theorem maskAt_shift (r c : Nat) : (cropInput inp ro co rows cols).maskAt r c = inp.maskAt (r + ro) (c + co) := by
  unfold Input.maskAt cropInput
  cases inp.mask <;> rfl

theorem read_mskView (r c : Nat) :
    (readDS p inp ro co rows cols).mskView r c =
      if (inp.mask.isNone && !anyRC rows cols (cropInput inp ro co rows cols).noDataAt) = true then 0
      else mskValue p (inp.mask.map fun mf => mf (r + ro) (c + co)) ((cropInput inp ro co rows cols).noDataAt r c) := by
  simp only [DS.mskView, readDS, hit_eq (rows := rows) (cols := cols)]
  by_cases h : (inp.mask.isNone && !anyRC rows cols (cropInput inp ro co rows cols).noDataAt) = true
  · rw [if_pos h, if_pos h]
  · rw [if_neg h, if_neg h]

theorem read_msk_isNone :
    (readDS p inp ro co rows cols).msk.isNone
      = (inp.mask.isNone && !anyRC rows cols (cropInput inp ro co rows cols).noDataAt) := by
  simp only [readDS, hit_eq_fun (rows := rows) (cols := cols)]
  split <;> simp_all

theorem read_msk_cell (hk : p.known = true) (hm : maskOk p (cropInput inp ro co rows cols) = true)
    {r c : Nat} (hr : r < rows) (hc : c < cols) :
    let inp' := cropInput inp ro co rows cols
    let v := (readDS p inp ro co rows cols).mskView r c
    (v = 1 ↔ inp'.noDataAt r c = true) ∧
    ((v ≠ 0 ∧ v ≠ 1) ↔ (inp'.maskAt r c ≠ 0 ∧ inp'.noDataAt r c = false)) ∧
    (v = 0 ↔ (inp'.maskAt r c = 0 ∧ inp'.noDataAt r c = false)) := by
  intro inp' v
  have hv : v = _ := read_mskView r c
  by_cases hnone : (inp.mask.isNone && !anyRC rows cols inp'.noDataAt) = true
  · rw [if_pos hnone] at hv
    simp only [Bool.and_eq_true, Bool.not_eq_true', Option.isNone_iff_eq_none] at hnone
    obtain ⟨hmn, hany⟩ := hnone
    have hnd : inp'.noDataAt r c = false := (anyRC_false_iff _ _ _).1 hany r hr c hc
    have hma : inp'.maskAt r c = 0 := by
      rw [maskAt_crop, hmn]; rfl
    rw [hv, hnd, hma]
    simp
  · rw [if_neg hnone] at hv
    rw [hv, maskAt_crop]
    apply mskValue_cases p hk
    intro hgt
    rw [← maskAt_crop (rows := rows) (cols := cols)]
    simp only [maskOk, hgt, allRC_iff, decide_eq_true_eq] at hm
    exact hm r hr c hc

theorem read_nodataIff (hk : p.known = true) (hm : maskOk p (cropInput inp ro co rows cols) = true) :
    specNodataIff (cropInput inp ro co rows cols) (readDS p inp ro co rows cols) = true :=
  allRC_beq fun r hr c hc => by
    rw [decide_eq_true_eq]
    exact (read_msk_cell hk hm hr hc).1

theorem read_invalidIff (hk : p.known = true) (hm : maskOk p (cropInput inp ro co rows cols) = true) :
    specInvalidIff (cropInput inp ro co rows cols) (readDS p inp ro co rows cols) = true :=
  allRC_beq fun r hr c hc => by
    simp only [Bool.and_eq_true, decide_eq_true_eq, Bool.not_eq_true']
    exact (read_msk_cell hk hm hr hc).2.1

theorem read_validOtherwise (hk : p.known = true) (hm : maskOk p (cropInput inp ro co rows cols) = true) :
    specValidOtherwise (cropInput inp ro co rows cols) (readDS p inp ro co rows cols) = true :=
  allRC_beq fun r hr c hc => by
    simp only [Bool.and_eq_true, decide_eq_true_eq, Bool.not_eq_true']
    exact (read_msk_cell hk hm hr hc).2.2

theorem read_noMask : specNoMask (cropInput inp ro co rows cols) (readDS p inp ro co rows cols) = true := by
  simp only [specNoMask, read_msk_isNone]
  have hdim : (cropInput inp ro co rows cols).rows = rows ∧ (cropInput inp ro co rows cols).cols = cols := ⟨rfl, rfl⟩
  have hmask : (cropInput inp ro co rows cols).mask.isNone = inp.mask.isNone := by
    unfold cropInput; cases inp.mask <;> rfl
  rw [hdim.1, hdim.2, hmask]
  cases hmn : inp.mask.isNone <;> cases hany : anyRC rows cols (cropInput inp ro co rows cols).noDataAt <;> simp
  -- mask none, no nodata: nothing to flag
  rw [anyRC_false_iff] at hany ⊢
  intro r hr c hc
  have hma : (cropInput inp ro co rows cols).maskAt r c = 0 := by
    rw [maskAt_crop]
    rw [Option.isNone_iff_eq_none] at hmn
    rw [hmn]; rfl
  simp [hany r hr c hc, hma]
end Mask

section Copies
variable {p : Params} {inp : Input} {ro co rows cols : Nat}

theorem read_disparity : specDisparity (cropInput inp ro co rows cols) (readDS p inp ro co rows cols) = true := by
  unfold specDisparity
  have hd : (cropInput inp ro co rows cols).disp =
      match inp.disp with
      | .grid g => .grid fun k r c => g k (r + ro) (c + co)
      | d => d := rfl
  rw [hd, readDS_disp]
  cases inp.disp with
  | absent => rfl
  | null => rfl
  | pair a b => simp [allRC_iff]
  | grid g => simp [allB_iff, allRC_iff]

theorem read_classifSegm : specClassifSegm (cropInput inp ro co rows cols) (readDS p inp ro co rows cols) = true := by
  unfold specClassifSegm
  simp only [readDS_classif, readDS_segm, cropInput]
  cases inp.classif <;> cases inp.segm <;> simp [allB_iff, allRC_iff]

theorem read_coords : specCoords ro co (readDS p inp ro co rows cols) = true := by
  simp [specCoords, readDS_rowCoord, readDS_colCoord, allB_iff]

/-- **Every per-read clause holds of the model** (any window position and size). -/
theorem read_spec_window (hk : p.known = true) (hm : maskOk p (cropInput inp ro co rows cols) = true) :
    specRead (cropInput inp ro co rows cols) ro co (readDS p inp ro co rows cols) = true := by
  simp only [specRead, specReadClauses, List.all_cons, List.all_nil, Bool.and_true, Bool.and_eq_true]
  exact ⟨read_samples, read_bandNames,
    read_replaced hk, read_nodataIff hk hm,
    read_invalidIff hk hm, read_validOtherwise hk hm,
    read_noMask, read_disparity,
    read_classifSegm, read_coords⟩
end Copies

/-- every per-read clause for a read without ROI -/
theorem read_spec (p : Params) (inp : Input) (hk : p.known = true) (hm : maskOk p inp = true) :
    specRead inp 0 0 (readDS p inp 0 0 inp.rows inp.cols) = true := by
  have h := read_spec_window (ro := 0) (co := 0) hk (by rwa [cropInput_zero])
  rwa [cropInput_zero] at h

section
variable (inp : Input) (ro co rows cols : Nat)

theorem noDataAt_shift (r c : Nat) :
    (cropInput inp 0 0 inp.rows inp.cols).noDataAt (r + ro) (c + co) = (cropInput inp ro co rows cols).noDataAt r c := rfl

end

section Crop
variable {p : Params} {inp : Input} {ro co rows cols : Nat}

theorem anyHit_mono (hr : ro + rows ≤ inp.rows) (hc : co + cols ≤ inp.cols)
    (h : anyRC rows cols (cropInput inp ro co rows cols).noDataAt = true) :
    anyRC inp.rows inp.cols (cropInput inp 0 0 inp.rows inp.cols).noDataAt = true := by
  obtain ⟨r, hr', c, hc', hh⟩ := (anyRC_iff _ _ _).1 h
  exact (anyRC_iff _ _ _).2 ⟨r + ro, by omega, c + co, by omega, hh⟩

theorem crop_im (hr : ro + rows ≤ inp.rows) (hc : co + cols ≤ inp.cols)
    (b r c : Nat) (hb : b < inp.nbands) (hr' : r < rows) (hc' : c < cols) :
    (readDS p inp ro co rows cols).im b r c = (readDS p inp 0 0 inp.rows inp.cols).im b (r + ro) (c + co) := by
  rw [readDS_im, readDS_im]
  cases hsame : sameAsNodata inp.nodata (inp.im b (r + ro) (c + co)) with
  | false => simp only [Nat.add_zero, Bool.and_false]
  | true =>
    have h := anyRC_noDataAt hb hr' hc' hsame
    simp only [Nat.add_zero, h, anyHit_mono hr hc h]

theorem crop_mskView (hk : p.known = true) (hr : ro + rows ≤ inp.rows) (hc : co + cols ≤ inp.cols)
    (r c : Nat) (hr' : r < rows) (hc' : c < cols) :
    (readDS p inp ro co rows cols).mskView r c = (readDS p inp 0 0 inp.rows inp.cols).mskView (r + ro) (c + co) := by
  rw [read_mskView, read_mskView]
  simp only [Nat.add_zero, noDataAt_shift inp ro co rows cols]
  cases hmn : inp.mask.isNone with
  | false => simp
  | true =>
    simp only [Bool.true_and, Bool.not_eq_true']
    cases ho : anyRC rows cols (cropInput inp ro co rows cols).noDataAt with
    | true =>
      rw [anyHit_mono hr hc ho]
    | false =>
      have hnd : (cropInput inp ro co rows cols).noDataAt r c = false := (anyRC_false_iff _ _ _).1 ho r hr' c hc'
      rw [Option.isNone_iff_eq_none] at hmn
      simp only [Params.known, Bool.and_eq_true, decide_eq_true_eq] at hk
      cases anyRC inp.rows inp.cols (cropInput inp 0 0 inp.rows inp.cols).noDataAt <;>
        simp [hnd, hmn, mskValue, hk.1.1]

/-- clause `roi_eq_crop`: a windowed read is the crop of the full read (mask compared through `mskView`) -/
theorem read_crop (hk : p.known = true) (hr : ro + rows ≤ inp.rows) (hc : co + cols ≤ inp.cols) :
    specCrop ⟨(co : Int), (ro : Int), (cols : Int), (rows : Int)⟩
      (readDS p inp 0 0 inp.rows inp.cols) (readDS p inp ro co rows cols) = true := by
  simp only [specCrop, Int.toNat_natCast, Bool.and_eq_true, decide_eq_true_eq, beq_iff_eq, allB_iff, allRC_iff]
  refine ⟨⟨⟨⟨⟨⟨⟨⟨⟨⟨rfl, rfl⟩, rfl⟩, rfl⟩, ?_⟩, ?_⟩, ?_⟩, ?_⟩, ?_⟩, ?_⟩, ?_⟩
  · intro b hb r hr' c hc'
    exact crop_im hr hc b r c hb hr' hc'
  · intro r hr' c hc'
    exact crop_mskView hk hr hc r c hr' hc'
  · rw [readDS_disp, readDS_disp]
    cases inp.disp <;> simp [allB_iff, allRC_iff]
  · rw [readDS_classif, readDS_classif]
    cases inp.classif <;> simp [allB_iff, allRC_iff]
  · rw [readDS_segm, readDS_segm]
    cases inp.segm <;> simp [allRC_iff]
  · intro i _
    rw [readDS_rowCoord, readDS_rowCoord]
    omega
  · intro j _
    rw [readDS_colCoord, readDS_colCoord]
    omega
end Crop

theorem windowSpec_inside (roi : Roi) (W H : Int) (w : Window) (h : windowSpec roi W H = some w) :
    0 ≤ w.colOff ∧ 0 ≤ w.rowOff ∧ 0 < w.width ∧ 0 < w.height ∧ w.colOff + w.width ≤ W ∧ w.rowOff + w.height ≤ H := by
  unfold windowSpec at h
  split at h
  · rename_i c0 c1 r0 r1 hc hr
    cases h
    obtain ⟨-, -, _, _, _⟩ := clipAxis_eq_some hc
    obtain ⟨-, -, _, _, _⟩ := clipAxis_eq_some hr
    dsimp only
    omega
  · cases h

theorem maskOk_crop {p : Params} {inp : Input} {ro co rows cols : Nat}
    (hr : ro + rows ≤ inp.rows) (hc : co + cols ≤ inp.cols) (hm : maskOk p inp = true) :
    maskOk p (cropInput inp ro co rows cols) = true := by
  unfold maskOk at hm ⊢
  cases hcmp : p.maskCmp with
  | ne => rfl
  | gt =>
    simp only [hcmp, allRC_iff, decide_eq_true_eq] at hm ⊢
    intro r (hr' : r < rows) c (hc' : c < cols)
    rw [maskAt_shift]
    exact hm _ (by omega) _ (by omega)

/-- the clauses `roi_eq_crop`, `roi_coords`, `roi_outside_refused`, and every per-read clause of the ROI dataset -/
theorem roi_spec (p : Params) (inp : Input) (roi : Roi) (hk : p.known = true)
    (hin : inp.wf = true) (hwf : roi.wf = true)
    (hedge : edgeFree p roi inp.cols inp.rows = true) (hm : maskOk p inp = true) :
    specRoi inp roi (readDS p inp 0 0 inp.rows inp.cols) (createDataset p inp (some roi)) = true := by
  simp only [Input.wf, Bool.and_eq_true, decide_eq_true_eq, beq_iff_eq] at hin
  obtain ⟨⟨⟨_, _⟩, hrows⟩, hcols⟩ := hin
  have hw := getWindow_eq_spec p roi inp.cols inp.rows hwf (by omega) (by omega) hedge
  simp only [specRoi, specRoiClauses, createDataset, hw]
  cases hs : windowSpec roi inp.cols inp.rows with
  | none => simp
  | some w =>
    obtain ⟨h1, h2, h3, h4, h5, h6⟩ := windowSpec_inside roi _ _ w hs
    simp only [List.all_cons, List.all_append, Bool.true_and, Bool.and_eq_true]
    have hro : ((w.rowOff.toNat : Nat) : Int) = w.rowOff := Int.toNat_of_nonneg h2
    have hco : ((w.colOff.toNat : Nat) : Int) = w.colOff := Int.toNat_of_nonneg h1
    have hhh : ((w.height.toNat : Nat) : Int) = w.height := Int.toNat_of_nonneg (by omega)
    have hww : ((w.width.toNat : Nat) : Int) = w.width := Int.toNat_of_nonneg (by omega)
    have hr : w.rowOff.toNat + w.height.toNat ≤ inp.rows := by omega
    have hc : w.colOff.toNat + w.width.toNat ≤ inp.cols := by omega
    refine ⟨?_, ?_⟩
    · have := read_crop hk hr hc
      rw [hro, hco, hhh, hww] at this
      exact ⟨this, rfl⟩
    · exact read_spec_window hk (maskOk_crop hr hc hm)

theorem edgeFree_fixed (roi : Roi) (w h : Int) : edgeFree Params.fixed roi w h = true := rfl
theorem maskOk_fixed (inp : Input) : maskOk Params.fixed inp = true := rfl

/-- finding F8b (`Params.current` = the strict comparisons the source had before the repair): a ROI that starts one past
    the last column, or ends at −1, gets an empty window instead of being refused -/
theorem getWindow_current_counterexample :
    (⟨6, 7, 0, 2, 0, 0, 0, 0⟩ : Roi).wf = true ∧
    getWindow Params.current ⟨6, 7, 0, 2, 0, 0, 0, 0⟩ 6 5 = some ⟨6, 0, 0, 3⟩ ∧
    windowSpec ⟨6, 7, 0, 2, 0, 0, 0, 0⟩ 6 5 = none ∧
    getWindow Params.current ⟨-3, -1, 0, 2, 0, 0, 0, 0⟩ 6 5 = some ⟨0, 0, 0, 3⟩ ∧
    windowSpec ⟨-3, -1, 0, 2, 0, 0, 0, 0⟩ 6 5 = none := by decide

def exInput : Input :=
  { rows := 2, cols := 3, nbands := 2, bandNames := [some "r", some "g"],
    im := fun b r c => if b = 1 ∧ r = 0 ∧ c = 2 then .nan else .num (b + 2 * r + c : Nat),
    nodata := .nan,
    mask := some fun r c => if r = 1 ∧ c = 0 then 3 else 0,
    disp := .pair (-2) 3, classif := none, segm := some fun r c => r + c }

example : exInput.wf = true ∧ maskOk Params.current exInput = true := by decide

def negMaskInput : Input :=
  { rows := 1, cols := 2, nbands := 1, bandNames := [none],
    im := fun _ _ c => .num (c : Nat), nodata := .num (-9999),
    mask := some fun _ c => if c = 0 then -1 else 0,
    disp := .absent, classif := none, segm := none }

/-- finding F8a (`Params.current` = `input_mask > 0`, before the repair): a negative mask value is read as valid -/
theorem mask_current_counterexample :
    negMaskInput.wf = true ∧
    (readDS Params.current negMaskInput 0 0 1 2).mskView 0 0 = 0 ∧
    specInvalidIff negMaskInput (readDS Params.current negMaskInput 0 0 1 2) = false ∧
    specInvalidIff negMaskInput (readDS Params.fixed negMaskInput 0 0 1 2) = true := by decide

/-- the specification is not trivially true: a dataset whose mask ignores the NaN sample is rejected -/
example : specNodataIff exInput { readDS Params.current exInput 0 0 2 3 with msk := none } = false := by decide
example : specRead exInput 0 0 (readDS Params.current exInput 0 0 2 3) = true :=
  read_spec Params.current exInput (by decide) (by decide)
example : (⟨1, 3, 1, 4, 1, 0, 2, 1⟩ : Roi).wf = true ∧ edgeFree Params.current ⟨1, 3, 1, 4, 1, 0, 2, 1⟩ 3 2 = true ∧
    windowSpec ⟨1, 3, 1, 4, 1, 0, 2, 1⟩ 3 2 = some ⟨0, 1, 3, 1⟩ := by decide
example : specRoi exInput ⟨1, 3, 1, 4, 1, 0, 2, 1⟩ (readDS Params.current exInput 0 0 2 3)
    (createDataset Params.current exInput (some ⟨1, 3, 1, 4, 1, 0, 2, 1⟩)) = true :=
  roi_spec Params.current exInput _ (by decide) (by decide) (by decide) (by decide) (by decide)

/-- the constants of the source are the documented ones (valid 0, no-data 1, replacement −9999) -/
theorem source_params_known : Generated.imgToolsParams.known = true := by decide

/-- `get_window` of the source: the clipped window, refused iff outside (`edgeFree` is `true` for every ROI when the
    comparisons read are the non-strict ones) -/
theorem source_getWindow (roi : Roi) (width height : Int)
    (hwf : roi.wf = true) (hw : 0 < width) (hh : 0 < height)
    (hedge : edgeFree Generated.imgToolsParams roi width height = true) :
    getWindow Generated.imgToolsParams roi width height = windowSpec roi width height :=
  getWindow_eq_spec _ roi width height hwf hw hh hedge

theorem source_read_spec (inp : Input) (hm : maskOk Generated.imgToolsParams inp = true) :
    specRead inp 0 0 (readDS Generated.imgToolsParams inp 0 0 inp.rows inp.cols) = true :=
  read_spec _ inp source_params_known hm

theorem source_roi_spec (inp : Input) (roi : Roi) (hin : inp.wf = true) (hwf : roi.wf = true)
    (hedge : edgeFree Generated.imgToolsParams roi inp.cols inp.rows = true)
    (hm : maskOk Generated.imgToolsParams inp = true) :
    specRoi inp roi (readDS Generated.imgToolsParams inp 0 0 inp.rows inp.cols)
      (createDataset Generated.imgToolsParams inp (some roi)) = true :=
  roi_spec _ inp roi source_params_known hin hwf hedge hm

/-- with the non-strict comparisons and `!=` the statements need neither `edgeFree` nor `maskOk` -/
theorem fixed_getWindow (roi : Roi) (width height : Int)
    (hwf : roi.wf = true) (hw : 0 < width) (hh : 0 < height) :
    getWindow Params.fixed roi width height = windowSpec roi width height :=
  getWindow_eq_spec _ roi width height hwf hw hh rfl

theorem fixed_read_spec (inp : Input) :
    specRead inp 0 0 (readDS Params.fixed inp 0 0 inp.rows inp.cols) = true :=
  read_spec _ inp rfl rfl

theorem fixed_roi_spec (inp : Input) (roi : Roi) (hin : inp.wf = true) (hwf : roi.wf = true) :
    specRoi inp roi (readDS Params.fixed inp 0 0 inp.rows inp.cols) (createDataset Params.fixed inp (some roi)) = true :=
  roi_spec _ inp roi rfl hin hwf rfl rfl

/-- the hypotheses `edgeFree` / `maskOk` cost nothing exactly when the source uses the non-strict
    comparisons / `!=`: then the source theorems above are the full-strength statements -/
theorem source_hyps_vacuous_when_fixed (h : Generated.imgToolsParams = Params.fixed)
    (roi : Roi) (w ht : Int) (inp : Input) :
    edgeFree Generated.imgToolsParams roi w ht = true ∧ maskOk Generated.imgToolsParams inp = true := by
  rw [h]; exact ⟨rfl, rfl⟩

end Pandora.C16
