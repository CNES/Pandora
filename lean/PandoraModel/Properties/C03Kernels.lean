/-
  C03 — the numpy glue of winner-takes-all (`WinnerTakesAll.to_disp`, `argmin_split`, `argmax_split`), regenerated from
  the source (`Generated/KernelsWta.lean`, written by `translator/gen_kernels_wta.py`), equals the hand model
  `Model/Wta.lean` — for every cost volume (any shape, any NaN pattern), both measure types, every disparity
  coordinate, invalid value and store; the cost volume is handed back with its original content (for ANY content,
  ±inf included) and no other array of either store is written.
-/
import PandoraModel.Properties.C03
import PandoraModel.Lemmas.StorePush
import PandoraModel.Generated.KernelsWta

namespace Pandora.C03Kernels
open Pandora.PyArr Pandora.PyLoops Pandora.Wta

theorem maskFill3_eq (s : Store (List Fl)) (k : Nat) (m : Mask3) (v : Fl) :
    s.maskFill3 k m v = s.set k (fun r c => List.zipWith (fun b x => if b then v else x) (m r c) (s.arr k r c)) := rfl

def emb : Ext → Fl
  | .negInf => .ninf
  | .fin q => .fin q
  | .posInf => .pinf

theorem lt_emb (a b : Ext) : Fl.lt (emb a) (emb b) = Ext.lt a b := by
  cases a <;> cases b <;> rfl

theorem argFirstAux_map {α β : Type} (lt1 : α → α → Bool) (lt2 : β → β → Bool) (f : α → β)
    (h : ∀ a b, lt2 (f a) (f b) = lt1 a b) :
    ∀ (l : List α) (x : α), argFirstAux lt2 (f x) (l.map f) = ((argFirstAux lt1 x l).1, f (argFirstAux lt1 x l).2)
  | [], x => rfl
  | y :: ys, x => by
    simp only [List.map_cons, argFirstAux]
    rw [argFirstAux_map lt1 lt2 f h ys y]
    simp only [h]
    split <;> rfl

theorem argFirst_map {α β : Type} (lt1 : α → α → Bool) (lt2 : β → β → Bool) (f : α → β)
    (h : ∀ a b, lt2 (f a) (f b) = lt1 a b) (l : List α) : argFirst lt2 (l.map f) = argFirst lt1 l := by
  cases l with
  | nil => rfl
  | cons x xs => simp [argFirst, argFirstAux_map lt1 lt2 f h xs x]

theorem emb_not_nan (e : Ext) : (emb e).isNan = false := by cases e <;> rfl

theorem firstNan_emb (l : List Ext) : firstNan (l.map emb) = none := by
  unfold firstNan
  rw [List.findIdx?_eq_none_iff]
  intro x hx
  obtain ⟨e, _, rfl⟩ := List.mem_map.1 hx
  simp [emb_not_nan]

/-- the row `np.argmin` / `np.argmax` sees: the pixel's costs with NaN replaced by `+inf` / `-inf` -/
theorem substituted_row (isMax : Bool) (costs : List Val) :
    List.zipWith (fun b x => if b then (if isMax then Fl.ninf else Fl.pinf) else x)
        ((costs.map Fl.ofVal).map Fl.isNan) (costs.map Fl.ofVal)
      = (costs.map (if isMax then substMax else substMin)).map emb := by
  rw [List.zipWith_map_left, List.zipWith_self, List.map_map, List.map_map]
  apply List.map_congr_left
  intro v _
  cases v <;> cases isMax <;> rfl

theorem arg_substituted (isMax : Bool) (costs : List Val) :
    (if isMax then argmaxFl ((costs.map substMax).map emb) else argminFl ((costs.map substMin).map emb))
      = winnerIdx isMax costs := by
  cases isMax
  · simp only [Bool.false_eq_true, if_false, argminFl, firstNan_emb, winnerIdx]
    exact argFirst_map Ext.lt Fl.lt emb lt_emb _
  · simp only [if_true, argmaxFl, firstNan_emb, winnerIdx]
    exact argFirst_map gtExt (fun a b => Fl.lt b a) emb (fun a b => lt_emb b a) _

theorem all3_isNan (costs : List Val) : (((costs.map Fl.ofVal).map Fl.isNan).all id) = allNan costs := by
  unfold allNan
  rw [List.map_map, List.all_map]
  congr 1
  funext v
  cases v <;> rfl

theorem restored_row (v : Fl) (row : List Fl) :
    List.zipWith (fun b x => if b then Fl.nan else x) (row.map Fl.isNan)
        (List.zipWith (fun b x => if b then v else x) (row.map Fl.isNan) row) = row := by
  rw [List.zipWith_map_left, List.zipWith_map_left, List.zipWith_self, List.zipWith_map_right, List.zipWith_self]
  exact (List.map_congr_left (g := id) fun x _ => by cases x <;> rfl).trans (List.map_id row)

theorem blocked_num (p : Blocks.Plan) (f : Nat → Nat → Rat) :
    Blocks.blocked p (fun r c => Val.num (f r c)) (fun _ _ => Val.num 0)
      = fun r c => Val.num (Blocks.blocked p f (fun _ _ => 0) r c) := by
  rw [Blocks.blocked_eq_direct, Blocks.blocked_eq_direct]
  funext r c
  simp only [Blocks.direct]
  split <;> rfl

/-- the block loop of `argmin_split` / `argmax_split` over the cost volume with NaN replaced by `v = ±inf` computes the
    model's `argSplit` -/
theorem argKernel_blocked (isMax : Bool) (s : Blocks.Split) (x : Input) (hm : x.isMax = isMax) (v : Fl)
    (hv : v = if isMax then Fl.ninf else Fl.pinf) (cv : Nat) (c0 : Store (List Fl))
    (hcv : c0.arr cv = fun r c => (x.cv r c).map Fl.ofVal) :
    Blocks.blocked (s.plan x.rows x.cols [x.rows, x.cols, x.disps.length])
        (argKernel isMax x.disps ((c0.maskFill3 cv (mask3Of Fl.isNan (c0.arr cv)) v).arr cv)) (fun _ _ => Val.num 0)
      = fun r c' => Val.num (argSplit s x r c') := by
  have : argKernel isMax x.disps ((c0.maskFill3 cv (mask3Of Fl.isNan (c0.arr cv)) v).arr cv)
      = fun r c' => Val.num (dispAt x.disps (winnerIdx x.isMax (x.cv r c'))) := by
    funext r c'
    simp only [argKernel, maskFill3_eq, set_arr_self, mask3Of, hcv, hv, substituted_row, hm]
    cases isMax
    · exact congrArg (fun i => Val.num (dispAt x.disps i)) (arg_substituted false (x.cv r c'))
    · exact congrArg (fun i => Val.num (dispAt x.disps i)) (arg_substituted true (x.cv r c'))
  rw [this, blocked_num]
  rfl

theorem toDisp_generated (x : Input) (cv : Nat) (c0 : Store (List Fl)) (m0 : Store Val)
    (hcv : c0.arr cv = fun r c => (x.cv r c).map Fl.ofVal) :
    (Generated.KernelsWta.toDisp x.isMax x.rows x.cols x.disps.length x.disps x.invalid cv c0 m0).2.2 = m0.next
    ∧ (Generated.KernelsWta.toDisp x.isMax x.rows x.cols x.disps.length x.disps x.invalid cv c0 m0).2.1.arr m0.next
        = Wta.toDisp (if x.isMax then Generated.Blocks.wtaArgmax else Generated.Blocks.wtaArgmin) x
    ∧ (∀ k, k < m0.next →
        (Generated.KernelsWta.toDisp x.isMax x.rows x.cols x.disps.length x.disps x.invalid cv c0 m0).2.1.arr k
          = m0.arr k) := by
  have hall : all3 (mask3Of Fl.isNan (c0.arr cv)) = fun r c => allNan (x.cv r c) := by
    funext r c
    simp only [all3, mask3Of, hcv]
    exact all3_isNan _
  unfold Generated.KernelsWta.toDisp
  cases hm : x.isMax
  -- the map store ends as `m0.push [map, saved copy]`
  · simp only [Bool.false_eq_true, if_false, Generated.KernelsWta.argminSplit, hall, alloc_eq_push, copy_eq, maskFill_eq,
      push_set_next _ _ rfl, push_arr_next _ _ rfl, push_push, List.getD_cons_zero, List.cons_append, List.nil_append,
      argKernel_blocked false Generated.Blocks.wtaArgmin x hm Fl.pinf rfl cv c0 hcv]
    exact ⟨trivial, rfl, fun k hk => push_arr_old _ _ hk⟩
  · simp only [if_true, Generated.KernelsWta.argmaxSplit, hall, alloc_eq_push, copy_eq, maskFill_eq,
      push_set_next _ _ rfl, push_arr_next _ _ rfl, push_push, List.getD_cons_zero, List.cons_append, List.nil_append,
      argKernel_blocked true Generated.Blocks.wtaArgmax x hm Fl.ninf rfl cv c0 hcv]
    exact ⟨trivial, rfl, fun k hk => push_arr_old _ _ hk⟩

/-- **`cv_unchanged` for the regenerated `to_disp`**: the cost volume is handed back with the content it had —
    whatever that content (NaN, ±inf), both measure types — and no other 3-D array is written. -/
theorem toDisp_generated_cv (isMax : Bool) (ny nx nd : Nat) (disps : List Rat) (invalid : Val) (cv : Nat)
    (c0 : Store (List Fl)) (m0 : Store Val) :
    (Generated.KernelsWta.toDisp isMax ny nx nd disps invalid cv c0 m0).1.arr = c0.arr := by
  unfold Generated.KernelsWta.toDisp
  funext k
  by_cases hk : k = cv
  · subst hk
    cases isMax <;>
    · simp only [Bool.false_eq_true, if_false, if_true, maskFill3_eq, set_arr_self, mask3Of]
      funext r c
      exact restored_row _ _
  · cases isMax <;> simp [maskFill3_eq, set_arr_ne _ hk]

/-- **C03 for the regenerated `to_disp`**: every pixel of the map it returns satisfies the per-pixel specification. -/
theorem toDisp_generated_spec (x : Input) (cv : Nat) (c0 : Store (List Fl)) (m0 : Store Val)
    (hcv : c0.arr cv = fun r c => (x.cv r c).map Fl.ofVal) (lo hi : Nat → Nat → Rat)
    (hwf : ∀ r c, r < x.rows → c < x.cols → wfPixel x.disps (lo r c) (hi r c) (x.cv r c) = true)
    (r c : Nat) (hr : r < x.rows) (hc : c < x.cols) :
    specPixel x.isMax x.disps (lo r c) (hi r c) (x.cv r c) x.invalid
      ((Generated.KernelsWta.toDisp x.isMax x.rows x.cols x.disps.length x.disps x.invalid cv c0 m0).2.1.arr m0.next r c)
      = true := by
  rw [(toDisp_generated x cv c0 m0 hcv).2.1]
  exact C03.source_blocks_spec x lo hi hwf r c hr hc

theorem toDispDataset_core (isMax hasConf : Bool) (ny nx nd : Nat) (disps : List Rat) (invalid : Val)
    (cv conf mask : Nat) (c0 : Store (List Fl)) (m0 : Store Val) (b0 : Store (List Val)) (f0 : Store Nat) :
    (Generated.KernelsWta.toDispDataset isMax hasConf ny nx nd disps invalid cv conf mask c0 m0 b0 f0).cvs
        = (Generated.KernelsWta.toDisp isMax ny nx nd disps invalid cv c0 m0).1
    ∧ (Generated.KernelsWta.toDispDataset isMax hasConf ny nx nd disps invalid cv conf mask c0 m0 b0 f0).maps
        = (Generated.KernelsWta.toDisp isMax ny nx nd disps invalid cv c0 m0).2.1
    ∧ (Generated.KernelsWta.toDispDataset isMax hasConf ny nx nd disps invalid cv conf mask c0 m0 b0 f0).disparity_map
        = (Generated.KernelsWta.toDisp isMax ny nx nd disps invalid cv c0 m0).2.2 :=
  ⟨rfl, rfl, rfl⟩

/-- **Frame of `to_disp`** (`cv_unchanged`, `bands_carried`, `flags_carried`): after the call every cost volume holds
    what it held; the confidence bands are handed over as the SAME array and no band array is written; the flags of the
    result are a FRESH array holding the cost volume's flags, and no flag array that existed is written. -/
theorem toDispDataset_frame (isMax hasConf : Bool) (ny nx nd : Nat) (disps : List Rat) (invalid : Val)
    (cv conf mask : Nat) (c0 : Store (List Fl)) (m0 : Store Val) (b0 : Store (List Val)) (f0 : Store Nat) :
    (Generated.KernelsWta.toDispDataset isMax hasConf ny nx nd disps invalid cv conf mask c0 m0 b0 f0).cvs.arr = c0.arr
    ∧ (Generated.KernelsWta.toDispDataset isMax hasConf ny nx nd disps invalid cv conf mask c0 m0 b0 f0).bands = b0
    ∧ (Generated.KernelsWta.toDispDataset isMax hasConf ny nx nd disps invalid cv conf mask c0 m0 b0 f0).confidence_measure
        = (if hasConf then some conf else none)
    ∧ (Generated.KernelsWta.toDispDataset isMax hasConf ny nx nd disps invalid cv conf mask c0 m0 b0 f0).validity_mask
        = f0.next
    ∧ (Generated.KernelsWta.toDispDataset isMax hasConf ny nx nd disps invalid cv conf mask c0 m0 b0 f0).flags.arr f0.next
        = f0.arr mask
    ∧ ∀ k, k ≠ f0.next →
        (Generated.KernelsWta.toDispDataset isMax hasConf ny nx nd disps invalid cv conf mask c0 m0 b0 f0).flags.arr k
          = f0.arr k := by
  refine ⟨?_, rfl, rfl, rfl, ?_, ?_⟩
  · rw [(toDispDataset_core isMax hasConf ny nx nd disps invalid cv conf mask c0 m0 b0 f0).1]
    exact toDisp_generated_cv isMax ny nx nd disps invalid cv c0 m0
  -- the flags of the result are the store `(f0.copy mask).1 = (f0.alloc (f0.arr mask)).1`
  · exact alloc_arr_new f0 _
  · exact fun k hk => alloc_arr_old f0 _ hk

/-- **No write through the result reaches the cost-volume dataset.**  Whatever is later stored into the returned
    validity mask (the validation and filter steps write flags there), the cost volume's flags keep their content;
    whatever is later stored into the returned disparity map, `cv["disp_indices"]` keeps the map it saved. -/
theorem toDispDataset_private (isMax hasConf : Bool) (ny nx nd : Nat) (disps : List Rat) (invalid : Val)
    (cv conf mask : Nat) (c0 : Store (List Fl)) (m0 : Store Val) (b0 : Store (List Val)) (f0 : Store Nat)
    (hmask : mask < f0.next) (g : Arr Nat) (gm : Arr Val) :
    ((Generated.KernelsWta.toDispDataset isMax hasConf ny nx nd disps invalid cv conf mask c0 m0 b0 f0).flags.set
        (Generated.KernelsWta.toDispDataset isMax hasConf ny nx nd disps invalid cv conf mask c0 m0 b0 f0).validity_mask g).arr mask
      = f0.arr mask
    ∧ ((Generated.KernelsWta.toDispDataset isMax hasConf ny nx nd disps invalid cv conf mask c0 m0 b0 f0).maps.set
        (Generated.KernelsWta.toDispDataset isMax hasConf ny nx nd disps invalid cv conf mask c0 m0 b0 f0).disparity_map gm).arr
          (Generated.KernelsWta.toDispDataset isMax hasConf ny nx nd disps invalid cv conf mask c0 m0 b0 f0).disp_indices
      = (Generated.KernelsWta.toDispDataset isMax hasConf ny nx nd disps invalid cv conf mask c0 m0 b0 f0).maps.arr
          (Generated.KernelsWta.toDispDataset isMax hasConf ny nx nd disps invalid cv conf mask c0 m0 b0 f0).disp_indices := by
  obtain ⟨_, _, _, hv, _, hold⟩ := toDispDataset_frame isMax hasConf ny nx nd disps invalid cv conf mask c0 m0 b0 f0
  constructor
  · rw [hv, set_arr_ne _ (Nat.ne_of_lt hmask), hold mask (Nat.ne_of_lt hmask)]
  · have hmap : (Generated.KernelsWta.toDispDataset isMax hasConf ny nx nd disps invalid cv conf mask c0 m0 b0 f0).disparity_map
        = m0.next := by cases isMax <;> rfl
    have hidx : (Generated.KernelsWta.toDispDataset isMax hasConf ny nx nd disps invalid cv conf mask c0 m0 b0 f0).disp_indices
        = m0.next + 1 := by cases isMax <;> rfl
    rw [hmap, hidx]
    exact set_arr_ne _ (Nat.succ_ne_self _) _

/-- how the fields the model does not hold are handed to the result, as read in the source on this run: the validity
    mask is a DEEP copy (later steps write flags into the disparity dataset's mask; the cost volume's must not follow),
    the confidence bands are the cost volume's own -/
theorem carried_fields :
    Generated.KernelsWta.carried.lookup "validity_mask" = some "deepcopy"
    ∧ Generated.KernelsWta.carried.lookup "confidence_measure" = some "alias" := by decide +kernel

end Pandora.C03Kernels
