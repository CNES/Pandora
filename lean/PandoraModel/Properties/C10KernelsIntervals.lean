/-
  C10 — the glue of `MedianForIntervalsFilter.filter_disparity`, regenerated from the source
  (`Generated/KernelsIntervals.lean`, written by `translator/gen_kernels_intervals.py`), equals the composed model
  `Model/FilterIntervals.lean` (C10's filter ∘ C12's regularisation) — for every size, filter size, split, bands, mask,
  configuration and store in which the three bands are three different arrays.

  `interval_regularization` is a parameter of the generated definition; `modelReg` instantiates it with C12's model
  (`Confidence.intervalRegularization` on the materialised bands + the segments mask), which is how
  `FilterIntervals.medianForIntervals` composes the two models.
-/
import PandoraModel.Properties.C10Kernels
import PandoraModel.Generated.KernelsIntervals

namespace Pandora.C10KernelsIntervals
open Pandora.PyArr Pandora.Filter Pandora.FilterIntervals

def modelReg (cfg : Cfg) (ny nx : Nat) : Arr Val → Arr Val → Arr Val → Arr Val × Arr Val × Mask :=
  fun i s a =>
    let res := Confidence.intervalRegularization (toGrid ny nx i) (toGrid ny nx s) (toGrid ny nx a)
      cfg.thr cfg.kernel cfg.depth cfg.quantile
    (ofGrid res.1, ofGrid res.2, inSegments (segments cfg.thr cfg.kernel (toGrid ny nx a)))

/-- what the step leaves in the two stores, for ANY regularisation function: symbolic execution to the normal form, then
    the five read-offs -/
theorem medianForIntervals_arrs (reg : Arr Val → Arr Val → Arr Val → Arr Val × Arr Val × Mask) (fs : Nat)
    (regularization : Bool) (off ny nx inf sup amb mask : Nat) (s0 : Store Val) (f0 : Store Nat)
    (hi : inf < s0.next) (hs : sup < s0.next) (ha : amb < s0.next) (his : inf ≠ sup) (hai : amb ≠ inf) (has : amb ≠ sup)
    (R : Store Val × Store Nat)
    (hR : Generated.KernelsIntervals.medianForIntervals reg fs regularization off ny nx inf sup amb mask s0 f0 = R)
    (A B : Arr Val) (hA : A = Filter.medianFilter (Generated.Blocks.median fs) fs ny nx (s0.arr inf))
    (hB : B = Filter.medianFilter (Generated.Blocks.median fs) fs ny nx (s0.arr sup)) :
    R.1.arr inf = (if regularization then (reg A B (s0.arr amb)).1 else A)
    ∧ R.1.arr sup = (if regularization then (reg A B (s0.arr amb)).2.1 else B)
    ∧ R.2.arr mask = (if regularization then
        (if off > 0 then FilterIntervals.maskBorder off ny nx
            (regularizeFlags Generated.Constants.PANDORA_MSK_PIXEL_INTERVAL_REGULARIZED (reg A B (s0.arr amb)).2.2 (f0.arr mask))
          else regularizeFlags Generated.Constants.PANDORA_MSK_PIXEL_INTERVAL_REGULARIZED (reg A B (s0.arr amb)).2.2 (f0.arr mask))
        else f0.arr mask)
    ∧ (∀ k, k < s0.next → k ≠ inf → k ≠ sup → R.1.arr k = s0.arr k) ∧ (∀ k, k ≠ mask → R.2.arr k = f0.arr k) := by
  unfold Generated.KernelsIntervals.medianForIntervals at hR
  simp only [copy_eq, alloc_eq_push, push_push, push_next, next_set, C10Kernels.medianFilter_eq, push_arr_new, push_arr_next,
    push_arr_old, push_set_old, set_arr_self, set_arr_ne, hi, hs, ha, his, his.symm, hai, has, Ne, not_false_eq_true,
    List.cons_append, List.nil_append, List.length_cons, List.length_nil, List.getD_cons_zero, List.getD_cons_succ,
    Nat.lt_add_one, Nat.zero_add, Nat.reduceAdd, ← hA, ← hB] at hR
  -- the five read-offs: an old identity is looked up under the `push` (`push_arr_old`), then through the `set`s
  cases regularization
  · simp only [if_false, Bool.false_eq_true] at hR ⊢
    subst hR
    refine ⟨?_, ?_, rfl, fun k hk h1 h2 => ?_, fun _ _ => rfl⟩
    all_goals simp only [push_arr_old, next_set, set_arr_self, set_arr_ne, Ne, not_false_eq_true, *]
  · simp only [if_true] at hR ⊢
    subst hR
    refine ⟨?_, ?_, ?_, fun k hk h1 h2 => ?_, fun k hk => ?_⟩
    · simp only [push_arr_old, next_set, set_arr_self, set_arr_ne, Ne, not_false_eq_true, *]
    · simp only [push_arr_old, next_set, set_arr_self, *]
    · split <;> simp only [maskOr_eq, set_arr_self] <;> rfl
    · simp only [push_arr_old, next_set, set_arr_ne, Ne, not_false_eq_true, *]
    · split <;> simp only [maskOr_eq, set_arr_ne, Ne, not_false_eq_true, hk]

/-- **`MedianForIntervalsFilter.filter_disparity` regenerated = composed model.** -/
theorem medianForIntervals_generated (cfg : Cfg) (off ny nx inf sup amb mask : Nat) (s0 : Store Val) (f0 : Store Nat)
    (hi : inf < s0.next) (hs : sup < s0.next) (ha : amb < s0.next)
    (his : inf ≠ sup) (hai : amb ≠ inf) (has : amb ≠ sup) :
    (Generated.KernelsIntervals.medianForIntervals (modelReg cfg ny nx) cfg.fs cfg.regularization off ny nx
        inf sup amb mask s0 f0).1.arr inf
      = (FilterIntervals.medianForIntervals (Generated.Blocks.median cfg.fs)
          Generated.Constants.PANDORA_MSK_PIXEL_INTERVAL_REGULARIZED off cfg ny nx
          (s0.arr inf) (s0.arr sup) (s0.arr amb) (f0.arr mask)).inf
    ∧ (Generated.KernelsIntervals.medianForIntervals (modelReg cfg ny nx) cfg.fs cfg.regularization off ny nx
        inf sup amb mask s0 f0).1.arr sup
      = (FilterIntervals.medianForIntervals (Generated.Blocks.median cfg.fs)
          Generated.Constants.PANDORA_MSK_PIXEL_INTERVAL_REGULARIZED off cfg ny nx
          (s0.arr inf) (s0.arr sup) (s0.arr amb) (f0.arr mask)).sup
    ∧ (Generated.KernelsIntervals.medianForIntervals (modelReg cfg ny nx) cfg.fs cfg.regularization off ny nx
        inf sup amb mask s0 f0).2.arr mask
      = (FilterIntervals.medianForIntervals (Generated.Blocks.median cfg.fs)
          Generated.Constants.PANDORA_MSK_PIXEL_INTERVAL_REGULARIZED off cfg ny nx
          (s0.arr inf) (s0.arr sup) (s0.arr amb) (f0.arr mask)).flags
    ∧ (∀ k, k < s0.next → k ≠ inf → k ≠ sup →
        (Generated.KernelsIntervals.medianForIntervals (modelReg cfg ny nx) cfg.fs cfg.regularization off ny nx
          inf sup amb mask s0 f0).1.arr k = s0.arr k)
    ∧ (∀ k, k ≠ mask →
        (Generated.KernelsIntervals.medianForIntervals (modelReg cfg ny nx) cfg.fs cfg.regularization off ny nx
          inf sup amb mask s0 f0).2.arr k = f0.arr k) := by
  obtain ⟨h1, h2, h3, h4, h5⟩ := medianForIntervals_arrs (modelReg cfg ny nx) cfg.fs cfg.regularization off ny nx inf sup amb
    mask s0 f0 hi hs ha his hai has _ rfl _ _ rfl rfl
  refine ⟨h1.trans ?_, h2.trans ?_, h3.trans ?_, h4, h5⟩ <;> unfold FilterIntervals.medianForIntervals <;>
    cases cfg.regularization <;> rfl

/-- **`bit11_only` for the regenerated step** without `mask_border` (`offset_row_col = 0`): the mask differs from the
    old one by bit 11 at most. -/
theorem medianForIntervals_generated_spec (cfg : Cfg) (off ny nx inf sup amb mask : Nat) (s0 : Store Val)
    (f0 : Store Nat) (hi : inf < s0.next) (hs : sup < s0.next) (ha : amb < s0.next)
    (his : inf ≠ sup) (hai : amb ≠ inf) (has : amb ≠ sup) (hoff : off = 0) (r c : Nat) :
    flagSpec Generated.Constants.PANDORA_MSK_PIXEL_INTERVAL_REGULARIZED (f0.arr mask r c)
      ((Generated.KernelsIntervals.medianForIntervals (modelReg cfg ny nx) cfg.fs cfg.regularization off ny nx
          inf sup amb mask s0 f0).2.arr mask r c) true = true := by
  rw [(medianForIntervals_generated cfg off ny nx inf sup amb mask s0 f0 hi hs ha his hai has).2.2.1]
  subst hoff
  unfold FilterIntervals.medianForIntervals
  cases cfg.regularization
  · simp [flagSpec]
  · simp only [if_true, Nat.lt_irrefl, gt_iff_lt, if_false]
    exact C10.regularize_flagSpec _ _ _ r c

/-- `intervals_same_median` for the regenerated step (regularisation off: the bands are left as filtered) -/
theorem medianForIntervals_generated_bands (cfg : Cfg) (off ny nx inf sup amb mask : Nat) (s0 : Store Val)
    (f0 : Store Nat) (hi : inf < s0.next) (hs : sup < s0.next) (ha : amb < s0.next)
    (his : inf ≠ sup) (hai : amb ≠ inf) (has : amb ≠ sup) (hreg : cfg.regularization = false)
    (hodd : cfg.fs % 2 = 1) (hny : cfg.fs ≤ ny) (hnx : cfg.fs ≤ nx) (r c : Nat) :
    medianCellSpec (s0.arr inf) cfg.fs ny nx r c (s0.arr inf r c)
      ((Generated.KernelsIntervals.medianForIntervals (modelReg cfg ny nx) cfg.fs cfg.regularization off ny nx
          inf sup amb mask s0 f0).1.arr inf r c) = true
    ∧ medianCellSpec (s0.arr sup) cfg.fs ny nx r c (s0.arr sup r c)
      ((Generated.KernelsIntervals.medianForIntervals (modelReg cfg ny nx) cfg.fs cfg.regularization off ny nx
          inf sup amb mask s0 f0).1.arr sup r c) = true := by
  obtain ⟨h1, h2, _⟩ := medianForIntervals_generated cfg off ny nx inf sup amb mask s0 f0 hi hs ha his hai has
  rw [h1, h2]
  unfold FilterIntervals.medianForIntervals
  simp only [hreg, Bool.false_eq_true, if_false]
  exact ⟨C10.medianBand_spec _ cfg.fs ny nx _ rfl rfl hodd hny hnx r c,
    C10.medianBand_spec _ cfg.fs ny nx _ rfl rfl hodd hny hnx r c⟩

end Pandora.C10KernelsIntervals
