/-
  C12 — `IntervalBounds.compute_interval_bounds` REGENERATED from the Python source
  (`Generated/KernelsConf.lean: computeIntervalBoundsPx`, written by translator/gen_kernels_conf.py) is equal, for every
  cost curve, every disparity list, threshold, type factor and pair of global extremes with `max_cost ≠ min_cost`, and
  for EVERY `np.argsort` that returns a permutation of the indices, to the hand model `Confidence.pixelBounds`.

  `np.argsort` is uninterpreted in the generated definition (a function parameter): numba's argsort is not stable and
  the place of NaNs / ties is unspecified.  The theorems only assume `IsArgsort sort` (the result is a permutation of
  `0 … n-1`): the kernel uses the sorted indices only through `nanmin/nanmax(argsorted_poss[mask])`, i.e. as a set.
-/
import PandoraModel.Properties.C12Kernels
import PandoraModel.Lemmas.C12Bounds
import PandoraModel.Lemmas.PyExprRules


namespace Pandora.C12Kernels
open Pandora.Confidence Pandora.PyLoops Pandora.PyVec Pandora.C12
open Pandora.Generated.KernelsConf

/-- all that is assumed of `np.argsort`: it returns a permutation of the indices `0 … len(v)-1` -/
def IsArgsort (sort : List Fl → List Int) : Prop := ∀ v, List.Perm (sort v) (PyVec.arange (PyVec.len v))

theorem isArgsort_id : IsArgsort (fun v => PyVec.arange (PyVec.len v)) := fun _ => List.Perm.refl _

/-- the indices in reverse order are another instance: the hypothesis does not fix an order -/
theorem isArgsort_reverse : IsArgsort (fun v => (PyVec.arange (PyVec.len v)).reverse) :=
  fun _ => List.reverse_perm _

@[simp] theorem mul_fin (a b : ℚ) : Fl.mul (.fin a) (.fin b) = .fin (a * b) := rfl

/-- `v * s` is `s * v`: the rewrite a source with the operands commuted needs (the present proofs read the operands as written) -/
theorem mapR_mul_comm (v : List Fl) (s : Fl) : mapR Fl.mul v s = mapL Fl.mul s v := by
  simp [mapR, mapL, Fl.mul_comm]

theorem mapL_add_comm (v : List Fl) (s : Fl) : mapL Fl.add s v = mapR Fl.add v s := by
  simp [mapR, mapL, Fl.add_comm]

theorem eq_ofVal_one (v : Val) : Fl.eq (Fl.ofVal v) (Fl.fin 1) = isOne v := by
  cases v <;> simp [Fl.ofVal, Fl.eq, isOne]

theorem one_eq_ofVal (v : Val) : Fl.eq (Fl.fin 1) (Fl.ofVal v) = isOne v := by
  cases v <;> simp [Fl.ofVal, Fl.eq, isOne, eq_comm]

/-- `type_factor * ((cv - min_cost) / (max_cost - min_cost))` -/
theorem tfNorm_embed (mn mx tf : ℚ) (c : Curve) (hr : mx ≠ mn) :
    mapL Fl.mul (Fl.fin tf) (mapR fdiv (mapR Fl.sub (embedCurve c) (Fl.fin mn)) (Fl.fin (mx - mn)))
      = (tfNorm mn mx tf c).map Fl.ofVal := by
  have h0 : mx - mn ≠ 0 := sub_ne_zero.mpr hr
  simp only [mapL, mapR, embedCurve, tfNorm, List.map_map]
  apply List.map_congr_left
  intro v _
  cases v with
  | nan => simp [Fl.ofVal, hr, Fl.mul, Val.map]
  | num q => simp [Fl.ofVal, hr, Val.map, fdiv_fin _ _ h0]

theorem possibility_embed (mn mx tf : ℚ) (c : Curve) :
    mapR Fl.sub (mapR Fl.add ((tfNorm mn mx tf c).map Fl.ofVal) (Fl.fin 1)) (optNan (lmax (numsOf (tfNorm mn mx tf c))))
      = (possibility mn mx tf c).map Fl.ofVal := by
  unfold possibility
  simp only [mapR, List.map_map]
  cases lmax (numsOf (tfNorm mn mx tf c)) with
  | none =>
    simp only [List.map_map]
    apply List.map_congr_left
    intro v _
    cases v <;> simp [Fl.ofVal, optNan, Fl.sub, Fl.neg, Fl.add]
  | some M =>
    simp only [List.map_map]
    apply List.map_congr_left
    intro v _
    cases v <;> simp [Fl.ofVal, optNan, Val.map, Fl.sub, Fl.neg, Fl.add, sub_eq_add_neg]

theorem length_possibility (mn mx tf : ℚ) (c : Curve) : (possibility mn mx tf c).length = c.length := by
  have ht : (tfNorm mn mx tf c).length = c.length := by simp [tfNorm]
  simp only [possibility]
  split <;> simp [ht]

def keepIdx (thr : ℚ) (P : List Val) (i : Int) : Bool := geThr thr (P.getD i.toNat .nan)

/-- `possibility_threshold <= possibility[argsorted_poss]` as a mask over the sorted indices -/
theorem mask_embed (thr : ℚ) (P : List Val) (s : List Int) :
    mapL Fl.le (Fl.fin thr) (gather Fl.nan (P.map Fl.ofVal) s) = s.map (keepIdx thr P) := by
  simp only [mapL, gather, List.map_map]
  apply List.map_congr_left
  intro i _
  simp only [Function.comp, keepIdx, getAt_map_ofVal]
  cases P.getD i.toNat .nan with
  | nan => rfl
  | num p => simp [Fl.ofVal, geThr, Fl.le_fin]

/-- whatever the order of the sorted indices, the selected ones are the hand model's `selIdx`, as a multiset -/
theorem filter_perm_selIdx (thr : ℚ) (P : List Val) (s : List Int)
    (hs : s.Perm (PyVec.arange (P.length : Int))) :
    (s.filter (keepIdx thr P)).Perm ((selIdx thr P).map (fun (i : Nat) => (i : Int))) := by
  refine (hs.filter _).trans ?_
  rw [arange_natCast, selIdx, List.filter_map]
  apply List.Perm.of_eq
  congr 1

theorem lext_iminL (l : List Int) (h : l ≠ []) : lext (· ≤ ·) l = some (iminL l) := by
  induction l with
  | nil => exact absurd rfl h
  | cons a l ih =>
    cases l with
    | nil => rfl
    | cons b l => rw [lext_cons, ih (List.cons_ne_nil _ _)]; rfl

theorem lext_imaxL (l : List Int) (h : l ≠ []) : lext (· ≥ ·) l = some (imaxL l) := by
  induction l with
  | nil => exact absurd rfl h
  | cons a l ih =>
    cases l with
    | nil => rfl
    | cons b l => rw [lext_cons, ih (List.cons_ne_nil _ _)]; rfl

theorem iminL_spec (l : List Int) (h : l ≠ []) : iminL l ∈ l ∧ ∀ x ∈ l, iminL l ≤ x :=
  lext_spec _ Int.le_total (fun _ _ _ => Int.le_trans) l _ (lext_iminL l h)

theorem imaxL_spec (l : List Int) (h : l ≠ []) : imaxL l ∈ l ∧ ∀ x ∈ l, x ≤ imaxL l :=
  lext_spec _ (fun a b => Int.le_total b a) (fun _ _ _ h1 h2 => Int.le_trans h2 h1) l _ (lext_imaxL l h)

/-- `np.nanmin` of a non-empty integer vector is characterised by membership and being a lower bound: invariant under
    permutation -/
theorem iminL_eq_of (l : List Int) (m : Int) (hmem : m ∈ l) (hlb : ∀ x ∈ l, m ≤ x) : iminL l = m := by
  obtain ⟨h1, h2⟩ := iminL_spec l (List.ne_nil_of_mem hmem)
  exact le_antisymm (h2 m hmem) (hlb _ h1)

theorem imaxL_eq_of (l : List Int) (m : Int) (hmem : m ∈ l) (hub : ∀ x ∈ l, x ≤ m) : imaxL l = m := by
  obtain ⟨h1, h2⟩ := imaxL_spec l (List.ne_nil_of_mem hmem)
  exact le_antisymm (hub _ h1) (h2 m hmem)

/-- the extrema of the selected indices, in whatever order `argsort` lists them -/
theorem iminL_perm (L : List Int) (sel : List Nat) (hp : L.Perm (sel.map (fun (i : Nat) => (i : Int)))) (lo : Nat)
    (hmem : lo ∈ sel) (hle : ∀ j ∈ sel, lo ≤ j) : iminL L = lo :=
  iminL_eq_of L lo (hp.mem_iff.2 (List.mem_map_of_mem hmem)) fun x hx => by
    obtain ⟨j, hj, rfl⟩ := List.mem_map.1 (hp.mem_iff.1 hx)
    exact Int.ofNat_le.2 (hle j hj)

theorem imaxL_perm (L : List Int) (sel : List Nat) (hp : L.Perm (sel.map (fun (i : Nat) => (i : Int)))) (hi : Nat)
    (hmem : hi ∈ sel) (hge : ∀ j ∈ sel, j ≤ hi) : imaxL L = hi :=
  imaxL_eq_of L hi (hp.mem_iff.2 (List.mem_map_of_mem hmem)) fun x hx => by
    obtain ⟨j, hj, rfl⟩ := List.mem_map.1 (hp.mem_iff.1 hx)
    exact Int.ofNat_le.2 (hge j hj)

theorem imax_pred' (lo : Nat) : PyExpr.imax ((lo : Int) - 1) 0 = ((lo - 1 : Nat) : Int) :=
  PyExpr.imax_pred' lo

theorem imin_succ' (n hi : Nat) (hn : 0 < n) :
    PyExpr.imin ((hi : Int) + 1) ((n : Int) - 1) = ((min (n - 1) (hi + 1) : Nat) : Int) :=
  PyExpr.imin_succ' n hi hn

/-- what the two final subscripts `disp_interval[min_idx]`, `disp_interval[max_idx]` give: the two disparities, or a
    shape error when `disp_interval` is too short for one of the indices -/
def boundsRes (disp : List ℚ) : Option (Nat × Nat) → PyVec.Res (Fl × Fl)
  | none => .ok (.nan, .nan)
  | some (lo, hi) =>
    if lo < disp.length ∧ hi < disp.length then .ok (.fin (disp.getD lo 0), .fin (disp.getD hi 0)) else .shapeError

theorem lookup_embed (disp : List ℚ) (a b : Nat) :
    (if (inRange (PyVec.len (embedQ disp)) (a : Int) && inRange (PyVec.len (embedQ disp)) (b : Int)) = true
      then PyVec.Res.ok (getAt Fl.nan (embedQ disp) (a : Int), getAt Fl.nan (embedQ disp) (b : Int))
      else PyVec.Res.shapeError)
    = boundsRes disp (some (a, b)) := by
  rw [len_embedQ, inRange_natCast, inRange_natCast, boundsRes]
  by_cases ha : a < disp.length <;> by_cases hb : b < disp.length <;>
    simp [ha, hb, getAt_natCast, embedQ, List.getD_eq_getElem?_getD]

-- which of the clamp lemmas and of `eq_ofVal_one` / `one_eq_ofVal` fire depends on the operand order of the source
set_option linter.unusedSimpArgs false in
/-- `compute_interval_bounds` for a `disp_interval` of any length and any argsort returning a permutation: the
    generated function selects the hand model's two indices `boundIdx`, and is a shape error exactly when
    `disp_interval` is too short for one of them -/
theorem computeIntervalBounds_generated_run (sort : List Fl → List Int) (hsort : IsArgsort sort)
    (mn mx tf thr : ℚ) (disp : List ℚ) (c : Curve) (hr : mx ≠ mn) (hc : c ≠ []) :
    computeIntervalBoundsPx sort (embedCurve c) (embedQ disp) (Fl.fin thr) (Fl.fin tf) (Fl.fin mn) (Fl.fin mx)
      = boundsRes disp (boundIdx thr (possibility mn mx tf c)) := by
  have hlen : 0 < c.length := List.length_pos_iff.mpr hc
  have hPlen : (possibility mn mx tf c).length = c.length := length_possibility mn mx tf c
  have hne1 : nonEmpty (List.map Fl.ofVal (tfNorm mn mx tf c)) = true := by
    cases c with
    | nil => exact absurd rfl hc
    | cons a l => rfl
  simp only [computeIntervalBoundsPx, len_embedCurve, Fl.sub_fin, tfNorm_embed mn mx tf c hr,
    nanmax_ofVal, possibility_embed]
  generalize possibility mn mx tf c = P at hPlen ⊢
  have hperm : (sort (P.map Fl.ofVal)).Perm (PyVec.arange (P.length : Int)) := by
    simpa [PyVec.len] using hsort (P.map Fl.ofVal)
  generalize sort (P.map Fl.ofVal) = s at hperm ⊢
  have hgo : gatherOk (P.map Fl.ofVal) s = true := gatherOk_perm _ _ (by simpa [PyVec.len] using hperm)
  have hsame : sameLen s (List.map (keepIdx thr P) s) = true := by simp
  simp only [mask_embed, select_self, countTrue_map, hgo]
  have hL := filter_perm_selIdx thr P s hperm
  generalize List.filter (keepIdx thr P) s = L at hL ⊢
  rcases boundIdx_cases thr P with ⟨hnil, hb⟩ | ⟨lo, hi, hlomem, hhimem, hbd, hb⟩
  · rw [hnil] at hL
    rw [hb, List.Perm.eq_nil hL]
    simp [boundsRes, tfNorm, hc]
  · have hLne : L ≠ [] := List.ne_nil_of_mem (hL.mem_iff.2 (List.mem_map_of_mem hlomem))
    have hLlen : decide ((L.length : Int) ≠ 0) = true := by
      have := List.length_pos_iff.2 hLne
      simp; omega
    have hLnonempty : nonEmpty L = true := by simp [hLne]
    have hlolt : lo < c.length := hPlen ▸ ((mem_selIdx thr P lo).1 hlomem).1
    have hhilt : hi < c.length := hPlen ▸ ((mem_selIdx thr P hi).1 hhimem).1
    -- the two extrema whatever the order of `argsort`; `max(0, lo - 1)` and `min(n - 1, hi + 1)` with either operand order
    simp only [iminL_perm L _ hL lo hlomem fun j hj => (hbd j hj).1, imaxL_perm L _ hL hi hhimem fun j hj => (hbd j hj).2,
      hLlen, hLnonempty, hsame, hne1, getAt_map_ofVal, Int.toNat_natCast, eq_ofVal_one, one_eq_ofVal,
      PyExpr.imax_pred, imax_pred', PyExpr.imin_succ _ _ hlen, imin_succ' _ _ hlen, len, List.length_map,
      inRange_natCast, hlolt, hhilt, hb, hPlen]
    cases isOne (P.getD lo Val.nan) <;> cases isOne (P.getD hi Val.nan) <;>
      simp only [Bool.false_eq_true, if_false, if_true, decide_true, Bool.and_true, Bool.true_and] <;>
      exact lookup_embed disp _ _

/-- `compute_interval_bounds`: the generated per-pixel function is the hand model's `pixelBounds` whenever
    `disp_interval` is at least as long as the curve -/
theorem computeIntervalBounds_generated_eq_of_le (sort : List Fl → List Int) (hsort : IsArgsort sort)
    (mn mx tf thr : ℚ) (disp : List ℚ) (c : Curve) (hr : mx ≠ mn) (hc : c ≠ []) (hd : c.length ≤ disp.length) :
    computeIntervalBoundsPx sort (embedCurve c) (embedQ disp) (Fl.fin thr) (Fl.fin tf) (Fl.fin mn) (Fl.fin mx)
      = .ok (Fl.ofVal (pixelBounds mn mx tf thr disp c).1, Fl.ofVal (pixelBounds mn mx tf thr disp c).2) := by
  rw [computeIntervalBounds_generated_run sort hsort mn mx tf thr disp c hr hc]
  unfold pixelBounds
  cases hb : boundIdx thr (possibility mn mx tf c) with
  | none => rfl
  | some p =>
    obtain ⟨lo, hi⟩ := p
    obtain ⟨h1, h2, _⟩ := boundIdx_lt thr _ lo hi hb
    rw [length_possibility] at h1 h2
    have : lo < disp.length ∧ hi < disp.length := ⟨by omega, by omega⟩
    simp only [boundsRes, this, and_self, if_true, Fl.ofVal]

theorem computeIntervalBounds_generated_eq (sort : List Fl → List Int) (hsort : IsArgsort sort)
    (mn mx tf thr : ℚ) (disp : List ℚ) (c : Curve) (hr : mx ≠ mn) (hc : c ≠ []) (hd : disp.length = c.length) :
    computeIntervalBoundsPx sort (embedCurve c) (embedQ disp) (Fl.fin thr) (Fl.fin tf) (Fl.fin mn) (Fl.fin mx)
      = .ok (Fl.ofVal (pixelBounds mn mx tf thr disp c).1, Fl.ofVal (pixelBounds mn mx tf thr disp c).2) :=
  computeIntervalBounds_generated_eq_of_le sort hsort mn mx tf thr disp c hr hc (by omega)

/-- an empty curve is a shape error (`np.nanmax` of an empty slice raises) -/
theorem computeIntervalBounds_generated_empty (sort : List Fl → List Int) (hsort : IsArgsort sort)
    (mn mx tf thr : Fl) (disp : List Fl) :
    computeIntervalBoundsPx sort [] disp thr tf mn mx = .shapeError := by
  have hs : sort [] = [] := by
    have := hsort []
    simpa [PyVec.arange, PyVec.len] using this
  simp [computeIntervalBoundsPx, mapR, mapL, hs, gather, nonEmpty, countTrue]

/-- **shape error ⇔ a subscript of `disp_interval` is out of range.**  The source never compares the length of
    `disp_interval` with `n_disp`; what it does is subscript it with the two final indices.  So the generated function
    returns `shapeError` exactly when the curve is empty or `disp_interval` is too short for the larger of the two
    indices the hand model selects — a longer `disp_interval` is silently accepted, a shorter one too as long as the
    indices stay inside (see the `example`s below). -/
theorem computeIntervalBounds_generated_shapeError_iff (sort : List Fl → List Int) (hsort : IsArgsort sort)
    (mn mx tf thr : ℚ) (disp : List ℚ) (c : Curve) (hr : mx ≠ mn) :
    computeIntervalBoundsPx sort (embedCurve c) (embedQ disp) (Fl.fin thr) (Fl.fin tf) (Fl.fin mn) (Fl.fin mx)
        = .shapeError
      ↔ c = [] ∨ ∃ lo hi, boundIdx thr (possibility mn mx tf c) = some (lo, hi) ∧ disp.length ≤ hi := by
  by_cases hc : c = []
  · subst hc
    simp [embedCurve, computeIntervalBounds_generated_empty sort hsort]
  · rw [computeIntervalBounds_generated_run sort hsort mn mx tf thr disp c hr hc]
    cases hb : boundIdx thr (possibility mn mx tf c) with
    | none => simp [boundsRes, hc]
    | some p =>
      obtain ⟨lo, hi⟩ := p
      obtain ⟨_, _, hle⟩ := boundIdx_lt thr _ lo hi hb
      simp only [boundsRes, hc, false_or, Option.some.injEq, Prod.mk.injEq]
      constructor
      · intro h
        refine ⟨lo, hi, ⟨rfl, rfl⟩, ?_⟩
        by_contra hcon
        have : lo < disp.length ∧ hi < disp.length := ⟨by omega, by omega⟩
        simp [this] at h
      · rintro ⟨lo', hi', ⟨rfl, rfl⟩, h⟩
        have : ¬ (lo < disp.length ∧ hi < disp.length) := by omega
        simp [this]

theorem computeIntervalBounds_generated_no_shapeError (sort : List Fl → List Int) (hsort : IsArgsort sort)
    (mn mx tf thr : ℚ) (disp : List ℚ) (c : Curve) (hr : mx ≠ mn) (hc : c ≠ []) (hd : c.length ≤ disp.length) :
    computeIntervalBoundsPx sort (embedCurve c) (embedQ disp) (Fl.fin thr) (Fl.fin tf) (Fl.fin mn) (Fl.fin mx)
      ≠ .shapeError := by
  rw [computeIntervalBounds_generated_eq_of_le sort hsort mn mx tf thr disp c hr hc hd]
  simp

/-- the all-NaN pixel gets `(NaN, NaN)`; the length of the disparity list is not even looked at -/
theorem computeIntervalBounds_generated_all_nan (sort : List Fl → List Int) (hsort : IsArgsort sort)
    (mn mx tf thr : ℚ) (disp : List ℚ) (c : Curve) (hr : mx ≠ mn) (hc : c ≠ []) (hall : ∀ v ∈ c, v = Val.nan) :
    computeIntervalBoundsPx sort (embedCurve c) (embedQ disp) (Fl.fin thr) (Fl.fin tf) (Fl.fin mn) (Fl.fin mx)
      = .ok (Fl.nan, Fl.nan) := by
  rw [computeIntervalBounds_generated_run sort hsort mn mx tf thr disp c hr hc, boundIdx_all_nan _ _ _ _ c hall]
  rfl

theorem computeIntervalBounds_generated_finite (sort : List Fl → List Int) (hsort : IsArgsort sort) (isMax : Bool)
    (mn mx thr : ℚ) (disp : List ℚ) (c : Curve) (hlt : mn < mx) (hthr : thr ≤ 1) (hd : disp.length = c.length)
    (b : ℚ) (hb : Spec.best isMax c = some b) :
    ∃ lo hi : ℚ, computeIntervalBoundsPx sort (embedCurve c) (embedQ disp) (Fl.fin thr) (Fl.fin (typeFactor isMax))
      (Fl.fin mn) (Fl.fin mx) = .ok (Fl.fin lo, Fl.fin hi) := by
  have hc : c ≠ [] := by
    intro h; subst h; simp [Spec.best, numsOf, lmin, lmax] at hb
  rw [computeIntervalBounds_generated_eq sort hsort mn mx _ thr disp c (ne_of_gt hlt) hc hd]
  obtain ⟨lo, hi, h⟩ := pixelBounds_finite isMax mn mx thr disp c hlt hthr b hb
  exact ⟨lo, hi, by rw [h]; rfl⟩

/-- **bounds_def** about the generated function (pixel level, both measure types, any argsort) -/
theorem bounds_def_generated (sort : List Fl → List Int) (hsort : IsArgsort sort) (isMax : Bool)
    (mn mx thr : ℚ) (disp : List ℚ) (c : Curve) (hlt : mn < mx) (hthr : thr ≤ 1) (hc : c ≠ [])
    (hd : disp.length = c.length) :
    ∃ inf sup : Val,
      computeIntervalBoundsPx sort (embedCurve c) (embedQ disp) (Fl.fin thr) (Fl.fin (typeFactor isMax))
        (Fl.fin mn) (Fl.fin mx) = .ok (Fl.ofVal inf, Fl.ofVal sup) ∧
      Spec.boundsOk isMax mn mx thr disp c inf sup = true :=
  ⟨_, _, computeIntervalBounds_generated_eq sort hsort mn mx _ thr disp c (ne_of_gt hlt) hc hd,
    pixelBounds_def isMax mn mx thr disp c hlt hthr⟩

/-- **bounds_bracket_wta** about the generated function (pixel level) -/
theorem bounds_bracket_wta_generated (sort : List Fl → List Int) (hsort : IsArgsort sort) (isMax : Bool)
    (mn mx thr : ℚ) (disp : List ℚ) (c : Curve) (hlt : mn < mx) (hthr : thr ≤ 1)
    (hdisp : disp.Pairwise (· ≤ ·)) (hd : disp.length = c.length) (w : Nat) (hw : wtaIdx isMax c = some w) :
    ∃ inf sup : Val,
      computeIntervalBoundsPx sort (embedCurve c) (embedQ disp) (Fl.fin thr) (Fl.fin (typeFactor isMax))
        (Fl.fin mn) (Fl.fin mx) = .ok (Fl.ofVal inf, Fl.ofVal sup) ∧
      Spec.bracket inf sup (disp.getD w 0) = true := by
  obtain ⟨hwlt, b, hb, hcw⟩ := wtaIdx_best isMax c w hw
  have hc : c ≠ [] := by intro h; subst h; simp at hwlt
  exact ⟨_, _, computeIntervalBounds_generated_eq sort hsort mn mx _ thr disp c (ne_of_gt hlt) hc hd,
    pixelBounds_bracket isMax mn mx thr disp c hlt hthr hdisp hd b hb w hwlt hcw⟩

-- the hypotheses are satisfiable together, with an argsort that is not the identity, NaN holes, a tie at the best
example : IsArgsort (fun v => (PyVec.arange (PyVec.len v)).reverse) := isArgsort_reverse
example :
    computeIntervalBoundsPx (fun v => (PyVec.arange (PyVec.len v)).reverse)
      (embedCurve [.num 4, .num 2, .nan, .num 0, .num 0, .num 3]) (embedQ [-3, -2, -1, 0, 1, 2])
      (Fl.fin (3 / 4)) (Fl.fin (-1)) (Fl.fin 0) (Fl.fin 4) = .ok (Fl.fin (-1), Fl.fin 2) := by
  rw [computeIntervalBounds_generated_eq _ isArgsort_reverse 0 4 (-1) (3 / 4) _ _ (by decide) (by decide) (by decide)]
  decide +kernel
-- a `disp_interval` shorter than the curve: an error when the upper index needs the missing cell, silently accepted otherwise
example : computeIntervalBoundsPx (fun v => PyVec.arange (PyVec.len v)) (embedCurve [.num 1, .num 2]) (embedQ [0])
    (Fl.fin 0) (Fl.fin (-1)) (Fl.fin 1) (Fl.fin 2) = .shapeError := by decide +kernel
example : computeIntervalBoundsPx (fun v => PyVec.arange (PyVec.len v)) (embedCurve [.num 1, .num 2, .num 2, .num 2]) (embedQ [0, 1])
    (Fl.fin 1) (Fl.fin (-1)) (Fl.fin 1) (Fl.fin 2) = .ok (Fl.fin 0, Fl.fin 1) := by decide +kernel

end Pandora.C12Kernels
