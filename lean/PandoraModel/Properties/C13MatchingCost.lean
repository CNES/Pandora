/-
  C13 — locality of the matching-cost step (model of C02: `MC.costVolume`, through its proved
  specification `MC.specCell`, for sad, ssd, census and zncc).

  The cell `(r, c, k/sp)` of the cost volume reads
    * the left image and left mask on the window of radius `w/2` around `(r, c)`,
    * the right image and right mask on the window around `(r, c + ⌊k/sp⌋)` and, for a fractional
      disparity, around its right-hand neighbour `(r, c + ⌊k/sp⌋ + 1)`,
    * the pixel's own disparity interval,
    * and whether those windows lie in the images (a window cut by the image border gives NaN).
  Two inputs that agree on those windows, one being read through a row isometry (a translation, or a reflection: the
  image listed bottom-up) and a translation of the columns, give the same cell (`coreCell_iso`); the step on partial
  images ("outside the image" = `none`) is `mcCellStep`.
-/
import PandoraModel.Model.PipelineRun
import PandoraModel.Properties.C13Commutes
import PandoraModel.Properties.C02

namespace Pandora.C13
open Pandora.Locality Pandora.MC

def InWin (o : Nat) (r c a b : Int) : Prop := r - o ≤ a ∧ a ≤ r + o ∧ c - o ≤ b ∧ b ≤ c + o

theorem inWin_centre (o : Nat) (r c : Int) : InWin o r c r c := by unfold InWin; omega

/-- an isometry of the row axis: a translation (a crop) or a reflection (the image listed bottom-up) -/
def RowIso (σ : Int → Int) : Prop := (∃ t, ∀ a, σ a = a - t) ∨ (∃ t, ∀ a, σ a = t - a)

theorem rowIso_sub (t : Int) : RowIso (· - t) := Or.inl ⟨t, fun _ => rfl⟩

theorem rowIso_neg : RowIso (- ·) := Or.inr ⟨0, fun a => (Int.zero_sub a).symm⟩

theorem sumZ_front {α : Type} [Add α] (hr : ∀ a b c : α, a + b + c = a + c + b) (z : α) (f : Int → α)
    (lo : Int) (n : Nat) : sumZ z f lo (n + 1) = sumZ z f (lo + 1) n + f lo := by
  induction n with
  | zero =>
    show z + f (lo + ((0 : Nat) : Int)) = z + f lo
    rw [Int.natCast_zero, Int.add_zero]
  | succ n ih =>
    show sumZ z f lo (n + 1) + f (lo + ((n + 1 : Nat) : Int)) = (sumZ z f (lo + 1) n + f (lo + 1 + (n : Int))) + f lo
    rw [ih, hr, Int.natCast_succ, ← Int.add_assoc, Int.add_right_comm lo]

theorem sumZ_reverse {α : Type} [Add α] (hr : ∀ a b c : α, a + b + c = a + c + b) (z : α) (f : Int → α)
    (lo : Int) (n : Nat) : sumZ z f lo n = sumZ z (fun i => f (-i)) (-(lo + n) + 1) n := by
  induction n with
  | zero => rfl
  | succ n ih =>
    have e : -(lo + ((n + 1 : Nat) : Int)) + 1 = -(lo + (n : Int)) := by
      rw [Int.natCast_succ, ← Int.add_assoc, Int.neg_add (a := lo + n), Int.neg_add_cancel_right]
    rw [e, sumZ_front hr z (fun i => f (-i)), ← ih]
    exact congrArg (fun i => sumZ z f lo n + f i) (Int.neg_neg _).symm

/-- **The one place where the rows matter**: a commutative fold over the rows `[r - o, r + o]` of a window, seen through a
    row isometry `σ`, is the fold over the rows `[σ r - o, σ r + o]`, met in the same or in the opposite order. -/
theorem sumZ_rowIso {α : Type} [Add α] (hr : ∀ a b c : α, a + b + c = a + c + b) (z : α) (f g : Int → α)
    {σ : Int → Int} (hσ : RowIso σ) (r : Int) (o : Nat) (h : ∀ a, r - o ≤ a → a ≤ r + o → f a = g (σ a)) :
    sumZ z f (r - o) (2 * o + 1) = sumZ z g (σ r - o) (2 * o + 1) := by
  rcases hσ with ⟨t, ht⟩ | ⟨t, ht⟩
  · refine sumZ_transport z f g _ _ _ fun i hi => ?_
    rw [h _ (by omega) (by omega), ht, ht]
    congr 1; omega
  · rw [sumZ_reverse hr z g]
    refine sumZ_transport z f _ _ _ _ fun i hi => ?_
    rw [h _ (by omega) (by omega), ht, ht]
    congr 1; omega

/-- any commutative fold over the window (`winSum`, `winCount`, `winAll`) of a function that agrees, on the window, with
    another one read through a row isometry and a translation of the columns -/
theorem sumZ_window_iso {α : Type} [Add α] (hr : ∀ a b c : α, a + b + c = a + c + b) (z : α) (o : Nat)
    (f g : Int → Int → α) {σ : Int → Int} (hσ : RowIso σ) (r c t2 : Int)
    (h : ∀ a b, InWin o r c a b → f a b = g (σ a) (b - t2)) :
    sumZ z (fun a => sumZ z (fun b => f a b) (c - o) (2 * o + 1)) (r - o) (2 * o + 1)
      = sumZ z (fun a => sumZ z (fun b => g a b) (c - t2 - o) (2 * o + 1)) (σ r - o) (2 * o + 1) :=
  sumZ_rowIso hr z _ _ hσ r o fun a h1 h2 => sumZ_transport z _ _ _ _ _ fun j hj => by
    rw [h a _ (by unfold InWin; omega)]
    congr 1; omega

theorem winAll_iso {σ : Int → Int} (hσ : RowIso σ) (o : Nat) (f g : Int → Int → Bool) (r c t2 : Int)
    (h : ∀ a b, InWin o r c a b → f a b = g (σ a) (b - t2)) :
    winAll o f r c = winAll o g (σ r) (c - t2) := by
  unfold winAll
  simp only [allZ_eq_sumZ]
  exact @sumZ_window_iso Bool ⟨and⟩ Bool.and_right_comm true o f g σ hσ r c t2 h

/-- **The textbook value only reads the two windows**: every measure is a function of folds, over the window, of pointwise
    functions of the two images (and, for census, of the two centre values); the fold may be any commutative one, so that the
    rows of the window may be met in either order (`sumZ_window_iso`). -/
theorem valueSpec_iso {σ : Int → Int} (hσ : RowIso σ) (x x' : Input) (hm : x'.meas = x.meas) (hw : x'.w = x.w)
    (r c k t2 : Int)
    (hL : ∀ a b, InWin (half x.w) r c a b → x.L.px a b = x'.L.px (σ a) (b - t2))
    (hR : ∀ a b, InWin (half x.w) r c a b →
      interpR x.R x.sp k a b = interpR x'.R x'.sp k (σ a) (b - t2)) :
    valueSpec x r c k = valueSpec x' (σ r) (c - t2) k := by
  have hF : ∀ {α : Type} (F : Rat → Rat → α) a b, InWin (half x.w) r c a b →
      F (x.L.px a b) (interpR x.R x.sp k a b) = F (x'.L.px (σ a) (b - t2)) (interpR x'.R x'.sp k (σ a) (b - t2)) :=
    fun F a b hab => by rw [hL a b hab, hR a b hab]
  have S : ∀ F : Rat → Rat → Rat,
      winSum (half x.w) (fun a b => F (x.L.px a b) (interpR x.R x.sp k a b)) r c
        = winSum (half x.w) (fun a b => F (x'.L.px a b) (interpR x'.R x'.sp k a b)) (σ r) (c - t2) :=
    fun F => sumZ_window_iso add_right_comm 0 _ _ _ hσ r c t2 (hF F)
  unfold valueSpec
  rw [hm, hw]
  cases x.meas with
  | sad => exact congrArg Cell.num (S fun l r => ratAbs (l - r))
  | ssd => exact congrArg Cell.num (S fun l r => (l - r) * (l - r))
  | census =>
    simp only [← hL r c (inWin_centre _ r c), ← hR r c (inWin_centre _ r c)]
    exact congrArg (fun n : Nat => Cell.num (n : Rat)) (sumZ_window_iso Nat.add_right_comm 0 _ _ _ hσ r c t2 (hF fun l q =>
      if (decide (l > x.L.px r c) != decide (q > interpR x.R x.sp k r c)) = true then 1 else 0))
  | zncc =>
    simp only [S fun l _ => l, S fun _ r => r, S fun l r => l * r, S fun l _ => l * l, S fun _ r => r * r]

theorem maskOk_iso {σ : Int → Int} (hσ : RowIso σ) (o : Nat) (m m' : Mask) (hp : m'.present = m.present)
    (hv : m'.valid = m.valid) (hn : m'.nodata = m.nodata) (r c t2 : Int)
    (h : ∀ a b, InWin o r c a b → m.code a b = m'.code (σ a) (b - t2)) :
    maskOk o m r c = maskOk o m' (σ r) (c - t2) := by
  unfold maskOk
  congr 1
  · apply winAll_iso hσ
    intro a b hab
    unfold isNodata
    rw [hp, hn, h a b hab]
  · unfold isInvalid
    rw [hp, hn, hv, h r c (inWin_centre o r c)]

/-- the prescribed cell of a pixel whose two windows lie in the images: reads no image size -/
def coreCell (x : Input) (r c k : Int) : Cell :=
  if (¬ (k < x.dminG r c * (x.sp : Int) ∨ k > x.dmaxG r c * (x.sp : Int))) ∧
      maskOk (half x.w) x.mL r c = true ∧ maskOkR x r c k = true then valueSpec x r c k else .nan

theorem specCell_eq_core (x : Input) (r c k : Int) :
    specCell x r c k = if LeftInside x r c ∧ RightInside x c k then coreCell x r c k else .nan := by
  unfold specCell coreCell
  by_cases h : cause x r c k = .computable
  · have h' := (cause_computable_iff x r c k).1 h
    rw [if_pos h, if_pos ⟨h'.2.1, h'.2.2.1⟩, if_pos ⟨h'.1, h'.2.2.2⟩]
  · rw [if_neg h]
    by_cases hin : LeftInside x r c ∧ RightInside x c k
    · rw [if_pos hin, if_neg]
      intro hc
      exact h ((cause_computable_iff x r c k).2 ⟨hc.1, hin.1, hin.2, hc.2⟩)
    · rw [if_neg hin]

theorem specCell_isNan (x : Input) (r c k : Int) : (specCell x r c k).isNan = !decide (cause x r c k = .computable) := by
  unfold specCell
  by_cases hc : cause x r c k = .computable
  · rw [if_pos hc, C02.valueSpec_isNan]; simp [hc]
  · rw [if_neg hc]; simp [hc, Cell.isNan]

/-- `(a, b)` is in one of the right windows of `(r, c)` at disparity `k/sp`: rows within `o`, columns from
    `c + ⌊k/sp⌋ - o` to `c + ⌊k/sp⌋ + o` (`+ 1` for a fractional disparity) -/
def InWinR (o sp : Nat) (r c k a b : Int) : Prop :=
  r - o ≤ a ∧ a ≤ r + o ∧ c + k / (sp : Int) - o ≤ b ∧ b ≤ c + k / (sp : Int) + o + fracBit k sp

theorem inWinR_left {o sp : Nat} {r c k a b : Int} (h : InWin o r c a b) : InWinR o sp r c k a (b + k / (sp : Int)) := by
  have := fracBit_nonneg k sp
  unfold InWin at h
  unfold InWinR
  omega

theorem inWinR_right {o sp : Nat} {r c k a b : Int} (hne : k % (sp : Int) ≠ 0) (h : InWin o r c a b) :
    InWinR o sp r c k a (b + k / (sp : Int) + 1) := by
  have hfb : fracBit k sp = 1 := if_neg hne
  unfold InWin at h
  unfold InWinR
  omega

theorem inWinR_of_inWin {o sp : Nat} {r c k a b : Int} (h : InWin o r (c + k / (sp : Int)) a b) :
    InWinR o sp r c k a b := by
  have := fracBit_nonneg k sp
  unfold InWin at h
  unfold InWinR
  omega

theorem inWinR_of_inWin_succ {o sp : Nat} {r c k a b : Int} (hfb : fracBit k sp ≠ 0)
    (h : InWin o r (c + k / (sp : Int) + 1) a b) : InWinR o sp r c k a b := by
  have := fracBit_le_one k sp
  have := fracBit_nonneg k sp
  unfold InWin at h
  unfold InWinR
  omega

/-- the interpolated right value on the left window reads the right image on the right window(s) -/
theorem interpR_iso (R R' : Img) (sp o : Nat) (σ : Int → Int) (r c k t2 : Int)
    (hR : ∀ a b, InWinR o sp r c k a b → R.px a b = R'.px (σ a) (b - t2)) (a b : Int) (hab : InWin o r c a b) :
    interpR R sp k a b = interpR R' sp k (σ a) (b - t2) := by
  have e0 : b - t2 + k / (sp : Int) = b + k / (sp : Int) - t2 := by omega
  have e1 : b + k / (sp : Int) - t2 + 1 = b + k / (sp : Int) + 1 - t2 := by omega
  unfold interpR
  simp only
  by_cases ht : k % (sp : Int) = 0
  · rw [if_pos ht, if_pos ht, hR _ _ (inWinR_left hab), e0]
  · rw [if_neg ht, if_neg ht, hR _ _ (inWinR_left hab), hR _ _ (inWinR_right ht hab), e0, e1]

theorem maskOkR_iso {σ : Int → Int} (hσ : RowIso σ) (x x' : Input) (hw : x'.w = x.w) (hsp : x'.sp = x.sp)
    (hp : x'.mR.present = x.mR.present) (hv : x'.mR.valid = x.mR.valid) (hn : x'.mR.nodata = x.mR.nodata)
    (r c k t2 : Int)
    (hR : ∀ a b, InWinR (half x.w) x.sp r c k a b → x.mR.code a b = x'.mR.code (σ a) (b - t2)) :
    maskOkR x r c k = maskOkR x' (σ r) (c - t2) k := by
  have e0 : c - t2 + k / (x.sp : Int) = c + k / (x.sp : Int) - t2 := by omega
  have e1 : c + k / (x.sp : Int) - t2 + 1 = c + k / (x.sp : Int) + 1 - t2 := by omega
  unfold maskOkR
  rw [hw, hsp, e0, e1, ← maskOk_iso hσ _ _ _ hp hv hn r _ t2 fun a b hab => hR a b (inWinR_of_inWin hab)]
  by_cases hfb : fracBit k x.sp = 0
  · simp [hfb]
  · rw [← maskOk_iso hσ _ _ _ hp hv hn r _ t2 fun a b hab => hR a b (inWinR_of_inWin_succ hfb hab)]

/-- **One cell only reads the left window, the right window(s) and the pixel's interval — wherever the
    pixel is.**  `x'` is any input with the configuration of `x` that agrees with `x` on those windows, read through a
    row isometry `σ` and a translation `t2` of the columns (the columns are computed with: `c + ⌊k/sp⌋`). -/
theorem coreCell_iso {σ : Int → Int} (hσ : RowIso σ) (x x' : Input) (hp : paramsOf x' = paramsOf x) (r c k t2 : Int)
    (hL : ∀ a b, InWin (half x.w) r c a b →
      x.L.px a b = x'.L.px (σ a) (b - t2) ∧ x.mL.code a b = x'.mL.code (σ a) (b - t2))
    (hR : ∀ a b, InWinR (half x.w) x.sp r c k a b →
      x.R.px a b = x'.R.px (σ a) (b - t2) ∧ x.mR.code a b = x'.mR.code (σ a) (b - t2))
    (hg : x.dminG r c = x'.dminG (σ r) (c - t2) ∧ x.dmaxG r c = x'.dmaxG (σ r) (c - t2)) :
    coreCell x r c k = coreCell x' (σ r) (c - t2) k := by
  obtain ⟨hm, hw, hsp, hpL, hvL, hnL, hpR, hvR, hnR⟩ := McParams.mk.inj hp
  have hv : valueSpec x r c k = valueSpec x' (σ r) (c - t2) k :=
    valueSpec_iso hσ x x' hm hw r c k t2 (fun a b hab => (hL a b hab).1)
      (hsp ▸ interpR_iso x.R x'.R x.sp _ σ r c k t2 fun a b hab => (hR a b hab).1)
  have hmL : maskOk (half x.w) x.mL r c = maskOk (half x.w) x'.mL (σ r) (c - t2) :=
    maskOk_iso hσ _ _ _ hpL hvL hnL r c t2 fun a b hab => (hL a b hab).2
  have hmR := maskOkR_iso hσ x x' hw hsp hpR hvR hnR r c k t2 fun a b hab => (hR a b hab).2
  unfold coreCell
  rw [← hg.1, ← hg.2, hsp, hw, ← hmL, ← hmR, ← hv]

def readQ (a : Img McCell) (f : McCell → Rat) (i j : Int) : Rat :=
  match a (i, j) with
  | some s => f s
  | none => 0

def readZ (a : Img McCell) (f : McCell → Int) (i j : Int) : Int :=
  match a (i, j) with
  | some s => f s
  | none => 0

/-- an input that reads a partial image (no image size: `coreCell` reads none) -/
def inputOf (P : McParams) (a : Img McCell) : Input where
  meas := P.meas
  w := P.w
  sp := P.sp
  L := ⟨0, 0, readQ a (·.l)⟩
  R := ⟨0, 0, readQ a (·.r)⟩
  mL := ⟨P.presentL, readZ a (·.ml), P.validL, P.nodataL⟩
  mR := ⟨P.presentR, readZ a (·.mr), P.validR, P.nodataR⟩
  dminG := readZ a (·.dmin)
  dmaxG := readZ a (·.dmax)

/-- the two windows lie in the partial image: two opposite corners of the left window, the two ends of
    the right window(s) on the pixel's row -/
def windowsIn (P : McParams) (k : Int) (a : Img McCell) (p : Px) : Prop :=
  (a (p.1 - (half P.w : Nat), p.2 - (half P.w : Nat))).isSome = true ∧
  (a (p.1 + (half P.w : Nat), p.2 + (half P.w : Nat))).isSome = true ∧
  (a (p.1, p.2 + k / (P.sp : Int) - (half P.w : Nat))).isSome = true ∧
  (a (p.1, p.2 + k / (P.sp : Int) + (half P.w : Nat) + fracBit k P.sp)).isSome = true

instance (P : McParams) (k : Int) (a : Img McCell) (p : Px) : Decidable (windowsIn P k a p) := by
  unfold windowsIn; infer_instance

/-- **The matching-cost step on partial images, one disparity `k/sp`.** -/
def mcCellStep (P : McParams) (k : Int) : Img McCell → Img Cell := fun a p =>
  (a p).map fun _ => if windowsIn P k a p then coreCell (inputOf P a) p.1 p.2 k else .nan

/-- the cone of the cell at disparity `k/sp`: rows within `w/2`; columns within `w/2`, extended to the
    left by `-⌊k/sp⌋` (if negative) and to the right by `⌈k/sp⌉` (if positive) -/
def mcConeK (P : McParams) (k : Int) : Cone :=
  ⟨half P.w, half P.w, half P.w + (-(k / (P.sp : Int))).toNat, half P.w + (k / (P.sp : Int) + fracBit k P.sp).toNat⟩

def cellAt (x : Input) (i j : Int) : McCell :=
  ⟨x.L.px i j, x.R.px i j, x.mL.code i j, x.mR.code i j, x.dminG i j, x.dmaxG i j⟩

/-- `coreCell_iso` for two inputs that hold the same cells on the cone of the pixel -/
theorem coreCell_of_cells {σ : Int → Int} (hσ : RowIso σ) (x x' : Input) (hp : paramsOf x' = paramsOf x)
    (r c k t2 : Int)
    (h : ∀ i j, inCone (mcConeK (paramsOf x) k) (r, c) (i, j) → cellAt x i j = cellAt x' (σ i) (j - t2)) :
    coreCell x r c k = coreCell x' (σ r) (c - t2) k := by
  have hf0 := fracBit_nonneg k x.sp
  have hf1 := fracBit_le_one k x.sp
  have hc : ∀ i j, inCone (mcConeK (paramsOf x) k) (r, c) (i, j) →
      (x.L.px i j = x'.L.px (σ i) (j - t2) ∧ x.mL.code i j = x'.mL.code (σ i) (j - t2)) ∧
      (x.R.px i j = x'.R.px (σ i) (j - t2) ∧ x.mR.code i j = x'.mR.code (σ i) (j - t2)) ∧
      (x.dminG i j = x'.dminG (σ i) (j - t2) ∧ x.dmaxG i j = x'.dmaxG (σ i) (j - t2)) := by
    intro i j hij
    have := McCell.mk.inj (h i j hij)
    exact ⟨⟨this.1, this.2.2.1⟩, ⟨this.2.1, this.2.2.2.1⟩, this.2.2.2.2⟩
  apply coreCell_iso hσ x x' hp
  · intro i j hij
    unfold InWin at hij
    exact (hc i j (by unfold inCone mcConeK; simp only [paramsOf]; omega)).1
  · intro i j hij
    unfold InWinR at hij
    exact (hc i j (by unfold inCone mcConeK; simp only [paramsOf]; omega)).2.1
  · exact (hc r c (by unfold inCone mcConeK; simp only [paramsOf]; omega)).2.2

/-- the step at `p` on `a` is the step at `(σ p.1, p.2 - t2)` on `b` when `a` around `p` is `b` read through the row isometry
    `σ` and the column translation `t2`, and the two window tests agree: locality (`σ`, `t2` trivial), translation and flip -/
theorem mcCellStep_iso {σ : Int → Int} (hσ : RowIso σ) (P : McParams) (k t2 : Int) (a b : Img McCell) (p : Px)
    (h : ∀ q, inCone (mcConeK P k) p q → a q = b (σ q.1, q.2 - t2))
    (hw : windowsIn P k a p ↔ windowsIn P k b (σ p.1, p.2 - t2)) :
    mcCellStep P k a p = mcCellStep P k b (σ p.1, p.2 - t2) := by
  unfold mcCellStep
  rw [h p (inCone_self _ p)]
  congr 1
  funext _
  exact if_congr hw (coreCell_of_cells hσ (inputOf P a) (inputOf P b) rfl p.1 p.2 k t2 fun i j hij => by
    simp only [cellAt, inputOf, readQ, readZ, h (i, j) hij]) rfl

theorem mcCellStep_local (P : McParams) (k : Int) : Local (mcConeK P k) (mcCellStep P k) := by
  intro a b p hab
  have hf0 := fracBit_nonneg k P.sp
  have hf1 := fracBit_le_one k P.sp
  have h := mcCellStep_iso (rowIso_sub 0) P k 0 a b p (fun q hq => by rw [Int.sub_zero, Int.sub_zero]; exact hab q hq) (by
    unfold windowsIn
    simp only [Int.sub_zero]
    rw [hab _ (by unfold inCone mcConeK; dsimp only; omega), hab _ (by unfold inCone mcConeK; dsimp only; omega),
      hab _ (by unfold inCone mcConeK; dsimp only; omega), hab _ (by unfold inCone mcConeK; dsimp only; omega)])
  rwa [Int.sub_zero, Int.sub_zero] at h

theorem mcCellStep_equivariant (P : McParams) (k : Int) : Equivariant (mcCellStep P k) := by
  intro t a
  funext p
  have h := mcCellStep_iso (rowIso_sub (-t.1)) P k (-t.2) (shift t a) a p
    (fun q _ => by simp only [shift, Int.sub_neg]) (by simp only [windowsIn, shift, Int.sub_eq_add_neg, Int.neg_neg,
      Int.add_assoc, Int.add_comm, Int.add_left_comm])
  rwa [Int.sub_neg, Int.sub_neg] at h

theorem mcImg_read (x : Input) (i j : Int) (hi : 0 ≤ i ∧ i < x.L.rows) (hj : 0 ≤ j ∧ j < x.L.cols) :
    toImg x.L.rows x.L.cols (mcScene x) (i, j)
      = some (cellAt x i j) := by
  have e1 : i = ((i.toNat : Nat) : Int) := by omega
  have e2 : j = ((j.toNat : Nat) : Int) := by omega
  rw [e1, e2, toImg_some _ _ _ _ _ (by omega) (by omega)]
  rfl

/-- **The prescribed cost of the model is the step `mcCellStep` on the partial image of the scene**, for
    every measure, window, sub-pixel factor, disparity and image size. -/
theorem specCell_is_mcCellStep (x : Input) (h : Shape x) (k : Int) :
    toImg x.L.rows x.L.cols (fun r c => specCell x r c k)
      = mcCellStep (paramsOf x) k (toImg x.L.rows x.L.cols (mcScene x)) := by
  have hf0 := fracBit_nonneg k x.sp
  have hf1 := fracBit_le_one k x.sp
  have hcols := h.cols_eq
  apply toImg_eq_of_cells
  · intro r c hr hc
    unfold mcCellStep
    rw [toImg_some _ _ _ r c hr hc, specCell_eq_core]
    show some _ = _
    congr 1
    refine if_ctx_congr ?_ (fun hin => ?_) fun _ => rfl
    · unfold windowsIn LeftInside RightInside
      simp only [isSome_toImg, InImage, paramsOf]
      omega
    · obtain ⟨⟨hl1, hl2, hl3, hl4⟩, hr1, hr2⟩ := hin
      have := coreCell_of_cells (rowIso_sub 0) x (inputOf (paramsOf x) (toImg x.L.rows x.L.cols (mcScene x)))
        rfl r c k 0 fun i j hij => by
          unfold inCone mcConeK at hij
          simp only [paramsOf] at hij
          simp only [cellAt, inputOf, readQ, readZ, Int.sub_zero, mcImg_read x i j (by omega) (by omega)]
      simpa only [Int.sub_zero] using this.symm
  · intro q hq
    unfold mcCellStep
    rw [toImg_none _ _ _ q hq]
    rfl

/-- the hypotheses under which the matching-cost model is its specification (C02) -/
structure McOK (x : Input) : Prop where
  wf : wfShape x = true
  zncc : x.meas = .zncc → ∀ k : Int, noTinyVariance x k = true

theorem McOK.shape {x : Input} (hx : McOK x) : Shape x := C02.shape_of_wf x hx.wf

theorem McOK.sp_pos {x : Input} (hx : McOK x) : 0 < x.sp := hx.shape.sp_pos

/-- **The cost volume of the model (`compute_cost_volume` + `cv_masked`), plane `j`, is the step
    `mcCellStep` at disparity `(gmin·sp + j)/sp`.**  Hypotheses of C02's `costVolume_eq_spec`: well-formed
    shape; for zncc, the variance threshold never fires on a non-zero variance. -/
theorem costVolume_is_mcCellStep (x : Input) (hx : McOK x) (j : Nat) (hj : j < nOf x) :
    toImg x.L.rows x.L.cols (fun r c => costVolume x r c j)
      = mcCellStep (paramsOf x) (gminOf x * (x.sp : Int) + j) (toImg x.L.rows x.L.cols (mcScene x)) := by
  rw [← specCell_is_mcCellStep x hx.shape]
  apply toImg_congr
  intro r c _ _
  rw [C02.costVolume_eq_spec x hx.wf hx.zncc r c j hj]
  rfl

/-- **Matching cost: crop run = whole run, one cell.**  `x'` is an input whose scene is the
    `rows' × cols'` crop of the scene of `x` starting at `(r0, c0)`, with the same configuration. -/
theorem mc_crop_eq_whole (x x' : Input) (h : Shape x) (h' : Shape x') (hp : paramsOf x' = paramsOf x)
    (r0 c0 : Nat)
    (hcrop : ∀ r c, r < x'.L.rows → c < x'.L.cols → mcScene x' r c = mcScene x (r + r0) (c + c0))
    (hfit : r0 + x'.L.rows ≤ x.L.rows ∧ c0 + x'.L.cols ≤ x.L.cols) (k : Int) (r c : Nat)
    (hr : r < x'.L.rows) (hc : c < x'.L.cols)
    (hcone : ∀ q, inCone (mcConeK (paramsOf x) k) ((r : Int) + r0, (c : Int) + c0) q →
      InRect r0 c0 x'.L.rows x'.L.cols q ∨ ¬ InImage x.L.rows x.L.cols q) :
    specCell x' r c k = specCell x ((r + r0 : Nat) : Int) ((c + c0 : Nat) : Int) k :=
  crop_arr_eq_whole (crop_run_eq_whole (mcCellStep_local (paramsOf x) k) (mcCellStep_equivariant (paramsOf x) k))
    (specCell_is_mcCellStep x h k) (hp ▸ specCell_is_mcCellStep x' h' k) hcrop hfit r c hr hc hcone

/-- **… and for the cost volumes of the two runs**: plane `j'` of the crop's volume and plane `j` of the
    whole volume being the same disparity (`gmin'·sp + j' = gmin·sp + j`; with a scalar interval
    `gmin' = gmin` and `j' = j`). -/
theorem costVolume_crop_eq_whole (x x' : Input) (hx : McOK x) (hx' : McOK x')
    (hp : paramsOf x' = paramsOf x) (r0 c0 : Nat)
    (hcrop : ∀ r c, r < x'.L.rows → c < x'.L.cols → mcScene x' r c = mcScene x (r + r0) (c + c0))
    (hfit : r0 + x'.L.rows ≤ x.L.rows ∧ c0 + x'.L.cols ≤ x.L.cols) (j j' : Nat) (hj : j < nOf x) (hj' : j' < nOf x')
    (hk : gminOf x' * (x'.sp : Int) + j' = gminOf x * (x.sp : Int) + j)
    (r c : Nat) (hr : r < x'.L.rows) (hc : c < x'.L.cols)
    (hcone : ∀ q, inCone (mcConeK (paramsOf x) (gminOf x * (x.sp : Int) + j)) ((r : Int) + r0, (c : Int) + c0) q →
      InRect r0 c0 x'.L.rows x'.L.cols q ∨ ¬ InImage x.L.rows x.L.cols q) :
    costVolume x' r c j' = costVolume x ((r + r0 : Nat) : Int) ((c + c0 : Nat) : Int) j := by
  rw [C02.costVolume_eq_spec x hx.wf hx.zncc _ _ j hj, C02.costVolume_eq_spec x' hx'.wf hx'.zncc _ _ j' hj']
  show specCell x' r c _ = specCell x _ _ _
  rw [hk]
  exact mc_crop_eq_whole x x' hx.shape hx'.shape hp r0 c0 hcrop hfit _ r c hr hc hcone

/-- the documented cone of the matching-cost step for disparities in `[gmin, gmax]`: rows within `w/2`,
    columns within `w/2` extended by the interval -/
def mcCone (P : McParams) (gmin gmax : Int) : Cone :=
  ⟨half P.w, half P.w, half P.w + (-gmin).toNat, half P.w + gmax.toNat⟩

theorem mcConeK_le (P : McParams) (hsp : 0 < P.sp) (gmin gmax k : Int)
    (h1 : gmin * (P.sp : Int) ≤ k) (h2 : k ≤ gmax * (P.sp : Int)) :
    Cone.le (mcConeK P k) (mcCone P gmin gmax) := by
  have hs : (0 : Int) < (P.sp : Int) := by exact_mod_cast hsp
  have hlo : gmin ≤ k / (P.sp : Int) := Int.le_ediv_of_mul_le hs h1
  have hhi : k / (P.sp : Int) + fracBit k P.sp ≤ gmax := by
    unfold fracBit
    by_cases hm : k % (P.sp : Int) = 0
    · rw [if_pos hm]
      have := Int.ediv_le_of_le_mul hs h2
      omega
    · rw [if_neg hm]
      have hne : k ≠ gmax * (P.sp : Int) := by
        intro he
        apply hm
        rw [he]
        exact Int.mul_emod_left _ _
      have : k / (P.sp : Int) < gmax := Int.ediv_lt_of_lt_mul hs (by omega)
      omega
  -- both cones are `Cone.wide (half w) …`: the same rows, columns extended by less
  exact Cone.wide_mono (Nat.le_refl _) (Int.toNat_le_toNat (Int.neg_le_neg hlo)) (Int.toNat_le_toNat hhi)

theorem sample_le_gmax (gmin gmax : Int) (sp : Nat) (hs : 0 < sp) (hg : gmin ≤ gmax) (j : Nat)
    (hj : j < nDisp gmin gmax sp) : gmin * (sp : Int) + j ≤ gmax * (sp : Int) := by
  rw [nDisp_eq _ _ _ hs hg] at hj
  have hnn : 0 ≤ (gmax - gmin) * (sp : Int) := Int.mul_nonneg (by omega) (Int.natCast_nonneg _)
  have : (j : Int) ≤ (gmax - gmin) * (sp : Int) := by omega
  rw [Int.sub_mul] at this
  omega

/-- **The matching-cost step on partial images: the pixel's cost row** for the `n` disparity samples
    `gmin·sp, gmin·sp + 1, …` (the cost volume's `disp` axis). -/
def mcRowStep (P : McParams) (gmin : Int) (n : Nat) : Img McCell → Img (List Cell) := fun a p =>
  (a p).map fun _ => (List.range n).map fun (j : Nat) => (mcCellStep P (gmin * (P.sp : Int) + j) a p).getD .nan

theorem mcRowStep_local (P : McParams) (hsp : 0 < P.sp) (gmin gmax : Int) (n : Nat)
    (hn : ∀ j : Nat, j < n → gmin * (P.sp : Int) + j ≤ gmax * (P.sp : Int)) :
    Local (mcCone P gmin gmax) (mcRowStep P gmin n) := by
  intro a b p hab
  unfold mcRowStep
  rw [hab p (inCone_self _ p)]
  congr 1
  funext _
  apply List.map_congr_left
  intro j hj
  congr 1
  apply mcCellStep_local P _ a b p
  intro q hq
  apply hab
  exact inCone_mono (mcConeK_le P hsp gmin gmax _ (by omega) (hn j (List.mem_range.1 hj))) hq

theorem mcCellStep_sameDom (P : McParams) (k : Int) (a : Locality.Img McCell) : SameDom a (mcCellStep P k a) :=
  fun _ => Option.isSome_map

theorem mcRowStep_sameDom (P : McParams) (gmin : Int) (n : Nat) (a : Locality.Img McCell) :
    SameDom a (mcRowStep P gmin n a) :=
  fun _ => Option.isSome_map

theorem mcRowStep_commutes {D : ∀ {γ : Type}, Img γ → Prop} {φ : Px → Px} (P : McParams) (gmin : Int) (n : Nat)
    (h : ∀ k, Commutes D φ (mcCellStep P k)) : Commutes D φ (mcRowStep P gmin n) := fun b hb => by
  funext p
  simp only [mcRowStep, h _ b hb]

theorem mcRowStep_equivariant (P : McParams) (gmin : Int) (n : Nat) : Equivariant (mcRowStep P gmin n) :=
  Commutes.equivariant fun t => mcRowStep_commutes P gmin n fun k => (mcCellStep_equivariant P k).commutes t

theorem mcRowStep_scene (x : Input) (h : Shape x) (gmin : Int) (n r c : Nat) (hr : r < x.L.rows) (hc : c < x.L.cols) :
    mcRowStep (paramsOf x) gmin n (toImg x.L.rows x.L.cols (mcScene x)) ((r : Int), (c : Int))
      = some ((List.range n).map fun (j : Nat) => specCell x r c (gmin * (x.sp : Int) + j)) := by
  unfold mcRowStep
  rw [toImg_some _ _ _ r c hr hc]
  simp only [Option.map_some]
  congr 1
  apply List.map_congr_left
  intro j _
  have := congrFun (specCell_is_mcCellStep x h (gmin * (x.sp : Int) + j)) ((r : Int), (c : Int))
  rw [toImg_some _ _ _ r c hr hc] at this
  show (mcCellStep (paramsOf x) (gmin * (x.sp : Int) + j) _ _).getD .nan = _
  rw [← this]
  rfl

theorem costVolume_is_mcRowStep (x : Input) (hx : McOK x) :
    toImg x.L.rows x.L.cols (fun r c => (List.range (nOf x)).map fun j => costVolume x r c j)
      = mcRowStep (paramsOf x) (gminOf x) (nOf x) (toImg x.L.rows x.L.cols (mcScene x)) := by
  apply toImg_eq_of_cells
  · intro r c hr hc
    rw [mcRowStep_scene x hx.shape _ _ r c hr hc]
    congr 1
    exact (List.map_congr_left fun j hj => C02.costVolume_eq_spec x hx.wf hx.zncc r c j (List.mem_range.1 hj)).symm
  · intro q hq
    unfold mcRowStep
    rw [toImg_none _ _ _ q hq]
    rfl

/-- the cost rows of the scene as values (`ev`: the float value of a cost cell): what winner-takes-all and the later
    stages read -/
theorem mcRowStep_ev_scene (x : Input) (hx : McOK x) (ev : Cell → Val) :
    (fun p => (mcRowStep (paramsOf x) (gminOf x) (nOf x) (toImg x.L.rows x.L.cols (mcScene x)) p).map (List.map ev))
      = toImg x.L.rows x.L.cols fun r c => (List.range (nOf x)).map fun j => ev (costVolume x r c j) := by
  funext p
  rw [← costVolume_is_mcRowStep x hx, map_toImg]
  simp only [List.map_map]
  rfl

/-! ### Non-vacuity: the 3 × 4 pair of C02 (window 3, subpix 2, masks on both sides) is well formed for the
    four measures; the cone of its disparity `-1/2` is one column wider on the left, of `1/2` on the right -/

example : wfShape (C02.Example.exIn .sad) = true ∧ wfShape (C02.Example.exIn .census) = true ∧ wfShape (C02.Example.exIn .zncc) = true := by
  decide
example : mcConeK (paramsOf (C02.Example.exIn .sad)) (-1) = ⟨1, 1, 2, 1⟩ := by decide
example : mcConeK (paramsOf (C02.Example.exIn .sad)) 1 = ⟨1, 1, 1, 2⟩ := by decide
example : mcCone (paramsOf (C02.Example.exIn .sad)) (-1) 1 = ⟨1, 1, 2, 2⟩ := by decide

end Pandora.C13
