/-
  C05 — what a class's `check_conf` does, and what is read off the generated class table.

  The theorems about `runActions` / `classCheck` hold for any default-insertion sequence satisfying `wfActions`;
  the tables the translator regenerated from the step modules on this run (`Generated/Schemas.lean`) and the
  hand-written documentation tables of `Model/ConfigSpec.lean` enter through one evaluation, `generated_classFacts`:
  the decidable proposition `ClassFacts`, whose fields the proofs read by name.  That the schema terms police the documented domains on all
  values is `Properties/C05.lean`.
-/
import PandoraModel.Model.ConfigSpec
import PandoraModel.Generated.Schemas
import PandoraModel.Lemmas.ConfigMerge

namespace Pandora.C05
open Pandora.Config Pandora.ConfigSpec

deriving instance DecidableEq for Except

def defaultKeys : List Action → List String
  | [] => []
  | .default k _ :: r => k :: defaultKeys r
  | .defaultElifNaN k _ :: r => k :: defaultKeys r
  | _ :: r => defaultKeys r

/-- keys whose user value `"NaN"` is replaced by the float -/
def nanKeys : List Action → List String
  | [] => []
  | .defaultElifNaN k _ :: r => k :: nanKeys r
  | _ :: r => nanKeys r

def defaultOf : List Action → String → Option JVal
  | [], _ => none
  | .default k v :: r, key => if k = key then some v else defaultOf r key
  | .defaultElifNaN k v :: r, key => if k = key then some v else defaultOf r key
  | _ :: r, key => defaultOf r key

def nanFix (acts : List Action) (k : String) (v : JVal) : JVal :=
  if (nanKeys acts).contains k && pyEq v (.str "NaN") then .float .nan else v

/-- well-formed action list: one default per key, the value of a `"NaN"`-rewriting default is not
    itself `"NaN"`, and a guard `cfg[k] != v` is compatible with what follows it (no later rewrite
    of `k`, a later default of `k` passes the guard) -/
def wfActions : List Action → Bool
  | [] => true
  | .default k _ :: r => !(defaultKeys r).contains k && wfActions r
  | .defaultElifNaN k v :: r => !(defaultKeys r).contains k && !(pyEq v (.str "NaN")) && wfActions r
  | .guardNe k v _ :: r =>
    !(nanKeys r).contains k && (match defaultOf r k with | some d => pyEq d v | none => true) && wfActions r
  | .refuseGrids :: r => wfActions r

theorem nanKeys_sub_defaultKeys (acts : List Action) (k : String) (h : k ∈ nanKeys acts) :
    k ∈ defaultKeys acts := by
  induction acts with
  | nil => simp [nanKeys] at h
  | cons a r ih =>
    cases a <;> simp [nanKeys, defaultKeys] at h ⊢
    · exact Or.inr (ih h)
    · rcases h with h | h
      · exact Or.inl h
      · exact Or.inr (ih h)
    · exact ih h
    · exact ih h

theorem pyEq_nan_NaN : pyEq (.float .nan) (.str "NaN") = false := by
  simp [pyEq, JVal.toNum?]

theorem nanFix_of_not_mem (acts : List Action) (k : String) (v : JVal) (h : k ∉ nanKeys acts) :
    nanFix acts k v = v := by simp [nanFix, h]

theorem nanKeys_cons (a : Action) (rest : List Action) : nanKeys (a :: rest) = nanKeys [a] ++ nanKeys rest := by
  cases a <;> rfl

theorem defaultKeys_cons (a : Action) (rest : List Action) :
    defaultKeys (a :: rest) = defaultKeys [a] ++ defaultKeys rest := by
  cases a <;> rfl

theorem defaultOf_cons (a : Action) (rest : List Action) (k : String) :
    defaultOf (a :: rest) k = (defaultOf [a] k).or (defaultOf rest k) := by
  cases a with
  | default k0 v0 | defaultElifNaN k0 v0 => simp only [defaultOf]; split <;> rfl
  | guardNe _ _ _ | refuseGrids => rfl

/-- the value under `k` after the sequence, from the value before it: a user value is kept (up to the
    `"NaN"` rewrite), an omitted key gets the default of the sequence -/
def valueAfter (acts : List Action) (k : String) : Option JVal → Option JVal
  | some u => some (nanFix acts k u)
  | none => defaultOf acts k

theorem runActions_cons_ok_iff {l r : ImgInfo} {a : Action} {rest : List Action} {cfg out : Dict} :
    runActions l r (a :: rest) cfg = .ok out ↔
      ∃ cfg', runAction l r cfg a = .ok cfg' ∧ runActions l r rest cfg' = .ok out := by
  simp only [runActions]
  cases runAction l r cfg a <;> simp

theorem runAction_guard_ok_iff (l r : ImgInfo) (cfg cfg' : Dict) (k : String) (g : JVal) (e : Err) :
    runAction l r cfg (.guardNe k g e) = .ok cfg' ↔
      cfg = cfg' ∧ ∀ cur, Dict.lookup cfg k = some cur → pyEq cur g = true := by
  cases hl : Dict.lookup cfg k with
  | none => simp [runAction, hl]
  | some cur => cases hp : pyEq cur g <;> simp [runAction, hl, hp]

theorem runAction_refuse_ok_iff (l r : ImgInfo) (cfg cfg' : Dict) :
    runAction l r cfg .refuseGrids = .ok cfg' ↔
      cfg = cfg' ∧ (l.dispSource.isStr || r.dispSource.isStr) = false := by
  cases h : (l.dispSource.isStr || r.dispSource.isStr) <;> simp [runAction, h]

theorem wfActions_cons {a : Action} {rest : List Action} (h : wfActions (a :: rest) = true) :
    wfActions rest = true ∧ ∀ k ∈ defaultKeys [a], k ∉ defaultKeys rest := by
  cases a <;> simp [wfActions, defaultKeys] at h ⊢
  · exact ⟨h.2, h.1⟩
  · exact ⟨h.2, h.1.1⟩
  · exact h.2
  · exact h

theorem defaultKeys_nodup (acts : List Action) (h : wfActions acts = true) : (defaultKeys acts).Nodup := by
  induction acts with
  | nil => exact List.nodup_nil
  | cons a rest ih =>
    obtain ⟨hwfr, hd⟩ := wfActions_cons h
    rw [defaultKeys_cons a rest, List.nodup_append]
    exact ⟨by cases a <;> simp [defaultKeys], ih hwfr, fun x hx y hy e => hd x hx (e ▸ hy)⟩

theorem defaultOf_isSome_iff (acts : List Action) (k : String) :
    (defaultOf acts k).isSome = true ↔ k ∈ defaultKeys acts := by
  induction acts with
  | nil => simp [defaultOf, defaultKeys]
  | cons a rest ih =>
    rw [defaultOf_cons, defaultKeys_cons, List.mem_append, Option.isSome_or, Bool.or_eq_true, ih]
    refine or_congr_left ?_
    cases a with
    | default k0 v0 | defaultElifNaN k0 v0 =>
      simp only [defaultOf, defaultKeys, List.mem_singleton]
      by_cases e : k0 = k
      · simp [e]
      · simp [e, Ne.symm e]
    | guardNe _ _ _ | refuseGrids => simp [defaultOf, defaultKeys]

theorem defaultOf_none_of_not_mem (acts : List Action) (k : String) (h : k ∉ defaultKeys acts) :
    defaultOf acts k = none :=
  Option.not_isSome_iff_eq_none.1 (mt (defaultOf_isSome_iff acts k).1 h)

theorem valueAfter_of_not_mem {acts : List Action} {k : String} (h : k ∉ defaultKeys acts) (x : Option JVal) :
    valueAfter acts k x = x := by
  cases x with
  | none => exact defaultOf_none_of_not_mem acts k h
  | some u => exact congrArg some (nanFix_of_not_mem acts k u fun hn => h (nanKeys_sub_defaultKeys acts k hn))

/-- **one statement as an assignment**: a guard or the refusal of grids leaves the dictionary alone; a default is
    `cfg[k] = v` with `v` what `valueAfter` says (the value `cfg` holds already, when nothing is to be changed) -/
theorem runAction_eq {l r : ImgInfo} {cfg cfg' : Dict} {a : Action} (h : runAction l r cfg a = .ok cfg') :
    (defaultKeys [a] = [] ∧ cfg' = cfg) ∨
    ∃ k v, defaultKeys [a] = [k] ∧ valueAfter [a] k (Dict.lookup cfg k) = some v ∧ cfg' = Dict.setKey cfg k v := by
  cases a with
  | default k0 v0 =>
    cases h
    cases hc : Dict.lookup cfg k0 with
    | none => exact .inr ⟨k0, v0, rfl, by simp [hc, valueAfter, defaultOf], by simp [Dict.hasKey, hc]⟩
    | some u =>
      exact .inr ⟨k0, u, rfl, by simp [hc, valueAfter, nanFix, nanKeys], by simp [Dict.hasKey, hc, Merge.setKey_same cfg k0 u hc]⟩
  | defaultElifNaN k0 v0 =>
    simp only [runAction] at h
    cases hc : Dict.lookup cfg k0 with
    | none => rw [hc] at h; cases h; exact .inr ⟨k0, v0, rfl, by simp [hc, valueAfter, defaultOf], rfl⟩
    | some u =>
      rw [hc] at h; cases h
      refine .inr ⟨k0, nanFix [.defaultElifNaN k0 v0] k0 u, rfl, by rw [hc]; rfl, ?_⟩
      cases hp : pyEq u (.str "NaN") <;> simp [nanFix, nanKeys, hp, Merge.setKey_same cfg k0 u hc]
  | guardNe k0 g e0 => exact .inl ⟨rfl, ((runAction_guard_ok_iff ..).1 h).1.symm⟩
  | refuseGrids => exact .inl ⟨rfl, ((runAction_refuse_ok_iff ..).1 h).1.symm⟩

theorem runAction_lookup {l r : ImgInfo} {cfg cfg' : Dict} {a : Action} (h : runAction l r cfg a = .ok cfg')
    (k : String) : Dict.lookup cfg' k = valueAfter [a] k (Dict.lookup cfg k) := by
  rcases runAction_eq h with ⟨hk, rfl⟩ | ⟨k0, v, hk, hv, rfl⟩
  · rw [valueAfter_of_not_mem (by simp [hk])]
  · rw [Merge.lookup_setKey]
    by_cases e : k0 = k
    · rw [if_pos e, ← e, hv]
    · rw [if_neg e, valueAfter_of_not_mem (by simpa [hk] using Ne.symm e)]

theorem runAction_keys {l r : ImgInfo} {cfg cfg' : Dict} {a : Action} (h : runAction l r cfg a = .ok cfg') :
    Dict.keys cfg' = Dict.keys cfg ++ (defaultKeys [a]).filter (fun k => !(Dict.keys cfg).contains k) := by
  rcases runAction_eq h with ⟨hk, rfl⟩ | ⟨k0, v, hk, -, rfl⟩
  · simp [hk]
  · rw [hk]; exact Merge.keys_setKey cfg k0 v

theorem valueAfter_cons (a : Action) (rest : List Action) (hd : ∀ k ∈ defaultKeys [a], k ∉ defaultKeys rest)
    (k : String) (cur : Option JVal) :
    valueAfter rest k (valueAfter [a] k cur) = valueAfter (a :: rest) k cur := by
  have hn : ∀ k ∈ defaultKeys [a], k ∉ nanKeys rest :=
    fun k hk hm => hd k hk (nanKeys_sub_defaultKeys rest k hm)
  cases a <;> cases cur <;> simp [valueAfter, nanFix, nanKeys, defaultOf]
  case default.none k0 v0 | defaultElifNaN.none k0 v0 =>
    by_cases e : k0 = k
    · subst e; simp [hn k0 (by simp [defaultKeys])]
    · simp [e]
  case defaultElifNaN.some k0 v0 u =>
    by_cases e : k = k0
    · subst e; simp [hn k (by simp [defaultKeys])]
    · simp [e]

/-- every user key keeps its value (up to the `"NaN"` rewrite) and every omitted key gets the
    default of the sequence — as a lookup table -/
theorem runActions_lookup (l r : ImgInfo) (acts : List Action) :
    ∀ (cfg out : Dict), wfActions acts = true → runActions l r acts cfg = .ok out → ∀ k,
      Dict.lookup out k =
        match Dict.lookup cfg k with
        | some u => some (nanFix acts k u)
        | none => defaultOf acts k := by
  induction acts with
  | nil =>
    intro cfg out _ h k
    cases h
    cases Dict.lookup cfg k <;> simp [nanFix, nanKeys, defaultOf]
  | cons a rest ih =>
    intro cfg out hwf h k
    obtain ⟨cfg', hA, hR⟩ := runActions_cons_ok_iff.1 h
    obtain ⟨hwfr, hd⟩ := wfActions_cons hwf
    exact (ih cfg' out hwfr hR k).trans
      ((congrArg (valueAfter rest k) (runAction_lookup hA k)).trans (valueAfter_cons a rest hd k _))

/-- the keys of the result: the user's keys in the user's order, then the omitted defaulted keys
    in the order of the sequence -/
theorem runActions_keys (l r : ImgInfo) (acts : List Action) :
    ∀ (cfg out : Dict), wfActions acts = true → runActions l r acts cfg = .ok out →
      Dict.keys out = Dict.keys cfg ++ (defaultKeys acts).filter (fun k => !(Dict.keys cfg).contains k) := by
  induction acts with
  | nil =>
    intro cfg out _ h
    cases h
    simp [defaultKeys]
  | cons a rest ih =>
    intro cfg out hwf h
    obtain ⟨cfg', hA, hR⟩ := runActions_cons_ok_iff.1 h
    obtain ⟨hwfr, hd⟩ := wfActions_cons hwf
    rw [ih cfg' out hwfr hR, runAction_keys hA, defaultKeys_cons a rest, List.filter_append, List.append_assoc]
    congr 2
    -- the keys the head has just added are not defaulted again
    apply List.filter_congr
    intro x hx
    have : x ∉ defaultKeys [a] := fun hm => hd x hm hx
    simp [this]

theorem runActions_keys_nodup {l r : ImgInfo} {acts : List Action} {cfg out : Dict} (hwf : wfActions acts = true)
    (hnd : (Dict.keys cfg).Nodup) (hrun : runActions l r acts cfg = .ok out) : (Dict.keys out).Nodup := by
  rw [runActions_keys l r acts cfg out hwf hrun]
  exact Merge.nodup_append_filter hnd (defaultKeys_nodup _ hwf)

theorem runActions_idem (l r : ImgInfo) (acts : List Action) :
    ∀ (cfg out : Dict), wfActions acts = true → runActions l r acts cfg = .ok out →
      runActions l r acts out = .ok out := by
  induction acts with
  | nil => intro cfg out _ _; rfl
  | cons a rest ih =>
    intro cfg out hwf h
    obtain ⟨cfg', hA, hR⟩ := runActions_cons_ok_iff.1 h
    have hlook := runActions_lookup l r (a :: rest) cfg out hwf h
    -- the head, run on `out`, returns `out`: `hlook` says what `out` holds under the head's key
    suffices hS : runAction l r out a = .ok out by
      exact runActions_cons_ok_iff.2 ⟨out, hS, ih cfg' out (wfActions_cons hwf).1 hR⟩
    cases a with
    | default k0 v0 =>
      have : Dict.hasKey out k0 = true := by
        have := hlook k0
        cases hc : Dict.lookup cfg k0 <;> simp [hc, defaultOf] at this <;> simp [Dict.hasKey, this]
      simp [runAction, this]
    | defaultElifNaN k0 v0 =>
      simp only [wfActions, Bool.and_eq_true, Bool.not_eq_true'] at hwf
      obtain ⟨x, hx, hxn⟩ : ∃ x, Dict.lookup out k0 = some x ∧ pyEq x (.str "NaN") = false := by
        have := hlook k0
        cases hc : Dict.lookup cfg k0 with
        | none => exact ⟨v0, by simpa [hc, defaultOf] using this, hwf.1.2⟩
        | some u =>
          refine ⟨_, by simpa [hc] using this, ?_⟩
          cases hp : pyEq u (.str "NaN") <;> simp [nanFix, nanKeys, hp, pyEq_nan_NaN]
      simp [runAction, hx, hxn]
    | guardNe k0 g e0 =>
      obtain ⟨rfl, hpass⟩ := (runAction_guard_ok_iff ..).1 hA
      refine (runAction_guard_ok_iff ..).2 ⟨rfl, fun cur hc => ?_⟩
      simp only [wfActions, Bool.and_eq_true, Bool.not_eq_true', List.contains_eq_mem,
        decide_eq_false_iff_not] at hwf
      have := hlook k0
      rw [hc] at this
      cases hl : Dict.lookup cfg k0 with
      | some u =>
        -- the user's value: it passed the guard and no later statement rewrites it
        simp only [hl, nanFix_of_not_mem (.guardNe k0 g e0 :: rest) k0 u hwf.1.1, Option.some.injEq] at this
        exact this ▸ hpass u hl
      | none =>
        -- the default a later statement inserts: compatible with the guard
        simp only [hl, defaultOf] at this
        have hd := hwf.1.2
        rw [← this] at hd
        exact hd
    | refuseGrids =>
      obtain ⟨rfl, hg⟩ := (runAction_refuse_ok_iff ..).1 hA
      exact (runAction_refuse_ok_iff ..).2 ⟨rfl, hg⟩

/-- acceptance is exactly: the guards pass and the completed dictionary validates -/
theorem classCheck_ok_iff (o : Oracle) (c : ClassDesc) (l r : ImgInfo) (cfg out : Dict) :
    classCheck o c l r cfg = .ok out ↔
      runActions l r c.actions cfg = .ok out ∧ Schema.accepts o (.dict c.schema) (.obj out) = true := by
  unfold classCheck
  cases runActions l r c.actions cfg with
  | error e => simp
  | ok cfg' =>
    cases hs : Schema.accepts o (.dict c.schema) (.obj cfg') <;> simp [hs]
    all_goals
      intro e
      rw [← e, hs]

theorem classCheck_ok {o : Oracle} {c : ClassDesc} {l r : ImgInfo} {cfg out : Dict}
    (h : classCheck o c l r cfg = .ok out) :
    runActions l r c.actions cfg = .ok out ∧ Schema.accepts o (.dict c.schema) (.obj out) = true :=
  (classCheck_ok_iff ..).1 h

/-- **user keys kept**: every key the user supplied is in the result with its value (the string
    `"NaN"` of a NaN-rewriting key becomes the float) -/
theorem classCheck_user_values_kept {o : Oracle} {c : ClassDesc} {l r : ImgInfo} {cfg out : Dict}
    (hwf : wfActions c.actions = true) (h : classCheck o c l r cfg = .ok out) (k : String) (u : JVal)
    (hk : Dict.lookup cfg k = some u) : Dict.lookup out k = some (nanFix c.actions k u) := by
  have := runActions_lookup l r c.actions cfg out hwf (classCheck_ok h).1 k
  simpa [hk] using this

/-- **user keys kept, positions**: the user's keys, in the user's order, are the first keys of the result -/
theorem classCheck_user_positions_kept {o : Oracle} {c : ClassDesc} {l r : ImgInfo} {cfg out : Dict}
    (hwf : wfActions c.actions = true) (h : classCheck o c l r cfg = .ok out) :
    (Dict.keys out).take (Dict.keys cfg).length = Dict.keys cfg := by
  rw [runActions_keys l r c.actions cfg out hwf (classCheck_ok h).1]
  simp

/-- **defaults added**: every omitted key with a default appears with that default, after the
    user's keys, in the order of the sequence; nothing else is added -/
theorem classCheck_defaults_added {o : Oracle} {c : ClassDesc} {l r : ImgInfo} {cfg out : Dict}
    (hwf : wfActions c.actions = true) (h : classCheck o c l r cfg = .ok out) :
    (∀ k, Dict.lookup cfg k = none → Dict.lookup out k = defaultOf c.actions k) ∧
    Dict.keys out = Dict.keys cfg ++ (defaultKeys c.actions).filter (fun k => !(Dict.keys cfg).contains k) := by
  refine ⟨?_, runActions_keys l r c.actions cfg out hwf (classCheck_ok h).1⟩
  intro k hk
  have := runActions_lookup l r c.actions cfg out hwf (classCheck_ok h).1 k
  simpa [hk] using this

/-- **idempotent**: checking the returned dictionary again returns it unchanged -/
theorem classCheck_idempotent {o : Oracle} {c : ClassDesc} {l r : ImgInfo} {cfg out : Dict}
    (hwf : wfActions c.actions = true) (h : classCheck o c l r cfg = .ok out) :
    classCheck o c l r out = .ok out := by
  obtain ⟨h1, h2⟩ := classCheck_ok h
  exact (classCheck_ok_iff ..).2 ⟨runActions_idem l r c.actions cfg out hwf h1, h2⟩

/-- the guards of a sequence are compatible with a configuration: the user's value passes, the
    guarded key is not NaN-rewritten, the default the sequence would insert passes; and no disparity
    grid is given when the sequence refuses grids -/
def GuardsCompatible (l r : ImgInfo) (acts : List Action) (cfg : Dict) : Prop :=
  (∀ k g e, Action.guardNe k g e ∈ acts →
    (∀ u, Dict.lookup cfg k = some u → pyEq u g = true) ∧ k ∉ nanKeys acts ∧
    (∀ dflt, defaultOf acts k = some dflt → pyEq dflt g = true)) ∧
  (Action.refuseGrids ∈ acts → (l.dispSource.isStr || r.dispSource.isStr) = false)

theorem defaultOf_cons_of_ne (a : Action) (rest : List Action) (k : String)
    (h : ∀ k0 v0, a = .default k0 v0 ∨ a = .defaultElifNaN k0 v0 → k0 ≠ k) :
    defaultOf (a :: rest) k = defaultOf rest k := by
  cases a with
  | default k0 v0 => simp [defaultOf, h k0 v0 (Or.inl rfl)]
  | defaultElifNaN k0 v0 => simp [defaultOf, h k0 v0 (Or.inr rfl)]
  | guardNe _ _ _ => simp [defaultOf]
  | refuseGrids => simp [defaultOf]

/-- a well-formed sequence whose guards are compatible with the configuration runs to the end -/
theorem runActions_succeeds (l r : ImgInfo) (acts : List Action) :
    ∀ cfg : Dict, wfActions acts = true → GuardsCompatible l r acts cfg →
      ∃ out, runActions l r acts cfg = .ok out := by
  induction acts with
  | nil => intro cfg _ _; exact ⟨cfg, rfl⟩
  | cons a rest ih =>
    intro cfg hwf ⟨hguards, hrefuse⟩
    obtain ⟨hwfr, hd⟩ := wfActions_cons hwf
    obtain ⟨cfg', hA⟩ : ∃ cfg', runAction l r cfg a = .ok cfg' := by
      cases a with
      | default k0 v0 => exact ⟨_, rfl⟩
      | defaultElifNaN k0 v0 => simp only [runAction]; cases Dict.lookup cfg k0 <;> exact ⟨_, rfl⟩
      | guardNe k0 g e0 => exact ⟨cfg, (runAction_guard_ok_iff ..).2 ⟨rfl, (hguards k0 g e0 (by simp)).1⟩⟩
      | refuseGrids => exact ⟨cfg, (runAction_refuse_ok_iff ..).2 ⟨rfl, hrefuse (by simp)⟩⟩
    have hG' : GuardsCompatible l r rest cfg' := by
      refine ⟨fun k g e hm => ?_, fun hm => hrefuse (List.mem_cons_of_mem _ hm)⟩
      obtain ⟨hu, hn, hdef⟩ := hguards k g e (List.mem_cons_of_mem _ hm)
      rw [nanKeys_cons, List.mem_append, not_or] at hn
      rw [defaultOf_cons] at hdef
      refine ⟨fun u hlu => ?_, hn.2, fun dflt hdr => ?_⟩
      · -- under `k` the head left the user's value, or stored its own default
        rw [runAction_lookup hA k] at hlu
        cases hc : Dict.lookup cfg k with
        | some u0 =>
          rw [hc, valueAfter, nanFix_of_not_mem _ _ _ hn.1] at hlu
          exact hu u (hc.trans hlu)
        | none =>
          rw [hc, valueAfter] at hlu
          exact hdef u (by rw [hlu]; rfl)
      · -- one default per key: a default of the rest is the default of the whole sequence
        apply hdef dflt
        by_cases hk : k ∈ defaultKeys [a]
        · rw [defaultOf_none_of_not_mem rest k (hd k hk)] at hdr
          cases hdr
        · rw [defaultOf_none_of_not_mem [a] k hk]
          exact hdr
    obtain ⟨out, hR⟩ := ih cfg' hwfr hG'
    exact ⟨out, runActions_cons_ok_iff.2 ⟨cfg', hA, hR⟩⟩

def guardFree (acts : List Action) : Bool :=
  acts.all fun a => match a with
    | .default _ _ => true
    | .defaultElifNaN _ _ => true
    | _ => false

theorem guardFree_compatible (l r : ImgInfo) (acts : List Action) (h : guardFree acts = true) (cfg : Dict) :
    GuardsCompatible l r acts cfg := by
  simp only [guardFree, List.all_eq_true] at h
  constructor
  · intro k g e hm
    have := h _ hm
    simp at this
  · intro hm
    have := h _ hm
    simp at this

theorem runActions_fix_keys {l r : ImgInfo} {acts : List Action} {cfg : Dict} (hwf : wfActions acts = true)
    (h : runActions l r acts cfg = .ok cfg) : ∀ k ∈ defaultKeys acts, k ∈ Dict.keys cfg := by
  intro k hk
  have hkeys := runActions_keys l r acts cfg cfg hwf h
  have hnil : (defaultKeys acts).filter (fun k => !(Dict.keys cfg).contains k) = [] :=
    (List.append_cancel_left ((List.append_nil _).trans hkeys)).symm
  have := List.filter_eq_nil_iff.1 hnil k hk
  simpa using this

/-- **a fix-point of a guard-free class check stays one when a present key that no statement rewrites is overwritten**
    by a value the schema entries of that key accept: run the sequence on the new dictionary (no guard can refuse),
    it has the same keys and, by `runActions_lookup`, the same values, so it is returned; the schema is met entry by
    entry -/
theorem classCheck_setKey_fix {o : Oracle} {c : ClassDesc} {l r : ImgInfo} {cfg : Dict} (k : String) (v : JVal)
    (hwf : wfActions c.actions = true) (hgf : guardFree c.actions = true) (hnk : k ∉ nanKeys c.actions)
    (hsch : ∀ e ∈ c.schema, e.1 = k → Schema.accepts o e.2.2 v = true)
    (hnd : (Dict.keys cfg).Nodup) (hpres : Dict.lookup cfg k ≠ none)
    (h : classCheck o c l r cfg = .ok cfg) :
    classCheck o c l r (Dict.setKey cfg k v) = .ok (Dict.setKey cfg k v) := by
  obtain ⟨hrun, hacc⟩ := classCheck_ok h
  have hlook := runActions_lookup l r c.actions cfg cfg hwf hrun
  have hk' : Dict.keys (Dict.setKey cfg k v) = Dict.keys cfg := Merge.keys_setKey_present cfg _ _ hpres
  obtain ⟨out', hrun'⟩ := runActions_succeeds l r c.actions (Dict.setKey cfg k v) hwf (guardFree_compatible l r _ hgf _)
  have hkeys' := runActions_keys l r c.actions _ out' hwf hrun'
  have hlook' := runActions_lookup l r c.actions _ out' hwf hrun'
  -- every defaulted key is present already
  have hfil : (defaultKeys c.actions).filter (fun x => !(Dict.keys cfg).contains x) = [] :=
    List.filter_eq_nil_iff.2 fun x hx => by simpa using runActions_fix_keys hwf hrun x hx
  rw [hk', hfil, List.append_nil] at hkeys'
  have hout : out' = Dict.setKey cfg k v := by
    apply Merge.dict_ext out' _ (by rw [hkeys', hk']) (by rw [hkeys']; exact hnd)
    intro x
    rw [hlook' x, Merge.lookup_setKey]
    by_cases e : k = x
    · subst e
      simp only [if_true]
      rw [nanFix_of_not_mem _ _ _ hnk]
    · simp only [e, if_false]
      have := hlook x
      cases hc : Dict.lookup cfg x with
      | none => simp only [hc] at this ⊢; exact this.symm
      | some u => simp only [hc] at this ⊢; exact this.symm
  rw [hout] at hrun'
  refine (classCheck_ok_iff ..).2 ⟨hrun', ?_⟩
  obtain ⟨hent, hkk⟩ := (Merge.dict_accepts_iff o c.schema cfg).1 hacc
  refine (Merge.dict_accepts_iff o c.schema _).2 ⟨fun e he => ?_, fun kv hkv => ?_⟩
  · rw [Merge.lookup_setKey]
    by_cases ek : k = e.1
    · simp only [ek, if_true]
      exact hsch e he ek.symm
    · simp only [ek, if_false]
      exact hent e he
  · have hin : kv.1 ∈ Dict.keys cfg := by rw [← hk']; exact List.mem_map_of_mem (f := (·.1)) hkv
    obtain ⟨kv0, hkv0, he⟩ := List.mem_map.1 hin
    obtain ⟨e, he1, he2⟩ := hkk kv0 hkv0
    exact ⟨e, he1, by rw [he2, he]⟩

open Pandora.Generated.Schemas

def allClasses : List (String × ClassDesc) :=
  registry.flatMap (fun k => k.classes.map (fun c => (k.kind, c)))

/-- the schema of key `k` in class `c` (the unsatisfiable `Or()` when absent) -/
def entry (c : ClassDesc) (k : String) : Schema :=
  match c.schema.find? (fun e => e.1 == k) with
  | some e => e.2.2
  | none => .any []

/-- the schema entry of `step` in every class that has one: `And(int, lambda x: x >= 1)` -/
def stepS : Schema := .all [.type .int, .func (.cmp .ge .var (.lit (.int 1)))]

/-- the distinct (schema, documented domain) pairs of the source, one representative each -/
def shapes : List (Schema × DomKind) := [
  (.all [.type .int, .func (.and (.cmp .gt .var (.lit (.int 0))) (.cmp .ne (.mod .var 2) (.lit (.int 0))))], .oddPositiveInt),
  (.all [.type .int, .func (.and (.cmp .ge .var (.lit (.int 1))) (.cmp .ne (.mod .var 2) (.lit (.int 0))))], .oddPositiveInt),
  (.all [.type .int, .func (.isIn .var [.int 3, .int 5])], .census35),
  (.all [.type .int, .func (.or (.and (.cmp .gt .var (.lit (.int 0))) (.cmp .eq (.mod .var 2) (.lit (.int 0)))) (.cmp .eq .var (.lit (.int 1))))], .subpix),
  (.any [.type .str, .func (.isNone .var)], .strOrNone),
  (.all [.type .float, .func (.cmp .gt .var (.lit (.int 0)))], .positiveFloat),
  (.all [.type .int, .func (.cmp .gt .var (.lit (.int 0)))], .positiveInt),
  (.type .str, .anyStr),
  (.type .bool, .anyBool),
  (.all [.type .float, .func (.and (.cmp .le (.lit (.int 0)) .var) (.cmp .le .var (.lit (.int 1))))], .ambiguityThreshold),
  (.all [.type .float, .func (.and (.cmp .le (.lit (.int 0)) .var) (.cmp .le .var (.lit (.int 1))))], .unitClosedFloat),
  (.all [.type .int, .func (.bitand (.cmp .eq (.mod .var 2) (.lit (.int 1))) (.cmp .gt .var (.lit (.int 0))))], .kernelSize),
  (.all [.type .int, .func (.cmp .ge .var (.lit (.int 0)))], .intGe 0),
  (.all [.type .int, .func (.cmp .gt .var (.lit (.int 1)))], .intGe 2),
  (.any [.type .int, .type .float], .number),
  (.all [.type .str, .func (.isIn .var [.str "mc-cnn", .str "sgm"])], .interpolation),
  (.all [.type .float, .func (.and (.cmp .lt (.lit (.int 0)) .var) (.cmp .lt .var (.lit (.int 1))))], .etaFloat),
  (.any [.type .int, .type .float, .func (.and (.npIsscalar .var) (.npIsnan .var))], .numberOrNaN)]

theorem pyEq_NaN_of_rewritten (v : JVal) (h : rewriteLeaf v = v) : pyEq v (.str "NaN") = false := by
  have hne : v ≠ .str "NaN" := by
    intro e; subst e; simp [rewriteLeaf] at h
  cases v <;> simp [pyEq, JVal.toNum?]
  rename_i s
  intro e; exact hne (by rw [e])

def isStepGuard : Action → Bool
  | .guardNe k v _ => k == "step" && decide (v = .int 1)
  | _ => false

/-- a value `update_conf` stores as it is: not a dictionary, not one of the three magic strings -/
def fixedLeaf (v : JVal) : Bool := !v.isObj && decide (rewriteLeaf v = v)

/-- what the documentation says of a parameter's default, against the default `o` the source inserts for it
    (`opt`: the schema marks the key optional) -/
def DefaultAgrees (o : Option JVal) (opt : Prop) : DocDefault → Prop
  | .value v => o = some v
  | .optional => o = none ∧ opt
  | .unsettled => o.isSome = true

instance {o : Option JVal} {opt : Prop} [Decidable opt] : (dd : DocDefault) → Decidable (DefaultAgrees o opt dd)
  | .value _ | .optional | .unsettled => by unfold DefaultAgrees; infer_instance

/-- the class of the source and the documented class agree on: the parameter set, which
    parameters have a default, the documented default values, the optional key, the method key -/
structure DefaultsAgree (c : ClassDesc) (d : DocClass) : Prop where
  defaults : ∀ p ∈ d.params,
    DefaultAgrees (defaultOf c.actions p.name) (∃ e ∈ c.schema, e.1 = p.name ∧ e.2.1 = true) p.default
  defaultKeysDoc : ∀ k ∈ defaultKeys c.actions, ∃ p ∈ d.params, p.name = k
  schemaKeysDoc : ∀ e ∈ c.schema, e.1 = d.methodKey ∨ ∃ p ∈ d.params, p.name = e.1
  paramsInSchema : ∀ p ∈ d.params, ∃ e ∈ c.schema, e.1 = p.name
  methodInSchema : ∃ e ∈ c.schema, e.1 = d.methodKey ∧ e.2.1 = false

/-- a parameter called `step` is documented as "only 1", has the schema entry `stepS` and is guarded by
    `cfg["step"] != 1` -/
def StepFacts (c : ClassDesc) (d : DocClass) : Prop :=
  ∀ p ∈ d.params, p.name = "step" →
    p.dom = .stepOne ∧ entry c "step" = stepS ∧ ∃ a ∈ c.actions, isStepGuard a = true

/-- an action that is a guard is the guard `cfg["step"] != 1` -/
def notOtherGuard : Action → Bool
  | .guardNe k v _ => k == "step" && decide (v = .int 1)
  | _ => true

/-- the only guards are `step != 1`; one schema entry per key; the inserted defaults validate; a key
    without default is optional or the method key; the method entry accepts the registered names -/
structure AcceptFacts (c : ClassDesc) (d : DocClass) : Prop where
  guards : ∀ a ∈ c.actions, notOtherGuard a = true
  schemaNodup : (c.schema.map (·.1)).Nodup
  defaultsValid : ∀ e ∈ c.schema, ∀ dflt ∈ defaultOf c.actions e.1, Schema.accepts noOracle e.2.2 dflt = true
  noDefault : ∀ e ∈ c.schema, defaultOf c.actions e.1 = none → e.2.1 = true ∨ e.1 = d.methodKey
  methodEntry : ∀ m ∈ c.names, ∀ e ∈ c.schema, e.1 = d.methodKey → Schema.accepts noOracle e.2.2 (.str m) = true
  stepDefault : ∀ dflt ∈ defaultOf c.actions "step", pyEq dflt (.int 1) = true
  methodKeyNotStep : d.methodKey ≠ "step"
  stepNotNan : "step" ∉ nanKeys c.actions

def defaultIsFixed : Action → Bool
  | .default _ v | .defaultElifNaN _ v => fixedLeaf v
  | _ => true

/-- a class of the source against the documented class of one of its methods; the (schema entry, documented
    domain) pairs of the parameters are `shapes` -/
structure MethodFacts (c : ClassDesc) (d : DocClass) : Prop where
  agree : DefaultsAgree c d
  step : StepFacts c d
  accept : AcceptFacts c d
  shapes : ∀ p ∈ d.params, p.name ≠ "step" → (entry c p.name, p.dom) ∈ shapes

/-- everything the proofs read off one class of the source: the default sequence is well-formed and inserts
    plain leaves (not a dictionary, not one of the three magic strings); every schema entry is the one `entry` finds
    under its key; the `step` entry is `stepS`; registry and
    documentation name the method of the kind under the same key; every registered method is documented and,
    with its documented class, satisfies `DefaultsAgree` (**defaults documented**: window_size 5, subpix 1,
    cbca 30.0/5, invalid_disparity −9999, filter_size 3, sigma 2.0/6.0, eta 0.7/0.01,
    cross_checking_threshold 1.0, num_scales 2, scale_factor 2, marge 1 and the others of the user guide),
    `StepFacts`, `AcceptFacts`, and the (schema entry, documented domain) pairs of its parameters are `shapes` -/
structure ClassFacts (kind : String) (c : ClassDesc) : Prop where
  wf : wfActions c.actions = true
  fixed : ∀ a ∈ c.actions, defaultIsFixed a = true
  entries : ∀ e ∈ c.schema, e.2.2 = entry c e.1
  stepEntry : (∃ e ∈ c.schema, e.1 = "step") → entry c "step" = stepS
  methodKey : ∀ kd ∈ registry, kd.kind = kind → ∀ d ∈ docTable, d.kind = kind → kd.methodKey = d.methodKey
  documented : ∀ m ∈ c.names, ∃ d ∈ docClass? kind m, MethodFacts c d

instance (c : ClassDesc) (d : DocClass) : Decidable (DefaultsAgree c d) :=
  decidable_of_iff _ ⟨fun h => ⟨h.1, h.2.1, h.2.2.1, h.2.2.2.1, h.2.2.2.2⟩, fun h =>
    And.intro h.defaults <| And.intro h.defaultKeysDoc <| And.intro h.schemaKeysDoc <| And.intro h.paramsInSchema h.methodInSchema⟩

instance (c : ClassDesc) (d : DocClass) : Decidable (StepFacts c d) := by unfold StepFacts; infer_instance

instance (c : ClassDesc) (d : DocClass) : Decidable (AcceptFacts c d) :=
  decidable_of_iff _ ⟨fun h => ⟨h.1, h.2.1, h.2.2.1, h.2.2.2.1, h.2.2.2.2.1, h.2.2.2.2.2.1, h.2.2.2.2.2.2.1, h.2.2.2.2.2.2.2⟩,
    fun h => And.intro h.guards <| And.intro h.schemaNodup <| And.intro h.defaultsValid <| And.intro h.noDefault <|
      And.intro h.methodEntry <| And.intro h.stepDefault <| And.intro h.methodKeyNotStep h.stepNotNan⟩

instance (c : ClassDesc) (d : DocClass) : Decidable (MethodFacts c d) :=
  decidable_of_iff _ ⟨fun h => ⟨h.1, h.2.1, h.2.2.1, h.2.2.2⟩, fun h =>
    And.intro h.agree <| And.intro h.step <| And.intro h.accept h.shapes⟩

instance (kind : String) (c : ClassDesc) : Decidable (ClassFacts kind c) :=
  decidable_of_iff _ ⟨fun h => ⟨h.1, h.2.1, h.2.2.1, h.2.2.2.1, h.2.2.2.2.1, h.2.2.2.2.2⟩, fun h =>
    And.intro h.wf <| And.intro h.fixed <| And.intro h.entries <| And.intro h.stepEntry <| And.intro h.methodKey h.documented⟩

/-- the generated class table is evaluated here for everything `ClassFacts` hands out: a change of a default, a
    schema lambda, a guard or a registered name in the source that the documentation tables do not follow makes
    this fail -/
theorem generated_classFacts : ∀ kc ∈ allClasses, ClassFacts kc.1 kc.2 := by decide +kernel

/-- the documented class of a registered method is the one `ClassFacts` was evaluated with -/
theorem table_facts {kind : String} {c : ClassDesc} {m : String} {d : DocClass}
    (hkc : (kind, c) ∈ allClasses) (hm : m ∈ c.names) (hd : docClass? kind m = some d) :
    MethodFacts c d := by
  obtain ⟨d', hd', h⟩ := (generated_classFacts _ hkc).documented m hm
  cases hd.symm.trans hd'
  exact h

/-- **`update_conf` on a dictionary of leaves**: the default's keys keep their position, the user's
    new keys are appended in the user's order, every user value is stored (rewritten), every
    default the user did not override is kept -/
theorem updateConf_leaves (g : Bool) :
    ∀ (items cur : Dict), (∀ kv ∈ items, kv.2.isObj = false) → (Dict.keys items).Nodup →
      ∃ out, updateConf g cur items = .ok out ∧
        Dict.keys out = Dict.keys cur ++ (Dict.keys items).filter (fun k => !(Dict.keys cur).contains k) ∧
        (∀ k, Dict.lookup out k =
          match Dict.lookup items k with
          | some v => some (rewriteLeaf v)
          | none => Dict.lookup cur k) :=
  Merge.updateConf_leaves g

/-! ### Test data of the examples and counterexamples (`Properties/C05.lean`, `C05Whole.lean`, `C19C05.lean`) -/

def monoL : ImgInfo := { bands := [none], dispSource := .list [.int (-2), .int 2] }
def monoR : ImgInfo := { bands := [none], dispSource := .null }

def isOk {α} : Except Err α → Bool
  | .ok _ => true
  | .error _ => false

def pipelineOf : Except Err (Dict × CState) → Option Dict
  | .ok (cfg, _) => some cfg
  | .error _ => none

def pipeA : Dict := [("pipeline", .obj [
  ("matching_cost", .obj [("matching_cost_method", .str "zncc")]),
  ("aggregation", .obj [("aggregation_method", .str "cbca")]),
  ("disparity", .obj [("disparity_method", .str "wta")])])]

def pipeB : Dict := [("pipeline", .obj [
  ("matching_cost", .obj [("matching_cost_method", .str "sad")]),
  ("disparity", .obj [("disparity_method", .str "wta")])])]

/-- check `pipeA`, then `pipeB` on the same machine, then the configuration returned for `pipeB`
    on a fresh machine -/
def reusedMachineWitness (fl : MachineFlags) : Option (List String) × Bool :=
  match checkPipelineSection noOracle fl registry pipeA monoL monoR {} with
  | .ok (_, m1) =>
    match checkPipelineSection noOracle fl registry pipeB monoL monoR m1 with
    | .ok (out, _) =>
      (match Dict.lookup out "pipeline" with
       | some (.obj p) => some (Dict.keys p)
       | _ => none,
       isOk (checkPipelineSection noOracle fl registry out monoL monoR {}))
    | .error _ => (none, true)
  | .error _ => (none, true)

end Pandora.C05
