/-
  C16 — `get_window` regenerated from the Python source (`Generated/KernelsGlue.lean`, written by
  translator/gen_kernels_glue.py with translator/pyexpr.py) equals, for all integers (no well-formedness hypothesis), the
  hand model `Dataset.getWindow` at the parameters translator/gen_imgtools.py reads in the source — off the text of the
  function or, for a text it does not know, off the translated function at the four image edges: `getWindow_eq_source` is
  what makes that choice sound.  Hence it is the specification `windowSpec` for well-formed ROIs on a non-empty image.
  A harmless rewrite of the Python function still proves; a change of its meaning (an operator, a margin index, a dropped
  `+ 1`, the exception raised) breaks these proofs.
-/
import PandoraModel.Generated.KernelsGlue
import PandoraModel.Generated.KernelsGlueSelfTest  -- the translator's own glue test functions, checked by evaluation
import PandoraModel.Properties.C16
import PandoraModel.Lemmas.PyExprRules

namespace Pandora.C16Kernels
open Pandora.Dataset Pandora.PyExpr

/-- the generated result type, from the model's: `Window(col_off, row_off, width, height)` as the tuple of its
    arguments, `none` (the refusal) as the `ValueError` of the function.  rasterio's `Window` validates its lengths
    itself (negative width / height: its own `ValueError`, kept apart as `"Window: ValueError"`): the model hands
    the four numbers over as they are, so that test sits here — it never fires on a well-formed ROI
    (`getWindow_eq_spec`, `encWindow_spec`) -/
def encWindow : Option Window → PyOut (Int × Int × Int × Int)
  | some w => if w.width < 0 ∨ w.height < 0 then .raised "Window: ValueError"
              else .ok (w.colOff, w.rowOff, w.width, w.height)
  | none => .raised "ValueError"

def encWindow' : Option Window → PyOut (Int × Int × Int × Int)
  | some w => .ok (w.colOff, w.rowOff, w.width, w.height)
  | none => .raised "ValueError"

theorem imin_eq (a b : Int) : imin a b = min a b := imin_eq_min a b

def pyGetWindow (roi : Roi) (width height : Int) : PyOut (Int × Int × Int × Int) :=
  Generated.KernelsGlue.getWindow roi.colFirst roi.colLast roi.rowFirst roi.rowLast
    roi.mLeft roi.mUp roi.mRight roi.mDown width height

/-- **the translated `get_window` is the hand model** at the parameters the translator read in the source on this run,
    for all integers.  Both sides are unfolded to `if` trees over `Int` and every `if` is split: on a leaf the two sides
    return the same value, or the conditions that lead there contradict each other by linear integer arithmetic. -/
theorem getWindow_eq_source : ∀ (roi : Roi) (width height : Int),
    pyGetWindow roi width height = encWindow (Dataset.getWindow Generated.imgToolsParams roi width height) := by
  intro roi width height
  obtain ⟨cf, cl, rf, rl, ml, mu, mr, md⟩ := roi
  simp only [pyGetWindow, Generated.KernelsGlue.getWindow, Dataset.getWindow, Generated.imgToolsParams,
    offTest, endTest, encWindow, imax_eq_max, Bool.or_eq_true, decide_eq_true_eq, Bool.false_eq_true, if_false]
  split_ifs <;> first | rfl | (exfalso; omega) | skip
  -- left: the leaves where the function returns its window; there the `match` on the model's `some` window reduces, and
  -- rasterio's two tests on the lengths meet the model's single test `width < 0 ∨ height < 0`
  all_goals
    dsimp only
    split_ifs <;> first | rfl | (exfalso; omega)

/-- … hence at `Params.fixed` (the non-strict "outside" comparisons), as long as those are the comparisons read in the
    source: `get_window` looks at nothing else in its parameters -/
theorem getWindow_eq_fixed : ∀ (roi : Roi) (width height : Int),
    pyGetWindow roi width height = encWindow (Dataset.getWindow Params.fixed roi width height) := by
  intro roi width height
  rw [getWindow_eq_source, C16.getWindow_flags Params.fixed Generated.imgToolsParams rfl rfl rfl rfl]

/-- the function's own `ValueError` ("Roi specified is outside the image") ↔ the model's refusal `none` -/
theorem getWindow_raises_iff (roi : Roi) (width height : Int) :
    pyGetWindow roi width height = .raised "ValueError" ↔ Dataset.getWindow Params.fixed roi width height = none := by
  rw [getWindow_eq_fixed]
  cases h : Dataset.getWindow Params.fixed roi width height with
  | none => simp [encWindow]
  | some w => simp only [encWindow]; split_ifs <;> simp

/-- a window of the specification has positive lengths: on it the two encodings coincide -/
theorem encWindow_spec (roi : Roi) (width height : Int) :
    encWindow (windowSpec roi width height) = encWindow' (windowSpec roi width height) := by
  cases h : windowSpec roi width height with
  | none => rfl
  | some w =>
    obtain ⟨-, -, hw, hh, -, -⟩ := Pandora.C16.windowSpec_inside roi width height w h
    simp only [encWindow, encWindow']
    rw [if_neg (by omega)]

/-- **the translated `get_window` is the specification**: the ROI enlarged by its margins, clipped to the image;
    `ValueError` exactly when it does not meet the image (hypotheses: those of `C16.getWindow_eq_spec`) -/
theorem getWindow_eq_spec (roi : Roi) (width height : Int)
    (hwf : roi.wf = true) (hw : 0 < width) (hh : 0 < height) :
    pyGetWindow roi width height = encWindow' (windowSpec roi width height) := by
  rw [getWindow_eq_fixed, Pandora.C16.fixed_getWindow roi width height hwf hw hh, encWindow_spec]

/-- non-vacuity: a ROI clipped on two sides, and one refused -/
example : pyGetWindow ⟨4, 9, -1, 2, 1, 0, 0, 1⟩ 6 5 = .ok (3, 0, 3, 4) := by decide
example : pyGetWindow ⟨6, 7, 1, 2, 0, 0, 0, 0⟩ 6 5 = .raised "ValueError" := by decide
/-- an ill-formed ROI (last row before the first one) reaches rasterio's own validation -/
example : pyGetWindow ⟨1, 2, 3, 0, 0, 0, 0, 0⟩ 6 5 = .raised "Window: ValueError" := by decide

end Pandora.C16Kernels
