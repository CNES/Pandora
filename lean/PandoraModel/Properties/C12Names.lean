/-
  C12 — the naming glue of the confidence bands, read from the source (`Generated/Confidence.lean`, translator
  gen_confidence.py: band stems, the `confidence_from_` prefix, the indicator rule of
  `PandoraMachine.cost_volume_confidence_run`), evaluated: Python's `str.split(sep[, maxsplit])` is given a semantics here
  (`pySplit`), the extracted rule is run on it (`evalRule`), and for every step name (any number of dots, empty parts,
  leading / trailing dots) the indicator the source computes is the specification's suffix (`Spec.suffixOf`: everything
  from the first dot), hence every band name is the specified one.

  `pySplit` is checked against CPython on the step names of `Generated.Confidence.indicatorGolden` (what CPython's own
  `str.split` makes of the extracted rule) when this file is built.
-/
import PandoraModel.Model.Confidence
import PandoraModel.Generated.Confidence


namespace Pandora.C12Names
open Pandora.Confidence

/-- `s.split(sep)` (`maxsplit = none`) / `s.split(sep, k)` (`maxsplit = some k`): at most `k` cuts, from the left -/
def pySplit (sep : Char) : List Char → Option Nat → List (List Char)
  | [], _ => [[]]
  | c :: cs, m =>
    if m = some 0 then [c :: cs]
    else if c = sep then [] :: pySplit sep cs (m.map (· - 1))
    else
      match pySplit sep cs m with
      | p :: ps => (c :: p) :: ps
      | [] => [[c]]   -- unreachable

/-- the rule `indicator = dflt; if len(step.split(sep, maxsplit)) == len: indicator = lead + parts[index]`;
    `none`: outside the reading (a separator that is not one character) or the subscript raises IndexError -/
def evalRule (r : Generated.Confidence.IndicatorRule) (step : List Char) : Option (List Char) :=
  match r.sep with
  | [c] =>
    let parts := pySplit c step r.maxsplit
    if parts.length = r.len then (parts[r.index]?).map (fun p => r.lead ++ p) else some r.dflt
  | _ => none

/-- Lean's reading of the rule = CPython's, on the generated table -/
theorem evalRule_golden :
    Generated.Confidence.indicatorGolden.all (fun p => evalRule Generated.Confidence.indicatorRule p.1 == p.2) = true := by
  decide +kernel

theorem pySplit_ne_nil (sep : Char) (s : List Char) (m : Option Nat) : pySplit sep s m ≠ [] := by
  induction s generalizing m with
  | nil => simp [pySplit]
  | cons c cs ih =>
    rw [pySplit]
    split
    · simp
    · split
      · simp
      · split <;> simp

theorem pySplit_zero (sep : Char) (s : List Char) : pySplit sep s (some 0) = [s] := by
  cases s <;> simp [pySplit]

theorem pySplit_none_eq (s : List Char) : pySplit '.' s none = splitDots s := by
  induction s with
  | nil => rfl
  | cons c cs ih =>
    rw [pySplit, splitDots, ← ih]
    have hne := pySplit_ne_nil '.' cs none
    cases h : pySplit '.' cs none with
    | nil => exact absurd h hne
    | cons p ps =>
      by_cases hc : c = '.'
      · simp [hc, h]
      · simp [hc]

/-- the indicator computed with ONE cut: `"." + step.split(".", 1)[1]` when there are two parts, `""` otherwise -/
def indicatorOneCut (step : List Char) : List Char :=
  if (pySplit '.' step (some 1)).length = 2 then '.' :: (pySplit '.' step (some 1)).getD 1 [] else []

theorem indicatorOneCut_eq (step : List Char) : indicatorOneCut step = Spec.suffixOf step := by
  unfold Spec.suffixOf
  induction step with
  | nil => rfl
  | cons c cs ih =>
    unfold indicatorOneCut at ih ⊢
    by_cases hc : c = '.'
    · subst hc
      simp [pySplit, pySplit_zero]
    · have hne := pySplit_ne_nil '.' cs (some 1)
      have hstep : pySplit '.' (c :: cs) (some 1)
          = match pySplit '.' cs (some 1) with | p :: ps => (c :: p) :: ps | [] => [[c]] := by
        rw [pySplit]; simp [hc]
      rw [hstep]
      cases h : pySplit '.' cs (some 1) with
      | nil => exact absurd h hne
      | cons p ps =>
        rw [h] at ih
        have hd : List.dropWhile (fun x => x != '.') (c :: cs) = List.dropWhile (fun x => x != '.') cs := by
          rw [List.dropWhile_cons_of_pos]; simpa using hc
        rw [hd, ← ih]
        cases ps <;> simp

/-- the indicator of `cost_volume_confidence_run` is the specification's suffix for every step name: no dot ↦ `""`,
    otherwise everything from the first dot, two dots or more included -/
theorem indicator_generated_eq_spec (step : List Char) :
    evalRule Generated.Confidence.indicatorRule step = some (Spec.suffixOf step) := by
  rw [← indicatorOneCut_eq]
  have hr : Generated.Confidence.indicatorRule = ⟨['.'], some 1, 2, ['.'], 1, []⟩ := by decide
  rw [hr]
  simp only [evalRule, indicatorOneCut]
  have hne := pySplit_ne_nil '.' step (some 1)
  cases h : pySplit '.' step (some 1) with
  | nil => exact absurd h hne
  | cons p ps =>
    cases ps with
    | nil => simp
    | cons q qs => cases qs <;> simp

/-- the rule with `split(".")` (all dots) evaluates to the hand model's `indicatorOf`, for every step name: the hand
    model is that rule, and differs from the specification exactly on names with two dots or more
    (`indicator_two_dots_counterexample`) -/
theorem indicator_unrepaired_eq_model (step : List Char) :
    evalRule ⟨['.'], none, 2, ['.'], 1, []⟩ step = some (indicatorOf step) := by
  simp only [evalRule, pySplit_none_eq, indicatorOf]
  cases h : splitDots step with
  | nil => simp
  | cons p ps =>
    cases ps with
    | nil => simp
    | cons q qs => cases qs <;> simp

/-- the key under which a method is registered (`register_subclass`) -/
def methodKey : Method → List Char
  | .ambiguity .. => "ambiguity".toList
  | .risk .. => "risk".toList
  | .intervalBounds .. => "interval_bounds".toList
  | .stdIntensity => "std_intensity".toList

/-- the band names a step appends, computed from what the source says: `"confidence_from_" + stem + indicator` for the
    stems the method's `confidence_prediction` allocates, in allocation order -/
def generatedNames (s : Step) : Option (List (List Char)) :=
  match Generated.Confidence.stems.lookup (methodKey s.method), evalRule Generated.Confidence.indicatorRule s.name with
  | some stems, some ind => some (stems.map (fun st => Generated.Confidence.bandPrefix ++ st ++ ind))
  | _, _ => none

theorem stems_lookup (m : Method) : Generated.Confidence.stems.lookup (methodKey m) = some (Spec.stems m) := by
  have h1 : Generated.Confidence.stems.lookup "ambiguity".toList = some ["ambiguity".toList] := by decide +kernel
  have h2 : Generated.Confidence.stems.lookup "risk".toList = some ["risk_max".toList, "risk_min".toList] := by decide +kernel
  have h3 : Generated.Confidence.stems.lookup "interval_bounds".toList
      = some ["interval_bounds_inf".toList, "interval_bounds_sup".toList] := by decide +kernel
  have h4 : Generated.Confidence.stems.lookup "std_intensity".toList = some ["intensity_std".toList] := by decide +kernel
  cases m with
  | ambiguity e n => exact h1
  | risk e => exact h2
  | intervalBounds t r => exact h3
  | stdIntensity => exact h4

/-- **bands_appended_named, on the regenerated naming glue**: for every step (any method, any name) the names built from
    the stems, the prefix and the indicator rule read from the source are the specification's `expectedNames`. -/
theorem names_generated_eq_spec (s : Step) : generatedNames s = some (Spec.expectedNames s) := by
  unfold generatedNames
  rw [indicator_generated_eq_spec, stems_lookup]
  have hp : Generated.Confidence.bandPrefix = confPrefix := rfl
  simp only [Spec.expectedNames, hp]

end Pandora.C12Names
