/-
  C09 — The requested disparity interval is honoured and does not leak into costs.

  First half (costs): theorems over the matching-cost model of C02 (`Model/MatchingCost.lean`):
  the cost of a pixel at a disparity does not depend on the other requested disparities.
  Second half (final disparity): winner-takes-all (`Model/IntervalWta.lean`) here; the later steps (refinement,
  filters, validation, filling) in `Properties/C09Pipeline.lean`.
-/
import PandoraModel.Properties.C02
import PandoraModel.Model.IntervalWta

namespace Pandora.C09
open Pandora.MC Pandora.IntervalWta

/-- two inputs that differ only by the requested disparities -/
structure SameButGrids (x y : Input) : Prop where
  meas : x.meas = y.meas
  w : x.w = y.w
  sp : x.sp = y.sp
  L : x.L = y.L
  R : x.R = y.R
  mL : x.mL = y.mL
  mR : x.mR = y.mR

def InPixelInterval (x : Input) (r c k : Int) : Prop :=
  x.dminG r c * (x.sp : Int) ≤ k ∧ k ≤ x.dmaxG r c * (x.sp : Int)

theorem cause_indep (x y : Input) (h : SameButGrids x y) (r c k : Int)
    (hx : InPixelInterval x r c k) (hy : InPixelInterval y r c k) : cause x r c k = cause y r c k := by
  obtain ⟨h1, h2, h3, h4, h5, h6, h7⟩ := h
  unfold InPixelInterval at hx hy
  unfold cause
  have ex : ¬ (k < x.dminG r c * (x.sp : Int) ∨ k > x.dmaxG r c * (x.sp : Int)) := by omega
  have ey : ¬ (k < y.dminG r c * (y.sp : Int) ∨ k > y.dmaxG r c * (y.sp : Int)) := by omega
  simp only [if_neg ex, if_neg ey]
  simp only [h2, h3, h4, h5, h6, h7]

theorem valueSpec_indep (x y : Input) (h : SameButGrids x y) (r c k : Int) : valueSpec x r c k = valueSpec y r c k := by
  obtain ⟨h1, h2, h3, h4, h5, _, _⟩ := h
  unfold valueSpec
  simp only [h1, h2, h3, h4, h5]

theorem specCell_indep (x y : Input) (h : SameButGrids x y) (r c k : Int)
    (hx : InPixelInterval x r c k) (hy : InPixelInterval y r c k) : specCell x r c k = specCell y r c k := by
  unfold specCell
  rw [cause_indep x y h r c k hx hy, valueSpec_indep x y h r c k]

theorem specCellWith_indep (x y : Input) (h : SameButGrids x y) (val : Int → Int → Int → Cell) (r c k : Int)
    (hx : InPixelInterval x r c k) (hy : InPixelInterval y r c k) :
    specCellWith val x r c k = specCellWith val y r c k :=
  specCellWith_congr (cause_indep x y h r c k hx hy)

/-- `cost_indep`: for two runs that differ only by the requested intervals (scalar or per-pixel grids), the
    cost of pixel `(r, c)` at the disparity `k/sp` — sample `jx` of the first volume, `jy` of the second — is the
    same cell, as soon as `k/sp` lies in the pixel's interval in both runs.  `val` is the value function of the
    measure; it does not mention the grids.  For every measure and without hypothesis on the data it is
    `C02.codeValue x` (`hrx := C02.rawOK_code x hx`; `C02.codeValue y` is the same function, `codeValue` reading the
    images, the window and `subpix` only); `valueSpec x` serves as well where it is the code's value
    (`C02.codeValue_eq_valueSpec`: sad, ssd; census with `w² ≤ 32`; zncc under the variance-threshold hypothesis). -/
theorem cost_indep (x y : Input) (h : SameButGrids x y) (hx : Shape x) (hy : Shape y)
    (hgx : gridMin x.dminG x.L.rows x.L.cols ≤ gridMax x.dmaxG x.L.rows x.L.cols)
    (hgy : gridMin y.dminG y.L.rows y.L.cols ≤ gridMax y.dmaxG y.L.rows y.L.cols)
    (val : Int → Int → Int → Cell) (hrx : RawOK x val) (hry : RawOK y val) (r c k : Int) (jx jy : Nat)
    (hjx : jx < nDisp (gridMin x.dminG x.L.rows x.L.cols) (gridMax x.dmaxG x.L.rows x.L.cols) x.sp)
    (hjy : jy < nDisp (gridMin y.dminG y.L.rows y.L.cols) (gridMax y.dmaxG y.L.rows y.L.cols) y.sp)
    (hkx : k = gridMin x.dminG x.L.rows x.L.cols * (x.sp : Int) + jx)
    (hky : k = gridMin y.dminG y.L.rows y.L.cols * (y.sp : Int) + jy)
    (hix : InPixelInterval x r c k) (hiy : InPixelInterval y r c k) :
    costVolume x r c jx = costVolume y r c jy := by
  rw [C02.costVolume_eq_specWith_of_raw x hx val hgx hrx r c jx hjx,
    C02.costVolume_eq_specWith_of_raw y hy val hgy hry r c jy hjy]
  rw [← hkx, ← hky]
  exact specCellWith_indep x y h val r c k hix hiy

/-- `grid_outside_nan`: outside the pixel's own interval the cost is NaN (whatever the measure).  It is the first branch
    of `MC.costVolume_eq_step`, here without that lemma's hypotheses (`subpix > 0`, `gmin ≤ gmax`, `j` a sample). -/
theorem outside_pixel_interval_nan (x : Input) (r c : Int) (j : Nat)
    (hout : ¬ InPixelInterval x r c (gridMin x.dminG x.L.rows x.L.cols * (x.sp : Int) + j)) :
    costVolume x r c j = .nan := by
  unfold InPixelInterval at hout
  unfold costVolume intervalMask
  simp only
  rw [if_pos (by omega)]

/-- the input with the scalar interval `[a, b]` (what `add_disparity` builds: two constant grids) -/
def withScalar (x : Input) (a b : Int) : Input := { x with dminG := fun _ _ => a, dmaxG := fun _ _ => b }

theorem sameButGrids_withScalar (x : Input) (a b : Int) : SameButGrids x (withScalar x a b) :=
  ⟨rfl, rfl, rfl, rfl, rfl, rfl, rfl⟩

theorem shape_withScalar (x : Input) (a b : Int) (h : Shape x) : Shape (withScalar x a b) :=
  ⟨h.odd, h.sp_pos, h.rows_eq, h.cols_eq, h.cols_pos⟩

theorem costVolume_withScalar (x : Input) (h : Shape x) (val : Int → Int → Int → Cell) (hraw : RawOK x val)
    (hrows : 0 < x.L.rows) (a b : Int) (hab : a ≤ b) (r c : Int) (j : Nat) (hj : j < nDisp a b x.sp) :
    costVolume (withScalar x a b) r c j = specCellWith val (withScalar x a b) r c (a * (x.sp : Int) + j) := by
  have g1 : (withScalar x a b).gmin = a := gridMin_const a _ _ hrows h.cols_pos
  have g2 : (withScalar x a b).gmax = b := gridMax_const b _ _ hrows h.cols_pos
  have := C02.costVolume_eq_specWith_of_raw (withScalar x a b) (shape_withScalar x a b h) val
    (by rw [g1, g2]; exact hab) hraw r c j (by rw [Input.nSamples, g1, g2]; exact hj)
  rwa [g1] at this

theorem inPixelInterval_withScalar (x : Input) (hs : 0 < x.sp) (a b : Int) (hab : a ≤ b) (r c : Int) (j : Nat)
    (hj : j < nDisp a b x.sp) : InPixelInterval (withScalar x a b) r c (a * (x.sp : Int) + j) := by
  have := nDisp_cast a b x.sp hs hab
  show a * (x.sp : Int) ≤ _ ∧ _ ≤ b * (x.sp : Int)
  omega

/-- `slice_of_larger`: the volume computed for `[a, b]` is the slice of the volume computed for any larger
    interval `[a', b'] ⊇ [a, b]`: sample `j` of the first is sample `j + (a - a')·sp` of the second. -/
theorem slice_of_larger (x : Input) (h : Shape x) (val : Int → Int → Int → Cell) (hraw : RawOK x val) (hrows : 0 < x.L.rows)
    (a b a' b' : Int) (hab : a ≤ b) (ha : a' ≤ a) (hb : b ≤ b') (r c : Int) (j : Nat)
    (hj : j < nDisp a b x.sp) :
    costVolume (withScalar x a b) r c j = costVolume (withScalar x a' b') r c (j + ((a - a') * (x.sp : Int)).toNat) := by
  have hs' : (0 : Int) ≤ x.sp := Int.natCast_nonneg _
  have hbb : b * (x.sp : Int) ≤ b' * x.sp := Int.mul_le_mul_of_nonneg_right hb hs'
  have haa : a' * (x.sp : Int) ≤ a * x.sp := Int.mul_le_mul_of_nonneg_right ha hs'
  have hn := nDisp_cast a b x.sp h.sp_pos hab
  have hn' := nDisp_cast a' b' x.sp h.sp_pos (by omega)
  have hsub : (a - a') * (x.sp : Int) = a * x.sp - a' * x.sp := Int.sub_mul ..
  have hj' : j + ((a - a') * (x.sp : Int)).toNat < nDisp a' b' x.sp := by omega
  -- both samples are the disparity `(a·sp + j)/sp`
  have hk : a' * (x.sp : Int) + ((j + ((a - a') * (x.sp : Int)).toNat : Nat) : Int) = a * (x.sp : Int) + j := by omega
  have hin := inPixelInterval_withScalar x h.sp_pos a' b' (by omega) r c _ hj'
  rw [costVolume_withScalar x h val hraw hrows a b hab r c j hj,
    costVolume_withScalar x h val hraw hrows a' b' (by omega) r c _ hj']
  rw [hk] at hin ⊢
  exact specCellWith_indep _ _ (sameButGrids_withScalar (withScalar x a b) a' b') val r c _
    (inPixelInterval_withScalar x h.sp_pos a b hab r c j hj) hin

/-- `grid_inside_same`: per-pixel grids give, inside each pixel's interval, the cost of the scalar run over
    any interval `[a, b]` that contains the pixel's interval -/
theorem grid_inside_same (x : Input) (h : Shape x) (val : Int → Int → Int → Cell) (hraw : RawOK x val) (hrows : 0 < x.L.rows)
    (hg : gridMin x.dminG x.L.rows x.L.cols ≤ gridMax x.dmaxG x.L.rows x.L.cols)
    (a b : Int) (hab : a ≤ b) (r c : Int) (j j' : Nat)
    (hj : j < nDisp (gridMin x.dminG x.L.rows x.L.cols) (gridMax x.dmaxG x.L.rows x.L.cols) x.sp)
    (hj' : j' < nDisp a b x.sp)
    (hk : gridMin x.dminG x.L.rows x.L.cols * (x.sp : Int) + j = a * (x.sp : Int) + j')
    (hin : InPixelInterval x r c (gridMin x.dminG x.L.rows x.L.cols * (x.sp : Int) + j)) :
    costVolume x r c j = costVolume (withScalar x a b) r c j' := by
  rw [C02.costVolume_eq_specWith_of_raw x h val hg hraw r c j hj,
    costVolume_withScalar x h val hraw hrows a b hab r c j' hj']
  rw [hk] at hin ⊢
  exact specCellWith_indep x (withScalar x a b) (sameButGrids_withScalar x a b) val r c _ hin
    (inPixelInterval_withScalar x h.sp_pos a b hab r c j' hj')

/-- `stored_interval`: the first and last disparity coordinates of the cost volume (what
    `disparity_interval` stores) are the global minimum and maximum of the requested interval(s) -/
theorem stored_interval (gmin gmax : Int) (sp : Nat) (hs : 0 < sp) (hg : gmin ≤ gmax) :
    (dispRange gmin gmax sp).head? = some (gmin * (sp : Int)) ∧
    (dispRange gmin gmax sp).getLast? = some (gmax * (sp : Int)) := by
  have hs' : (0 : Int) < sp := by exact_mod_cast hs
  have hnn : 0 ≤ (gmax - gmin) * (sp : Int) := Int.mul_nonneg (by omega) (le_of_lt hs')
  rw [dispRange_eq gmin gmax sp hs hg]
  constructor
  · rw [List.range_succ_eq_map]
    simp
  · rw [List.range_succ, List.map_append]
    simp only [List.map_cons, List.map_nil, List.getLast?_append, List.getLast?_singleton]
    simp only [Option.some_or]
    congr 1
    have : (((gmax - gmin) * (sp : Int)).toNat : Int) = (gmax - gmin) * sp := Int.toNat_of_nonneg hnn
    rw [this]; ring

theorem subst_eq_fin_iff (c : Cell) : (∃ cl, subst c = .fin cl) ↔ c.isNan = false := by
  unfold subst
  cases c.isNan <;> simp

theorem argBest_lt (better : Cell → Cell → Bool) (f : Nat → Ext) : ∀ n, 0 < n → argBest better f n < n
  | 1, _ => Nat.zero_lt_one
  | n + 2, _ => by
    have := argBest_lt better f (n + 1) (Nat.succ_pos n)
    simp only [argBest]
    split <;> omega

theorem argBest_fin (better : Cell → Cell → Bool) (f : Nat → Ext) :
    ∀ n, (∃ j, j < n ∧ ∃ c, f j = .fin c) → ∃ c, f (argBest better f n) = .fin c
  | 0, ⟨_, hj, _⟩ => absurd hj (Nat.not_lt_zero _)
  | 1, ⟨j, hj, c, hc⟩ => ⟨c, by rwa [Nat.lt_one_iff.mp hj] at hc⟩
  | n + 2, ⟨j, hj, c, hc⟩ => by
    simp only [argBest]
    split
    · rename_i hb
      cases hf : f (n + 1) with
      | fin c => exact ⟨c, rfl⟩
      | worst => rw [hf] at hb; simp [extBetter] at hb
    · rename_i hb
      by_cases hjn : j = n + 1
      · subst hjn
        cases hfb : f (argBest better f (n + 1)) with
        | fin c' => exact ⟨c', rfl⟩
        | worst => rw [hc, hfb] at hb; simp [extBetter] at hb
      · exact argBest_fin better f (n + 1) ⟨j, by omega, c, hc⟩

/-- `after_disp_in_pixel_interval`: whatever the measure (any strict order `better`), the index chosen by
    winner-takes-all on the costs of a pixel is a sample of the range with a numeric cost; hence — by
    `outside_pixel_interval_nan` — its disparity lies inside the pixel's own `[min, max]`, and inside the
    global interval. -/
theorem wta_in_pixel_interval (x : Input) (better : Cell → Cell → Bool) (r c : Int) (j : Nat)
    (hw : wta better (fun j => costVolume x r c j)
      (nDisp (gridMin x.dminG x.L.rows x.L.cols) (gridMax x.dmaxG x.L.rows x.L.cols) x.sp) = some j) :
    j < nDisp (gridMin x.dminG x.L.rows x.L.cols) (gridMax x.dmaxG x.L.rows x.L.cols) x.sp ∧
    (costVolume x r c j).isNan = false ∧
    InPixelInterval x r c (gridMin x.dminG x.L.rows x.L.cols * (x.sp : Int) + j) := by
  set n := nDisp (gridMin x.dminG x.L.rows x.L.cols) (gridMax x.dmaxG x.L.rows x.L.cols) x.sp with hn
  unfold wta at hw
  split at hw
  · exact nomatch hw
  · rename_i hall
    obtain rfl := Option.some.inj hw
    -- some cost is a number, hence so is the chosen one
    rw [allZ_iff] at hall
    push Not at hall
    obtain ⟨i, hi, hnn⟩ := hall
    have hex : ∃ i, i < n ∧ ∃ cl, subst (costVolume x r c i) = .fin cl :=
      ⟨i, hi, (subst_eq_fin_iff _).mpr (by simpa using hnn)⟩
    have hnum := (subst_eq_fin_iff _).mp (argBest_fin better _ n hex)
    refine ⟨argBest_lt better _ n (by omega), hnum, ?_⟩
    by_contra hout
    rw [outside_pixel_interval_nan x r c _ hout] at hnum
    exact Bool.noConfusion hnum

theorem pixel_interval_in_global (x : Input) (r c k : Int) (hr : 0 ≤ r ∧ r < x.L.rows) (hc : 0 ≤ c ∧ c < x.L.cols)
    (h : InPixelInterval x r c k) :
    gridMin x.dminG x.L.rows x.L.cols * (x.sp : Int) ≤ k ∧ k ≤ gridMax x.dmaxG x.L.rows x.L.cols * (x.sp : Int) := by
  have hs' : (0 : Int) ≤ x.sp := by exact_mod_cast (Nat.zero_le _)
  have h1 := Int.mul_le_mul_of_nonneg_right (gridMin_le x.dminG x.L.rows x.L.cols r c hr hc) hs'
  have h2 := Int.mul_le_mul_of_nonneg_right (le_gridMax x.dmaxG x.L.rows x.L.cols r c hr hc) hs'
  unfold InPixelInterval at h
  omega

end Pandora.C09
