/-
  C13 — vertical flip of the composed pipeline of `C13Pipeline.lean`: the `…_commutes` stage theorems at the row
  negation, on scenes whose domain is a product rows × columns (every array).  The aggregation, the flags and the right map keep a hypothesis `VFlipOn`
  (flags: discharged in `C13FlipFlags.lean`; right map: met by the pipeline itself on the swapped scene); the median
  filter needs an odd `filter_size` only when it is switched on.
-/
import PandoraModel.Properties.C13FlipMc

namespace Pandora.C13
open Pandora.Locality

theorem noAgg_vflip : VFlip noAgg := Commutes.vflip noAgg_commutes

theorem costStage_vflip (C : PipeCfg) {agg : AggStep} (hA : VFlipOn agg) : VFlipOn (costStage C agg) :=
  costStage_commutes C keepsDom_rect (mcRowStep_vflip C.mc C.gmin C.n) hA

theorem filtStage_vflip (C : PipeCfg) {agg : AggStep} (hA : VFlipOn agg)
    {flagL : Img McCell → Img Nat} (hF : VFlipOn flagL) (doRefine : Bool)
    {filt : Img (Val × Nat) → Img Val} (hM : VFlip filt) :
    VFlipOn (filtStage C agg flagL doRefine filt) :=
  filtStage_commutes C (costStage_vflip C hA) hF doRefine (fun _ _ => trivial) hM.commutes

theorem filterStage_vflip (C : PipeCfg) {agg : AggStep} (hA : VFlipOn agg)
    {flagL : Img McCell → Img Nat} (hF : VFlipOn flagL) (doRefine doMedian : Bool)
    (hodd : doMedian = true → C.fs % 2 = 1) :
    VFlipOn (filterStage C agg flagL doRefine doMedian) :=
  filterStage_commutes C (costStage_vflip C hA) hF doRefine doMedian
    fun h => (medianStep_vflip C.invalidMask C.fs (hodd h)).commutes

theorem ccStage_vflip (C : PipeCfg) {agg : AggStep} (hA : VFlipOn agg)
    {flagL : Img McCell → Img Nat} (hF : VFlipOn flagL) (doRefine doMedian : Bool)
    (hodd : doMedian = true → C.fs % 2 = 1)
    {dispR : Img McCell → Img Val} (hR : VFlipOn dispR) (V : CrossCheck.Variant) (CP : CrossCheck.Params) :
    VFlipOn (ccStage C agg flagL doRefine doMedian dispR V CP) :=
  ccStage_eq_ccOn C agg flagL doRefine doMedian dispR V CP ▸
    ccOn_commutes (filterStage_vflip C hA hF doRefine doMedian hodd) hR V CP (ccStep_vflip V CP).commutes

/-- swapping the two images of the scene commutes with the flip and keeps the domain -/
theorem rightDisp_vflip (C' : PipeCfg) {agg : AggStep} (hA : VFlipOn agg)
    {flagR : Img McCell → Img Nat} (hF : VFlipOn flagR) (doRefine doMedian : Bool)
    (hodd : doMedian = true → C'.fs % 2 = 1) :
    VFlipOn (rightDisp C' agg flagR doRefine doMedian) :=
  rightDisp_commutes C' keepsDom_rect (costStage_vflip C' hA) hF doRefine doMedian
    fun h => (medianStep_vflip C'.invalidMask C'.fs (hodd h)).commutes

/-- all windows being odd-sized: `fs` odd when the median filter is on; the matching-cost window has half-width `half w`
    on both sides by construction -/
theorem pipeline_flip (C : PipeCfg) {agg : AggStep} (hAe : Equivariant agg) (hA : VFlipOn agg)
    {flagL : Img McCell → Img Nat} (hFe : Equivariant flagL) (hF : VFlipOn flagL) (doRefine doMedian : Bool)
    (hodd : doMedian = true → C.fs % 2 = 1)
    {dispR : Img McCell → Img Val} (hRe : Equivariant dispR) (hR : VFlipOn dispR)
    (V : CrossCheck.Variant) (CP : CrossCheck.Params) :
    FlipExact (ccStage C agg flagL doRefine doMedian dispR V CP) :=
  flip_run_eq (ccStage_equivariant C hAe hFe doRefine doMedian hRe V CP)
    (ccStage_vflip C hA hF doRefine doMedian hodd hR V CP)

theorem filter_flip (C : PipeCfg) {agg : AggStep} (hAe : Equivariant agg) (hA : VFlipOn agg)
    {flagL : Img McCell → Img Nat} (hFe : Equivariant flagL) (hF : VFlipOn flagL) (doRefine doMedian : Bool)
    (hodd : doMedian = true → C.fs % 2 = 1) :
    FlipExact (filterStage C agg flagL doRefine doMedian) :=
  flip_run_eq (filterStage_equivariant C hAe hFe doRefine doMedian)
    (filterStage_vflip C hA hF doRefine doMedian hodd)

/-- **Both maps from the pipeline**: the left pipeline `C`, the right map being the pipeline `C'` on the
    swapped scene, then cross-checking. -/
theorem pipeline_flip_lr (C C' : PipeCfg) {agg : AggStep} (hAe : Equivariant agg) (hA : VFlipOn agg)
    {flagL flagR : Img McCell → Img Nat} (hFe : Equivariant flagL) (hF : VFlipOn flagL)
    (hFRe : Equivariant flagR) (hFR : VFlipOn flagR) (doRefine doMedian : Bool)
    (hodd : doMedian = true → C.fs % 2 = 1) (hodd' : doMedian = true → C'.fs % 2 = 1)
    (V : CrossCheck.Variant) (CP : CrossCheck.Params) :
    FlipExact (ccStage C agg flagL doRefine doMedian (rightDisp C' agg flagR doRefine doMedian) V CP) :=
  flip_run_eq
    (ccStage_equivariant C hAe hFe doRefine doMedian (rightDisp_equivariant C' hAe hFRe doRefine doMedian) V CP)
    (ccStage_vflip C hA hF doRefine doMedian hodd (rightDisp_vflip C' hA hFR doRefine doMedian hodd') V CP)

/-! ### Non-vacuity: the configuration `exCfg` of `C13Pipeline` (sad, window 3, subpix 2, interval [-1, 1],
    vfit, median 3), no aggregation, constant flags, the right map from the pipeline on the swapped scene,
    cross-checking with the parameters of C07's example: every hypothesis is met, for every scene array -/

theorem constFlag_vflip (v : Nat) : VFlip (fun (a : Img McCell) q => (a q).map fun _ => v) :=
  Commutes.vflip (Commutes.id.map _)

example (ny nx : Nat) (scene : Nat → Nat → McCell) (p : Px) :
    ccStage exCfg noAgg (fun a q => (a q).map fun _ => 0) true true
        (rightDisp exCfg noAgg (fun a q => (a q).map fun _ => 0) true true) .ruleFix C07.exParams
        (toImg ny nx (flipArr ny scene)) p
      = ccStage exCfg noAgg (fun a q => (a q).map fun _ => 0) true true
        (rightDisp exCfg noAgg (fun a q => (a q).map fun _ => 0) true true) .ruleFix C07.exParams
        (toImg ny nx scene) ((ny : Int) - 1 - p.1, p.2) :=
  pipeline_flip_lr exCfg exCfg noAgg_equivariant noAgg_vflip.toOn
    (Equivariant.map id_equivariant _) (constFlag_vflip 0).toOn
    (Equivariant.map id_equivariant _) (constFlag_vflip 0).toOn true true
    (fun _ => by decide) (fun _ => by decide) .ruleFix C07.exParams ny nx scene p

example (ny nx : Nat) (scene : Nat → Nat → McCell) (p : Px) :
    filterStage exCfg noAgg (fun a q => (a q).map fun _ => 0) true true (toImg ny nx (flipArr ny scene)) p
      = filterStage exCfg noAgg (fun a q => (a q).map fun _ => 0) true true (toImg ny nx scene)
          ((ny : Int) - 1 - p.1, p.2) :=
  filter_flip exCfg noAgg_equivariant noAgg_vflip.toOn (Equivariant.map id_equivariant _) (constFlag_vflip 0).toOn
    true true (fun _ => by decide) ny nx scene p

end Pandora.C13
