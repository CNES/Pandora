/-
  C03 — Winner-takes-all picks each pixel's best cost inside its disparity interval.

  Theorems about the executable model `Model/Wta.lean` (+ `Model/Blocks.lean`), for cost volumes of any
  shape, any NaN pattern, ties, min- and max-type measures, any `invalid_disparity` (NaN included) and
  any split of the image into processing blocks; the block literals of the source are instantiated
  from `Generated/Blocks.lean` (regenerated from disparity.py on every run).
-/
import PandoraModel.Model.Wta
import PandoraModel.Lemmas.Blocks
import PandoraModel.Generated.Blocks
import Mathlib.Algebra.Order.Field.Rat

namespace Pandora.C03
open Pandora.Wta

/-- strict weak order (what `<` on floats without NaN is) -/
structure StrictWeak {α : Type} (lt : α → α → Bool) : Prop where
  irrefl : ∀ a, lt a a = false
  trans : ∀ a b c, lt a b = true → lt b c = true → lt a c = true
  negTrans : ∀ a b c, lt a b = false → lt b c = false → lt a c = false

theorem StrictWeak.asymm {α : Type} {lt : α → α → Bool} (h : StrictWeak lt) {a b : α}
    (hab : lt a b = true) : lt b a = false := by
  cases hba : lt b a with
  | false => rfl
  | true => have := h.trans a b a hab hba; rw [h.irrefl] at this; exact absurd this (by decide)

/-- the order read from right to left (`np.argmax` is `np.argmin` for it) -/
theorem StrictWeak.flip {α : Type} {lt : α → α → Bool} (h : StrictWeak lt) : StrictWeak (fun a b => lt b a) where
  irrefl a := h.irrefl a
  trans a b c h1 h2 := h.trans c b a h2 h1
  negTrans a b c h1 h2 := h.negTrans c b a h2 h1

theorem lt_negInf (a : Ext) : Ext.lt a .negInf = false := by cases a <;> rfl

theorem posInf_lt (a : Ext) : Ext.lt .posInf a = false := by cases a <;> rfl

/-- an infinite middle cost is settled by `lt_negInf` / `posInf_lt`; around a finite one only three finite costs need
    an argument -/
theorem extLt_strictWeak : StrictWeak Ext.lt where
  irrefl a := by
    cases a <;> first | rfl | exact decide_eq_false (lt_irrefl _)
  trans a b c h1 h2 := by
    cases b with
    | negInf => exact absurd ((lt_negInf a).symm.trans h1) Bool.false_ne_true
    | posInf => exact absurd ((posInf_lt c).symm.trans h2) Bool.false_ne_true
    | fin q =>
      cases a <;> cases c <;> first
        | rfl | contradiction
        | exact decide_eq_true (lt_trans (of_decide_eq_true h1) (of_decide_eq_true h2))
  negTrans a b c h1 h2 := by
    cases b with
    | negInf => cases c <;> first | exact lt_negInf a | contradiction
    | posInf => cases a <;> first | exact posInf_lt c | contradiction
    | fin q =>
      cases a <;> cases c <;> first
        | rfl | contradiction
        | exact decide_eq_false (not_lt.2 (le_trans (not_lt.1 (of_decide_eq_false h2)) (not_lt.1 (of_decide_eq_false h1))))

theorem argFirstAux_spec {α : Type} {lt : α → α → Bool} (h : StrictWeak lt) :
    ∀ (xs : List α) (x : α),
      (x :: xs)[(argFirstAux lt x xs).1]? = some (argFirstAux lt x xs).2
      ∧ (∀ y ∈ x :: xs, lt y (argFirstAux lt x xs).2 = false)
      ∧ (∀ j y, j < (argFirstAux lt x xs).1 → (x :: xs)[j]? = some y → lt (argFirstAux lt x xs).2 y = true)
  | [], x =>
    ⟨rfl, fun y hy => by rw [List.mem_singleton.1 hy]; exact h.irrefl x, fun j y hj => absurd hj (Nat.not_lt_zero _)⟩
  | y :: ys, x => by
    obtain ⟨ih1, ih2, ih3⟩ := argFirstAux_spec h ys y
    cases hlt : lt (argFirstAux lt y ys).2 x with
    | true =>
      -- the least element of the tail is better than the head: it stays, one position further
      have e : argFirstAux lt x (y :: ys) = ((argFirstAux lt y ys).1 + 1, (argFirstAux lt y ys).2) := by
        simp only [argFirstAux, hlt, if_true]
      rw [e]
      refine ⟨ih1, fun z hz => ?_, fun j z hj hz => ?_⟩
      · rcases List.mem_cons.1 hz with rfl | hz
        · exact h.asymm hlt
        · exact ih2 z hz
      · cases j with
        | zero => exact Option.some.inj hz ▸ hlt
        | succ j => exact ih3 j z (Nat.lt_of_succ_lt_succ hj) hz
    | false =>
      -- the head is at least as good as everything after it: it is the first least element
      have e : argFirstAux lt x (y :: ys) = (0, x) := by
        simp only [argFirstAux, hlt, Bool.false_eq_true, if_false]
      rw [e]
      refine ⟨rfl, fun z hz => ?_, fun j z hj => absurd hj (Nat.not_lt_zero _)⟩
      rcases List.mem_cons.1 hz with rfl | hz
      · exact h.irrefl _
      · exact h.negTrans z _ _ (ih2 z hz) hlt

theorem argFirst_spec {α : Type} {lt : α → α → Bool} (h : StrictWeak lt) (xs : List α) (hne : xs ≠ []) :
    ∃ m, xs[argFirst lt xs]? = some m
      ∧ (∀ (j : Nat) y, xs[j]? = some y → lt y m = false)
      ∧ (∀ (j : Nat) y, j < argFirst lt xs → xs[j]? = some y → lt m y = true) := by
  cases xs with
  | nil => exact absurd rfl hne
  | cons x xs =>
    obtain ⟨h1, h2, h3⟩ := argFirstAux_spec h xs x
    refine ⟨(argFirstAux lt x xs).2, h1, ?_, h3⟩
    intro j y hy
    exact h2 y (List.mem_of_getElem? hy)

def sub (isMax : Bool) : Val → Ext := if isMax then substMax else substMin
def ord (isMax : Bool) : Ext → Ext → Bool := if isMax then gtExt else Ext.lt

theorem winnerIdx_eq (isMax : Bool) (costs : List Val) :
    winnerIdx isMax costs = argFirst (ord isMax) (costs.map (sub isMax)) := by
  cases isMax <;> rfl

theorem ord_strictWeak (isMax : Bool) : StrictWeak (ord isMax) := by
  cases isMax
  · exact extLt_strictWeak
  · exact extLt_strictWeak.flip

theorem ord_num_nan (isMax : Bool) (q : Rat) : ord isMax (sub isMax (.num q)) (sub isMax .nan) = true := by
  cases isMax <;> rfl

theorem ord_nan_any (isMax : Bool) (v : Val) : ord isMax (sub isMax .nan) (sub isMax v) = false := by
  cases isMax
  · exact posInf_lt (substMin v)
  · exact lt_negInf (substMax v)

theorem ord_num_num (isMax : Bool) (a b : Rat) :
    ord isMax (sub isMax (.num a)) (sub isMax (.num b)) = false ↔ asGood isMax b a = true := by
  cases isMax <;> simp [ord, sub, gtExt, Ext.lt, substMin, substMax, asGood]

theorem costAt_eq_getElem (costs : List Val) (k : Nat) (hk : k < costs.length) : costAt costs k = costs[k] := by
  simp [costAt, List.getD, List.getElem?_eq_getElem hk]

theorem costAt_eq_getElem? (costs : List Val) (k : Nat) (hk : k < costs.length) :
    costs[k]? = some (costAt costs k) := by
  rw [costAt_eq_getElem costs k hk, List.getElem?_eq_getElem hk]

theorem hasCost_iff (costs : List Val) :
    hasCost costs = true ↔ ∃ k q, k < costs.length ∧ costAt costs k = .num q := by
  constructor
  · intro h
    obtain ⟨v, hv, hnum⟩ := List.any_eq_true.1 h
    obtain ⟨k, hk, rfl⟩ := List.mem_iff_getElem.1 hv
    cases e : costs[k] with
    | nan => rw [e] at hnum; cases hnum
    | num q => exact ⟨k, q, hk, (costAt_eq_getElem costs k hk).trans e⟩
  · rintro ⟨k, q, hk, e⟩
    exact List.any_eq_true.2 ⟨costs[k], List.getElem_mem hk, by rw [← costAt_eq_getElem costs k hk, e]; rfl⟩

theorem allNan_eq_not_hasCost (costs : List Val) : allNan costs = !hasCost costs := by
  induction costs with
  | nil => rfl
  | cons v vs ih =>
    simp only [allNan, hasCost, List.all_cons, List.any_cons] at ih ⊢
    rw [ih]; cases v <;> simp [Val.isNum, Val.isNan]

theorem strictlyIncreasing_getD : ∀ (ds : List Rat), strictlyIncreasing ds = true →
    ∀ i j, i ≤ j → j < ds.length → dispAt ds i ≤ dispAt ds j
  | [], _, _, _, _, hj => absurd hj (Nat.not_lt_zero _)
  | [a], _, i, j, hij, hj => by
    obtain rfl : j = 0 := Nat.lt_one_iff.1 hj
    obtain rfl : i = 0 := Nat.le_zero.1 hij
    exact le_refl _
  | a :: b :: rest, h, i, j, hij, hj => by
    rw [strictlyIncreasing, Bool.and_eq_true, decide_eq_true_eq] at h
    have ih := strictlyIncreasing_getD (b :: rest) h.2
    match i, j, hij, hj with
    | 0, 0, _, _ => exact le_refl _
    | 0, j + 1, _, hj => exact le_trans (le_of_lt h.1) (ih 0 j (Nat.zero_le _) (Nat.lt_of_succ_lt_succ hj))
    | i + 1, j + 1, hij, hj => exact ih i j (Nat.le_of_succ_le_succ hij) (Nat.lt_of_succ_lt_succ hj)

theorem isBestIdx_iff (isMax : Bool) (costs : List Val) (k : Nat) :
    isBestIdx isMax costs k = true ↔
      (∃ c, costAt costs k = .num c) ∧
      ∀ j, j < costs.length → ord isMax (sub isMax (costAt costs j)) (sub isMax (costAt costs k)) = false := by
  unfold isBestIdx
  cases hk : costAt costs k with
  | nan => exact ⟨fun h => absurd h Bool.false_ne_true, fun ⟨⟨c, hc⟩, _⟩ => Val.noConfusion hc⟩
  | num c =>
    rw [List.all_eq_true]
    refine ⟨fun h => ⟨⟨c, rfl⟩, fun j hj => ?_⟩, fun ⟨_, h⟩ j hj => ?_⟩
    · have := h j (List.mem_range.2 hj)
      cases e : costAt costs j with
      | nan => exact ord_nan_any isMax _
      | num c' => rw [e] at this; exact (ord_num_num isMax c' c).2 this
    · have := h j (List.mem_range.1 hj)
      cases e : costAt costs j with
      | nan => rfl
      | num c' => rw [e] at this; exact (ord_num_num isMax c' c).1 this

theorem winner_facts (isMax : Bool) (costs : List Val) (hc : hasCost costs = true) :
    winnerIdx isMax costs < costs.length
    ∧ isBestIdx isMax costs (winnerIdx isMax costs) = true
    ∧ (∀ j, j < costs.length → isBestIdx isMax costs j = true → winnerIdx isMax costs ≤ j) := by
  obtain ⟨k0, q0, hk0, e0⟩ := (hasCost_iff costs).1 hc
  have at_j : ∀ j, j < costs.length → (costs.map (sub isMax))[j]? = some (sub isMax (costAt costs j)) :=
    fun j hj => by rw [List.getElem?_map, costAt_eq_getElem? costs j hj]; rfl
  obtain ⟨m, hm, hbest, hfirst⟩ := argFirst_spec (ord_strictWeak isMax) (costs.map (sub isMax))
    (fun h => by rw [List.map_eq_nil_iff.1 h] at hk0; exact absurd hk0 (Nat.not_lt_zero _))
  rw [← winnerIdx_eq] at hm hfirst
  have hilt : winnerIdx isMax costs < costs.length :=
    List.length_map (sub isMax) ▸ (List.getElem?_eq_some_iff.1 hm).1
  obtain rfl : sub isMax (costAt costs (winnerIdx isMax costs)) = m :=
    Option.some.inj ((at_j _ hilt).symm.trans hm)
  have hbest' := fun j hj => hbest j _ (at_j j hj)
  refine ⟨hilt, (isBestIdx_iff isMax costs _).2 ⟨?_, hbest'⟩, fun j hj hbj => ?_⟩
  · -- the winner's cost is computable: the substituted NaN would be beaten by the computable cost at `k0`
    cases e : costAt costs (winnerIdx isMax costs) with
    | num c => exact ⟨c, rfl⟩
    | nan =>
      have := hbest' k0 hk0
      rw [e, e0, ord_num_nan] at this
      cases this
  · -- an earlier best index would be strictly worse than the winner, and not worse
    by_contra hlt
    have h1 := hfirst j _ (Nat.lt_of_not_le hlt) (at_j j hj)
    rw [((isBestIdx_iff isMax costs j).1 hbj).2 _ hilt] at h1
    cases h1

/-- **Per-pixel theorem.**  For well-formed pixel data the value written by the model satisfies every
    clause of the specification: sampled disparity, best cost, lowest disparity among ties, inside the
    pixel's interval; `invalid_disparity` (NaN included) when no cost is computable. -/
theorem wtaPixel_spec (isMax : Bool) (disps : List Rat) (lo hi : Rat) (costs : List Val) (invalid : Val)
    (wf : wfPixel disps lo hi costs = true) :
    specPixel isMax disps lo hi costs invalid (wtaPixel isMax disps costs invalid) = true := by
  simp only [wfPixel, Bool.and_eq_true, beq_iff_eq] at wf
  obtain ⟨⟨hlen, hinc⟩, hint⟩ := wf
  cases hc : hasCost costs with
  | false =>
    have : wtaPixel isMax disps costs invalid = invalid := by
      rw [wtaPixel, allNan_eq_not_hasCost, hc]; rfl
    simp [specPixel, clauseIsSample, clauseIsBest, clauseTieLowest, clauseInInterval, clauseAllNan, hc, this]
  | true =>
    obtain ⟨hi1, hi2, hi3⟩ := winner_facts isMax costs hc
    have hout : wtaPixel isMax disps costs invalid = .num (dispAt disps (winnerIdx isMax costs)) := by
      rw [wtaPixel, allNan_eq_not_hasCost, hc]; rfl
    rw [hout]
    have hmem : winnerIdx isMax costs ∈ idxs costs := List.mem_range.2 hi1
    simp only [specPixel, clauseIsSample, clauseIsBest, clauseTieLowest, clauseInInterval, clauseAllNan,
      hc, Bool.not_true, Bool.false_or, Bool.true_or, Bool.and_true, Bool.and_eq_true]
    refine ⟨⟨⟨?_, ?_⟩, ?_⟩, ?_⟩
    · exact List.any_eq_true.2 ⟨_, hmem, by simp⟩
    · exact List.any_eq_true.2 ⟨_, hmem, by simp [hi2]⟩
    · refine List.all_eq_true.2 ?_
      intro j hj
      have hj' : j < costs.length := List.mem_range.1 hj
      cases hb : isBestIdx isMax costs j with
      | false => rfl
      | true =>
        exact decide_eq_true (strictlyIncreasing_getD disps hinc _ j (hi3 j hj' hb) (hlen ▸ hj'))
    · have := List.all_eq_true.1 hint _ hmem
      obtain ⟨c, hcI⟩ := ((isBestIdx_iff isMax costs _).1 hi2).1
      rw [hcI] at this
      simpa [Val.isNan] using this

/-- **Block independence** (`argmin_split` / `argmax_split`): inside the image the blocked loops give
    every pixel the value of its own cost row — for every split `np.arange(start, n, step)` (any start,
    any step, any stop), provided the offsets start at 0 as in the source. -/
theorem argSplit_eq_direct (s : Blocks.Split) (h0 : s.beginY = 0 ∧ s.beginX = 0) (x : Input) (r c : Nat)
    (hr : r < x.rows) (hc : c < x.cols) :
    argSplit s x r c = dispAt x.disps (winnerIdx x.isMax (x.cv r c)) := by
  unfold argSplit
  rw [Blocks.blocked_eq_direct]
  simp only [Blocks.direct, Blocks.Split.plan, h0.1, h0.2, Nat.zero_le, Nat.zero_add, Nat.sub_zero, hr, hc, and_self,
    if_true]

theorem toDisp_eq_pixel (s : Blocks.Split) (h0 : s.beginY = 0 ∧ s.beginX = 0) (x : Input) (r c : Nat)
    (hr : r < x.rows) (hc : c < x.cols) :
    toDisp s x r c = wtaPixel x.isMax x.disps (x.cv r c) x.invalid := by
  unfold toDisp wtaPixel
  rw [argSplit_eq_direct s h0 x r c hr hc]

/-- two splits with the same initial offsets give the same map, whatever the offsets are -/
theorem toDisp_block_independent (s s' : Blocks.Split) (hy : s.beginY = s'.beginY) (hx : s.beginX = s'.beginX)
    (x : Input) : toDisp s x = toDisp s' x := by
  unfold toDisp argSplit
  rw [Blocks.blocked_plan_independent s s' hy hx]

/-- **C03, main theorem.**  Every pixel of the disparity map computed by the model satisfies the
    per-pixel specification, whatever the image size and the block split. -/
theorem toDisp_spec (s : Blocks.Split) (h0 : s.beginY = 0 ∧ s.beginX = 0) (x : Input) (lo hi : Nat → Nat → Rat)
    (wf : ∀ r c, r < x.rows → c < x.cols → wfPixel x.disps (lo r c) (hi r c) (x.cv r c) = true) :
    ∀ r c, r < x.rows → c < x.cols →
      specPixel x.isMax x.disps (lo r c) (hi r c) (x.cv r c) x.invalid (toDisp s x r c) = true := by
  intro r c hr hc
  rw [toDisp_eq_pixel s h0 x r c hr hc]
  exact wtaPixel_spec _ _ _ _ _ _ (wf r c hr hc)

/-- the main theorem for the loop literals found in disparity.py on this run (`argmin_split` and
    `argmax_split`): fails to build if an initial offset is not 0 -/
theorem source_blocks_spec (x : Input) (lo hi : Nat → Nat → Rat)
    (wf : ∀ r c, r < x.rows → c < x.cols → wfPixel x.disps (lo r c) (hi r c) (x.cv r c) = true) :
    ∀ r c, r < x.rows → c < x.cols →
      specPixel x.isMax x.disps (lo r c) (hi r c) (x.cv r c) x.invalid
        (toDisp (if x.isMax then Generated.Blocks.wtaArgmax else Generated.Blocks.wtaArgmin) x r c) = true :=
  toDisp_spec _ (by cases x.isMax <;> exact ⟨rfl, rfl⟩) x lo hi wf

/-- `cv_unchanged`: substitution followed by the restore from `indices_nan` gives back every cell -/
theorem cvAfter_eq (x : Input) : cvAfter x = x.cv := by
  funext r c
  unfold cvAfter
  conv => rhs; rw [← List.map_id (x.cv r c)]
  apply List.map_congr_left
  intro v _
  cases v <;> cases x.isMax <;> simp [restoreCell, substMin, substMax, Val.isNan]

/-- a pixel with a tie, a NaN and an interval narrower than the sampled range -/
example : wfPixel [-2, -1, 0, 1, 2] (-1) 1 [.nan, .num 3, .num 1, .num 1, .nan] = true := by decide
example : wtaPixel false [-2, -1, 0, 1, 2] [.nan, .num 3, .num 1, .num 1, .nan] (.num (-9999)) = .num 0 := by
  decide
example : wtaPixel true [-2, -1, 0, 1, 2] [.nan, .num 3, .num 1, .num 1, .nan] (.num (-9999)) = .num (-1) := by
  decide
example : wtaPixel false [-2, -1] [.nan, .nan] .nan = .nan := by decide
/-- the specification is not trivially true: it rejects the higher disparity of the tie -/
example : specPixel false [-2, -1, 0, 1, 2] (-1) 1 [.nan, .num 3, .num 1, .num 1, .nan] (.num (-9999)) (.num 1)
    = false := by decide
example : specPixel false [-2, -1, 0, 1, 2] (-1) 1 [.nan, .num 3, .num 1, .num 1, .nan] (.num (-9999)) (.num 0)
    = true := by decide

end Pandora.C03
