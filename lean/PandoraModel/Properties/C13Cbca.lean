/-
  C13 — locality of cross-based cost aggregation (model of C11: `Cbca.aggregate`): what one plane, one arm, one
  filtered pixel and one cross support read.  The model's arrays carry their sizes: arms stop at the border of the
  aggregated area, the 3×3 pre-filter copies the one-pixel border of the image, the shifted right images have one
  column less.  These border rules are part of the function, so a crop is compared with the whole under "this side of
  the crop is the border of the whole, or it is far enough" (`Near`); no pixel has to be interior.
  `D = armBound dist = max (cbca_distance - 1) 1` is the longest possible arm.
-/
import PandoraModel.Properties.C11

namespace Pandora.C13
open Pandora.Cbca

theorem region_transport (P P' : Plane) (y x ty tx : Nat) (a : Arms)
    (hc' : comb P' y x = some a) (hc : comb P (y + ty) (x + tx) = some a) (htop : a.top ≤ y)
    (hrow : ∀ y', y - a.top ≤ y' → y' ≤ y + a.bot →
      hLeft P (x + tx) (y' + ty) = hLeft P' x y' ∧ hRight P (x + tx) (y' + ty) = hRight P' x y' ∧ hLeft P' x y' ≤ x)
    (hcv : ∀ y' x', y - a.top ≤ y' → y' ≤ y + a.bot → x - hLeft P' x y' ≤ x' → x' ≤ x + hRight P' x y' →
      P.cv (y' + ty) (x' + tx) = P'.cv y' x') :
    specSum P (y + ty) (x + tx) = specSum P' y x ∧ specCount P (y + ty) (x + tx) = specCount P' y x := by
  have e : y + ty - a.top = (y - a.top) + ty := by omega
  have hr : ∀ i, i < a.top + a.bot + 1 → y - a.top + ty + i = y - a.top + i + ty ∧
      hLeft P (x + tx) (y - a.top + i + ty) = hLeft P' x (y - a.top + i) ∧
      hRight P (x + tx) (y - a.top + i + ty) = hRight P' x (y - a.top + i) ∧
      x + tx - hLeft P' x (y - a.top + i) = (x - hLeft P' x (y - a.top + i)) + tx := by
    intro i hi
    have hr := hrow (y - a.top + i) (Nat.le_add_right _ _) (by omega)
    exact ⟨Nat.add_right_comm _ _ _, hr.1, hr.2.1, by have := hr.2.2; omega⟩
  constructor
  · unfold specSum regionOf
    rw [hc, hc']
    simp only
    rw [C11.sum_region, C11.sum_region, e]
    apply C11.sumRange_congr
    intro i hi
    obtain ⟨e2, hl, hr', e3⟩ := hr i hi
    rw [e2, hl, hr', e3]
    apply C11.sumRange_congr
    intro j hj
    rw [Nat.add_right_comm _ tx j, hcv (y - a.top + i) (x - hLeft P' x (y - a.top + i) + j) (Nat.le_add_right _ _)
      (by omega) (Nat.le_add_right _ _)
      (by have := (hrow (y - a.top + i) (Nat.le_add_right _ _) (by omega)).2.2; omega)]
  · unfold specCount regionOf
    rw [hc, hc']
    simp only
    rw [C11.length_region, C11.length_region, e]
    apply C11.sumRangeN_congr
    intro i hi
    obtain ⟨e2, hl, hr', _⟩ := hr i hi
    rw [e2, hl, hr']

theorem hLeftRight_of_rightCol (P : Plane) (x xr y' : Nat) (h : rightCol P.d P.Wr x = some xr) :
    hLeft P x y' = min (P.armsL y' x).left (P.armsR y' xr).left ∧
    hRight P x y' = min (P.armsL y' x).right (P.armsR y' xr).right :=
  ⟨C11.hLeft_of_comb (comb_of_rightCol P y' x h), C11.hRight_of_comb (comb_of_rightCol P y' x h)⟩

theorem region_none (P : Plane) (y x : Nat) (h : rightCol P.d P.Wr x = none) :
    specSum P y x = c0 (P.cv y x) ∧ specCount P y x = 1 := by
  unfold specSum specCount regionOf comb
  rw [h]
  simp

/-- the region sum and size only read the arms and the costs within `D` of the pixel — wherever the pixel is -/
theorem region_transport_arms (P P' : Plane) (ya xa xr ty tx D : Nat) (hya : ya < P'.H) (hxa : xa < P'.W)
    (hrc' : rightCol P'.d P'.Wr xa = some xr) (hrc : rightCol P.d P.Wr (xa + tx) = some (xr + tx))
    (hA : armsInImage P'.H P'.W P'.armsL = true)
    (hD : ∀ y x, (P'.armsL y x).left ≤ D ∧ (P'.armsL y x).right ≤ D ∧ (P'.armsL y x).top ≤ D ∧ (P'.armsL y x).bot ≤ D)
    (hL : P'.armsL ya xa = P.armsL (ya + ty) (xa + tx)) (hR : P'.armsR ya xr = P.armsR (ya + ty) (xr + tx))
    (hrows : ∀ y', ya - D ≤ y' → y' ≤ ya + D → y' < P'.H →
      (P'.armsL y' xa).left = (P.armsL (y' + ty) (xa + tx)).left ∧
      (P'.armsL y' xa).right = (P.armsL (y' + ty) (xa + tx)).right ∧
      (P'.armsR y' xr).left = (P.armsR (y' + ty) (xr + tx)).left ∧
      (P'.armsR y' xr).right = (P.armsR (y' + ty) (xr + tx)).right)
    (hcv : ∀ a b, ya - D ≤ a → a ≤ ya + D → xa - D ≤ b → b ≤ xa + D → a < P'.H → b < P'.W →
      P.cv (a + ty) (b + tx) = P'.cv a b) :
    specSum P (ya + ty) (xa + tx) = specSum P' ya xa ∧ specCount P (ya + ty) (xa + tx) = specCount P' ya xa := by
  have hcomb' := comb_of_rightCol P' ya xa hrc'
  have hcomb := comb_of_rightCol P (ya + ty) (xa + tx) hrc
  rw [← hL, ← hR] at hcomb
  -- the rows of the vertical arm are within `D` of the pixel and inside the area
  have v := (C11.armsInImage_spec hA hya hxa).2.2
  have vD := (hD ya xa).2.2
  have hvert : ∀ y', ya - min (P'.armsL ya xa).top (P'.armsR ya xr).top ≤ y' →
      y' ≤ ya + min (P'.armsL ya xa).bot (P'.armsR ya xr).bot → ya - D ≤ y' ∧ y' ≤ ya + D ∧ y' < P'.H := by
    intro y' h1 h2; omega
  have hrows' : ∀ y', ya - D ≤ y' → y' ≤ ya + D → y' < P'.H →
      hLeft P (xa + tx) (y' + ty) = hLeft P' xa y' ∧ hRight P (xa + tx) (y' + ty) = hRight P' xa y' ∧
        hLeft P' xa y' ≤ xa ∧ xa + hRight P' xa y' < P'.W ∧ hLeft P' xa y' ≤ D ∧ hRight P' xa y' ≤ D := by
    intro y' h1 h2 h3
    have e' := hLeftRight_of_rightCol P' xa xr y' hrc'
    have e := hLeftRight_of_rightCol P (xa + tx) (xr + tx) (y' + ty) hrc
    have hr := hrows y' h1 h2 h3
    obtain ⟨i1, i2, _⟩ := C11.armsInImage_spec hA h3 hxa
    obtain ⟨i3, i4, _⟩ := hD y' xa
    rw [e.1, e.2, e'.1, e'.2, ← hr.1, ← hr.2.1, ← hr.2.2.1, ← hr.2.2.2]
    exact ⟨rfl, rfl, Nat.le_trans (Nat.min_le_left _ _) i1,
      Nat.lt_of_le_of_lt (Nat.add_le_add_left (Nat.min_le_left _ _) _) i2,
      Nat.le_trans (Nat.min_le_left _ _) i3, Nat.le_trans (Nat.min_le_left _ _) i4⟩
  refine region_transport P P' ya xa ty tx _ hcomb' hcomb (Nat.le_trans (Nat.min_le_left _ _) v.1) ?_ ?_
  · intro y' h1 h2
    obtain ⟨b1, b2, b3⟩ := hvert y' h1 h2
    have := hrows' y' b1 b2 b3
    exact ⟨this.1, this.2.1, this.2.2.1⟩
  · intro y' x' h1 h2 h3 h4
    obtain ⟨b1, b2, b3⟩ := hvert y' h1 h2
    obtain ⟨_, _, c1, c2, c3, c4⟩ := hrows' y' b1 b2 b3
    exact hcv y' x' b1 b2 (by omega) (by omega) b3 (by omega)

theorem armLoop_congr (I : Rat) (px px' : Nat → Val) :
    ∀ fuel k, (∀ j, j ≤ k + fuel → px j = px' j) → armLoop I px fuel k = armLoop I px' fuel k := by
  intro fuel
  induction fuel with
  | zero => intro k _; rfl
  | succ n ih =>
    intro k h
    unfold armLoop
    rw [h 0 (by omega), h (k + 1) (by omega), ih (k + 1) (fun j hj => h j (by omega))]

theorem armLoop_snd_le (I : Rat) (px : Nat → Val) (fuel k : Nat) : (armLoop I px fuel k).2 ≤ k + fuel := by
  rw [C11.armLoop_eq]
  have := C11.cnt_le I px fuel k
  simp only
  split <;> omega

/-- an arm reads the `min (armBound dist) room` nearest pixels in its direction -/
theorem armCoded_transport (mr : MinRule) (I : Rat) (px px' : Nat → Val) (dist room room' : Nat)
    (hroom : min (armBound dist) room = min (armBound dist) room')
    (h : ∀ j, j ≤ min (armBound dist) room → px j = px' j) :
    armCoded mr I px dist room = armCoded mr I px' dist room' := by
  obtain ⟨e1, e2, e3, e4⟩ := armBound_rooms hroom
  unfold armCoded iters
  rw [← e1, armLoop_congr I px px' (min (dist - 1) room) 0
    (fun j hj => h j (Nat.le_trans (by rwa [Nat.zero_add] at hj) e3))]
  have hle : (armLoop I px' (min (dist - 1) room) 0).2 ≤ min (dist - 1) room := by
    have := armLoop_snd_le I px' (min (dist - 1) room) 0
    rwa [Nat.zero_add] at this
  by_cases h1 : 1 ≤ room
  · rw [decide_eq_true h1, decide_eq_true (e2.1 h1)]
    cases mr with
    | loopVar => simp only; rw [h _ (Nat.le_trans hle e3)]
    | neighbour => simp only; rw [h 1 (e4 h1)]
  · rw [decide_eq_false h1, decide_eq_false (fun h' => h1 (e2.2 h'))]
    rfl

theorem crossSupport_le_bound (mr : MinRule) (H W dist : Nat) (I : Rat) (img : Cbca.Img) (y x : Nat) :
    (crossSupport mr H W dist I img y x).left ≤ armBound dist ∧
    (crossSupport mr H W dist I img y x).right ≤ armBound dist ∧
    (crossSupport mr H W dist I img y x).top ≤ armBound dist ∧
    (crossSupport mr H W dist I img y x).bot ≤ armBound dist := by
  unfold crossSupport
  split
  · have hb := fun px room => Nat.le_trans (C11.armCoded_le mr I px dist room) (Nat.min_le_left _ _)
    exact ⟨hb _ _, hb _ _, hb _ _, hb _ _⟩
  · simp

/-- the two arms of pixel `p` along a line of `n'` pixels that is the part of a line of `n` pixels starting at `t`
    (a row, a column) -/
theorem armPair_transport (mr : MinRule) (I : Rat) (dist : Nat) (ln ln' : Nat → Val) (p t n n' : Nat)
    (hl : min (armBound dist) p = min (armBound dist) (p + t))
    (hr : min (armBound dist) (n' - 1 - p) = min (armBound dist) (n - 1 - (p + t)))
    (h : ∀ q, p - min (armBound dist) p ≤ q → q ≤ p + min (armBound dist) (n' - 1 - p) → ln' q = ln (q + t)) :
    armCoded mr I (fun k => ln' (p - k)) dist p = armCoded mr I (fun k => ln (p + t - k)) dist (p + t) ∧
    armCoded mr I (fun k => ln' (p + k)) dist (n' - 1 - p)
      = armCoded mr I (fun k => ln (p + t + k)) dist (n - 1 - (p + t)) := by
  constructor
  · apply armCoded_transport mr I _ _ dist _ _ hl
    intro j hj
    show ln' (p - j) = ln (p + t - j)
    rw [h (p - j) (Nat.sub_le_sub_left hj p) (Nat.le_trans (Nat.sub_le _ _) (Nat.le_add_right _ _)),
      Nat.sub_add_comm (Nat.le_trans hj (Nat.min_le_right _ _))]
  · apply armCoded_transport mr I _ _ dist _ _ hr
    intro j hj
    show ln' (p + j) = ln (p + t + j)
    rw [h (p + j) (Nat.le_trans (Nat.sub_le _ _) (Nat.le_add_right _ _)) (Nat.add_le_add_left hj p),
      Nat.add_right_comm]

theorem crossSupport_horizontal_transport (mr : MinRule) (H W H' W' dist : Nat) (I : Rat) (img img' : Cbca.Img)
    (y x ty tx : Nat)
    (hl : min (armBound dist) x = min (armBound dist) (x + tx))
    (hr : min (armBound dist) (W' - 1 - x) = min (armBound dist) (W - 1 - (x + tx)))
    (h : ∀ x', x - min (armBound dist) x ≤ x' → x' ≤ x + min (armBound dist) (W' - 1 - x) →
      img' y x' = img (y + ty) (x' + tx)) :
    (crossSupport mr H' W' dist I img' y x).left = (crossSupport mr H W dist I img (y + ty) (x + tx)).left ∧
    (crossSupport mr H' W' dist I img' y x).right = (crossSupport mr H W dist I img (y + ty) (x + tx)).right := by
  unfold crossSupport
  rw [h x (Nat.sub_le _ _) (Nat.le_add_right _ _)]
  split
  · exact armPair_transport mr I dist (img (y + ty)) (img' y) x tx W W' hl hr h
  · exact ⟨rfl, rfl⟩

theorem crossSupport_vertical_transport (mr : MinRule) (H W H' W' dist : Nat) (I : Rat) (img img' : Cbca.Img)
    (y x ty tx : Nat)
    (hl : min (armBound dist) y = min (armBound dist) (y + ty))
    (hr : min (armBound dist) (H' - 1 - y) = min (armBound dist) (H - 1 - (y + ty)))
    (h : ∀ y', y - min (armBound dist) y ≤ y' → y' ≤ y + min (armBound dist) (H' - 1 - y) →
      img' y' x = img (y' + ty) (x + tx)) :
    (crossSupport mr H' W' dist I img' y x).top = (crossSupport mr H W dist I img (y + ty) (x + tx)).top ∧
    (crossSupport mr H' W' dist I img' y x).bot = (crossSupport mr H W dist I img (y + ty) (x + tx)).bot := by
  unfold crossSupport
  rw [h y (Nat.sub_le _ _) (Nat.le_add_right _ _)]
  split
  · exact armPair_transport mr I dist (fun a => img a (x + tx)) (fun a => img' a x) y ty H H' hl hr h
  · exact ⟨rfl, rfl⟩

theorem Arms.eq_of (a b : Arms) (h1 : a.left = b.left) (h2 : a.right = b.right) (h3 : a.top = b.top)
    (h4 : a.bot = b.bot) : a = b := by
  cases a; cases b; simp_all

/-- the cross support reads the image inside the image only -/
theorem crossSupport_congr (mr : MinRule) (H W dist : Nat) (I : Rat) (img img' : Cbca.Img)
    (h : ∀ y x, y < H → x < W → img' y x = img y x) (y x : Nat) (hy : y < H) (hx : x < W) :
    crossSupport mr H W dist I img' y x = crossSupport mr H W dist I img y x := by
  obtain ⟨h1, h2⟩ := crossSupport_horizontal_transport mr H W H W dist I img img' y x 0 0 rfl rfl
    (fun x' _ hx' => h y x' hy (by have := Nat.min_le_right (armBound dist) (W - 1 - x); omega))
  obtain ⟨h3, h4⟩ := crossSupport_vertical_transport mr H W H W dist I img img' y x 0 0 rfl rfl
    (fun y' _ hy' => h y' x (by have := Nat.min_le_right (armBound dist) (H - 1 - y); omega) hx)
  exact Arms.eq_of _ _ h1 h2 h3 h4

theorem window3_transport (g g' : Cbca.Img) (y x ty tx : Nat) (hy : 1 ≤ y) (hx : 1 ≤ x)
    (h : ∀ y' x', y - 1 ≤ y' → y' ≤ y + 1 → x - 1 ≤ x' → x' ≤ x + 1 → g' y' x' = g (y' + ty) (x' + tx)) :
    window3 g' y x = window3 g (y + ty) (x + tx) := by
  unfold window3
  have e1 : y + ty - 1 = y - 1 + ty := by omega
  have e2 : x + tx - 1 = x - 1 + tx := by omega
  have a1 : y - 1 ≤ y := Nat.sub_le _ _
  have a2 : y - 1 ≤ y + 1 := by omega
  have b1 : x - 1 ≤ x := Nat.sub_le _ _
  have b2 : x - 1 ≤ x + 1 := by omega
  have a3 : y ≤ y + 1 := Nat.le_add_right _ _
  have b3 : x ≤ x + 1 := Nat.le_add_right _ _
  rw [e1, e2, Nat.add_right_comm y ty 1, Nat.add_right_comm x tx 1,
    h (y - 1) (x - 1) (Nat.le_refl _) a2 (Nat.le_refl _) b2, h (y - 1) x (Nat.le_refl _) a2 b1 b3,
    h (y - 1) (x + 1) (Nat.le_refl _) a2 b2 (Nat.le_refl _), h y (x - 1) a1 a3 (Nat.le_refl _) b2,
    h y x a1 a3 b1 b3, h y (x + 1) a1 a3 b2 (Nat.le_refl _),
    h (y + 1) (x - 1) a2 (Nat.le_refl _) (Nat.le_refl _) b2, h (y + 1) x a2 (Nat.le_refl _) b1 b3,
    h (y + 1) (x + 1) a2 (Nat.le_refl _) b2 (Nat.le_refl _)]

/-- the interior test of `median3` has the same truth value in both settings, the window agrees when it holds, the
    centre always -/
theorem median3_transport (H W H' W' : Nat) (g g' : Cbca.Img) (y x ty tx : Nat)
    (hin : (1 ≤ y ∧ y + 1 < H' ∧ 1 ≤ x ∧ x + 1 < W') ↔ (1 ≤ y + ty ∧ y + ty + 1 < H ∧ 1 ≤ x + tx ∧ x + tx + 1 < W))
    (h0 : g' y x = g (y + ty) (x + tx))
    (h : (1 ≤ y ∧ y + 1 < H' ∧ 1 ≤ x ∧ x + 1 < W') →
      ∀ y' x', y - 1 ≤ y' → y' ≤ y + 1 → x - 1 ≤ x' → x' ≤ x + 1 → g' y' x' = g (y' + ty) (x' + tx)) :
    median3 H' W' g' y x = median3 H W g (y + ty) (x + tx) := by
  unfold median3
  rw [h0]
  by_cases c1 : 1 ≤ y ∧ y + 1 < H' ∧ 1 ≤ x ∧ x + 1 < W'
  · rw [if_pos c1, if_pos (hin.1 c1), window3_transport g g' y x ty tx c1.1 c1.2.2.1 (h c1)]
  · rw [if_neg c1, if_neg (fun c => c1 (hin.2 c))]

/-- One axis of a crop: `[t, t + n')` inside `[0, n)`, and a point `p` of the crop.  Each end of the crop is the end
    of the whole, or lies more than `R` beyond `p`: what the whole has within `R` of `p`, the crop has too. -/
@[reducible] def Near (t n' n R p : Nat) : Prop := (t = 0 ∨ R ≤ p) ∧ (t + n' = n ∨ p + R < n')

theorem Near.interior {t n' n p : Nat} (h : Near t n' n 1 p) (hp : p < n') (fit : t + n' ≤ n) :
    (1 ≤ p ∧ p + 1 < n') ↔ (1 ≤ p + t ∧ p + t + 1 < n) := by omega

/-- `p` counted from a margin `off` removed on both ends -/
theorem Near.rooms {t n' n D m off p : Nat} (h : Near t n' n (D + m) (p + off)) (hm : off ≤ m)
    (hp : p < n' - 2 * off) (fit : t + n' ≤ n) :
    min D p = min D (p + t) ∧ min D (n' - 2 * off - 1 - p) = min D (n - 2 * off - 1 - (p + t)) := by omega

theorem Near.within {t n' n D m off p q : Nat} (h : Near t n' n (D + m) (p + off)) (hm : 1 ≤ m)
    (h1 : p - D ≤ q) (h2 : q ≤ p + D) : Near t n' n 1 (q + off) := by omega

theorem lt_of_lt_sub_margin {a n off : Nat} (h : a < n - 2 * off) : a + off < n := by omega

/-- the pixels an arm of `p` can reach in a line of `a` pixels -/
theorem reach_bounds {D p a q : Nat} (hp : p < a) (h1 : p - min D p ≤ q) (h2 : q ≤ p + min D (a - 1 - p)) :
    q < a ∧ p - D ≤ q ∧ q ≤ p + D := by omega

/-- `g'` (`H' × W'`) is the part of `g` (`H × W`) that starts at `(ty, tx)` -/
structure SubImg (g g' : Cbca.Img) (H W H' W' ty tx : Nat) : Prop where
  fitH : ty + H' ≤ H
  fitW : tx + W' ≤ W
  eq : ∀ y x, y < H' → x < W' → g' y x = g (y + ty) (x + tx)

/-- the cross support computed from an `H × W` image: 3×3 pre-filter, margin `off` removed on every side
    (`computes_cross_supports`) -/
def crossOf (mr : MinRule) (dist : Nat) (I : Rat) (off H W : Nat) (g : Cbca.Img) : Nat → Nat → Arms :=
  crossSupport mr (H - 2 * off) (W - 2 * off) dist I (crop off (median3 H W g))

section
variable {g g' : Cbca.Img} {H W H' W' ty tx : Nat}

theorem SubImg.median3_eq (s : SubImg g g' H W H' W' ty tx) {y x : Nat} (hy : y < H') (hx : x < W')
    (ny : Near ty H' H 1 y) (nx : Near tx W' W 1 x) :
    median3 H' W' g' y x = median3 H W g (y + ty) (x + tx) := by
  have iy := ny.interior hy s.fitH
  have ix := nx.interior hx s.fitW
  refine median3_transport H W H' W' g g' y x ty tx
    ⟨fun c => ⟨(iy.1 ⟨c.1, c.2.1⟩).1, (iy.1 ⟨c.1, c.2.1⟩).2, ix.1 c.2.2⟩,
      fun c => ⟨(iy.2 ⟨c.1, c.2.1⟩).1, (iy.2 ⟨c.1, c.2.1⟩).2, ix.2 c.2.2⟩⟩ (s.eq y x hy hx) ?_
  intro hin y' x' _ h2 _ h4
  exact s.eq y' x' (by omega) (by omega)

theorem SubImg.filtered_eq (s : SubImg g g' H W H' W' ty tx) (off : Nat) {y x : Nat} (hy : y < H' - 2 * off)
    (hx : x < W' - 2 * off) (ny : Near ty H' H 1 (y + off)) (nx : Near tx W' W 1 (x + off)) :
    crop off (median3 H' W' g') y x = crop off (median3 H W g) (y + ty) (x + tx) := by
  show median3 H' W' g' (y + off) (x + off) = median3 H W g (y + ty + off) (x + tx + off)
  rw [Nat.add_right_comm y ty off, Nat.add_right_comm x tx off]
  exact s.median3_eq (lt_of_lt_sub_margin hy) (lt_of_lt_sub_margin hx) ny nx

/-- **The horizontal arms of the part are those of the whole**: the columns within `armBound dist + max 1 off` (`max 1 off`:
    the last pixel an arm reads is pre-filtered from its 3×3 window when there is no margin; the arms stop at the margin
    when there is one), the rows within `1` only. -/
theorem SubImg.crossOf_h (s : SubImg g g' H W H' W' ty tx) (mr : MinRule) (dist : Nat) (I : Rat)
    (off ya xa : Nat) (hya : ya < H' - 2 * off) (hxa : xa < W' - 2 * off)
    (ny : Near ty H' H 1 (ya + off)) (nx : Near tx W' W (armBound dist + max 1 off) (xa + off)) :
    (crossOf mr dist I off H' W' g' ya xa).left = (crossOf mr dist I off H W g (ya + ty) (xa + tx)).left ∧
    (crossOf mr dist I off H' W' g' ya xa).right = (crossOf mr dist I off H W g (ya + ty) (xa + tx)).right := by
  obtain ⟨xl, xr⟩ := nx.rooms (Nat.le_max_right _ _) hxa s.fitW
  apply crossSupport_horizontal_transport mr _ _ _ _ dist I _ _ ya xa ty tx xl xr
  intro x' hx1 hx2
  obtain ⟨b, lo, hi⟩ := reach_bounds hxa hx1 hx2
  exact s.filtered_eq off hya b ny (nx.within (Nat.le_max_left _ _) lo hi)

/-- **The vertical arms of the part are those of the whole**: the rows within `armBound dist + max 1 off`, the columns
    within `1` only. -/
theorem SubImg.crossOf_v (s : SubImg g g' H W H' W' ty tx) (mr : MinRule) (dist : Nat) (I : Rat)
    (off ya xa : Nat) (hya : ya < H' - 2 * off) (hxa : xa < W' - 2 * off)
    (ny : Near ty H' H (armBound dist + max 1 off) (ya + off)) (nx : Near tx W' W 1 (xa + off)) :
    (crossOf mr dist I off H' W' g' ya xa).top = (crossOf mr dist I off H W g (ya + ty) (xa + tx)).top ∧
    (crossOf mr dist I off H' W' g' ya xa).bot = (crossOf mr dist I off H W g (ya + ty) (xa + tx)).bot := by
  obtain ⟨yl, yr⟩ := ny.rooms (Nat.le_max_right _ _) hya s.fitH
  apply crossSupport_vertical_transport mr _ _ _ _ dist I _ _ ya xa ty tx yl yr
  intro y' hy1 hy2
  obtain ⟨b, lo, hi⟩ := reach_bounds hya hy1 hy2
  exact s.filtered_eq off b hxa (ny.within (Nat.le_max_left _ _) lo hi) nx

/-- the cross support of the pixel, and the horizontal arms on the rows within `armBound dist` (the rows of its
    vertical arm) -/
theorem SubImg.crossOf_eq (s : SubImg g g' H W H' W' ty tx) (mr : MinRule) (dist : Nat) (I : Rat)
    (off ya xa : Nat) (hya : ya < H' - 2 * off) (hxa : xa < W' - 2 * off)
    (ny : Near ty H' H (armBound dist + max 1 off) (ya + off))
    (nx : Near tx W' W (armBound dist + max 1 off) (xa + off)) :
    crossOf mr dist I off H' W' g' ya xa = crossOf mr dist I off H W g (ya + ty) (xa + tx) ∧
    ∀ y', ya - armBound dist ≤ y' → y' ≤ ya + armBound dist → y' < H' - 2 * off →
      (crossOf mr dist I off H' W' g' y' xa).left = (crossOf mr dist I off H W g (y' + ty) (xa + tx)).left ∧
      (crossOf mr dist I off H' W' g' y' xa).right = (crossOf mr dist I off H W g (y' + ty) (xa + tx)).right := by
  have hm : 1 ≤ max 1 off := Nat.le_max_left _ _
  have hrows := fun y' (h1 : ya - armBound dist ≤ y') (h2 : y' ≤ ya + armBound dist) (h3 : y' < H' - 2 * off) =>
    s.crossOf_h mr dist I off y' xa h3 hxa (ny.within hm h1 h2) nx
  have hh := hrows ya (Nat.sub_le _ _) (Nat.le_add_right _ _) hya
  have hv := s.crossOf_v mr dist I off ya xa hya hxa ny (nx.within hm (Nat.sub_le _ _) (Nat.le_add_right _ _))
  exact ⟨Arms.eq_of _ _ hh.1 hh.2 hv.1 hv.2, hrows⟩

end

/-- `inp'` is the crop of the scene of `inp` starting at `(ty, tx)` (full-image coordinates), with the same
    configuration -/
structure CropOf (inp inp' : Input) (ty tx : Nat) : Prop where
  off : inp'.off = inp.off
  dist : inp'.dist = inp.dist
  I : inp'.I = inp.I
  subpix : inp'.subpix = inp.subpix
  mr : inp'.mr = inp.mr
  hasMskL : inp'.hasMskL = inp.hasMskL
  validL : inp'.validL = inp.validL
  hasMskR : inp'.hasMskR = inp.hasMskR
  validR : inp'.validR = inp.validR
  fitH : ty + inp'.H ≤ inp.H
  fitW : tx + inp'.W ≤ inp.W
  imL : ∀ y x, y < inp'.H → x < inp'.W → inp'.imL y x = inp.imL (y + ty) (x + tx)
  mskL : ∀ y x, y < inp'.H → x < inp'.W → inp'.mskL y x = inp.mskL (y + ty) (x + tx)
  imR : ∀ y x, y < inp'.H → x < inp'.W → inp'.imR y x = inp.imR (y + ty) (x + tx)
  mskR : ∀ y x, y < inp'.H → x < inp'.W → inp'.mskR y x = inp.mskR (y + ty) (x + tx)

/-- `1` when the right image is an interpolated one (width `W - 1`, one more column read) -/
def fracK (k : Nat) : Nat := if k = 0 then 0 else 1

theorem fracK_le (k : Nat) : fracK k ≤ 1 := by unfold fracK; split <;> omega

theorem wr_eq (inp : Input) (k : Nat) : inp.wr k = inp.W - fracK k - 2 * inp.off := by
  unfold Input.wr fracK; split <;> rfl

def srcL (inp : Input) : Cbca.Img := maskedImg inp.imL inp.hasMskL inp.mskL inp.validL

/-- the `k`-th shifted right image (`W - fracK k` columns) before the pre-filter; `srcL`: the masked left image -/
def srcR (inp : Input) (k : Nat) : Cbca.Img :=
  if k = 0 then maskedImg inp.imR inp.hasMskR inp.mskR inp.validR
  else shiftedImg inp.subpix k inp.imR inp.hasMskR inp.mskR inp.validR

theorem crossL_eq (inp : Input) : inp.crossL = crossOf inp.mr inp.dist inp.I inp.off inp.H inp.W (srcL inp) := rfl

theorem crossR_eq (inp : Input) (k : Nat) :
    inp.crossR k = crossOf inp.mr inp.dist inp.I inp.off inp.H (inp.W - fracK k) (srcR inp k) := by
  unfold Input.crossR Input.filteredR Input.wr Input.h crossOf srcR fracK
  split <;> rfl

theorem CropOf.subL {inp inp' : Input} {ty tx : Nat} (hc : CropOf inp inp' ty tx) :
    SubImg (srcL inp) (srcL inp') inp.H inp.W inp'.H inp'.W ty tx := by
  refine ⟨hc.fitH, hc.fitW, fun y x hy hx => ?_⟩
  unfold srcL maskedImg
  rw [hc.hasMskL, hc.validL, hc.imL y x hy hx, hc.mskL y x hy hx]

/-- `hk`: a shifted right image of the crop has a column only if the crop has two -/
theorem CropOf.subR {inp inp' : Input} {ty tx : Nat} (hc : CropOf inp inp' ty tx) (k : Nat) (hk : fracK k < inp'.W) :
    SubImg (srcR inp k) (srcR inp' k) inp.H (inp.W - fracK k) inp'.H (inp'.W - fracK k) ty tx := by
  have hW := hc.fitW
  refine ⟨hc.fitH, by omega, fun y x hy hx => ?_⟩
  unfold srcR
  unfold fracK at hx
  split
  · rename_i h0
    rw [if_pos h0] at hx
    unfold maskedImg
    rw [hc.hasMskR, hc.validR, hc.imR y x hy hx, hc.mskR y x hy hx]
  · rename_i h0
    rw [if_neg h0] at hx
    have hx0 : x < inp'.W := by omega
    have hx1 : x + 1 < inp'.W := by omega
    unfold shiftedImg
    rw [hc.hasMskR, hc.validR, hc.subpix, Nat.add_right_comm x tx 1, hc.imR y x hy hx0, hc.mskR y x hy hx0,
      hc.imR y (x + 1) hy hx1, hc.mskR y (x + 1) hy hx1]

theorem floor_nat_add (x : Nat) (d : ℚ) : ((x : ℚ) + d).floor = (x : Int) + d.floor := by
  apply le_antisymm
  · have h := Rat.lt_floor_add_one d
    push_cast at h
    have : ((x : ℚ) + d).floor < (x : Int) + d.floor + 1 := Rat.floor_lt_iff.mpr (by push_cast; linarith)
    omega
  · exact Rat.le_floor_iff.mpr (by push_cast; linarith [Rat.floor_le d])

/-- the facing column in integers: `x + ⌊d⌋`, when that is a column -/
theorem rightCol_eq (d : ℚ) (Wr x : Nat) :
    rightCol d Wr x =
      if 0 ≤ (x : Int) + d.floor ∧ (x : Int) + d.floor < (Wr : Int) then some ((x : Int) + d.floor).toNat else none := by
  unfold rightCol
  have hfl := floor_nat_add x d
  have h1 : (0 ≤ (x : ℚ) + d) ↔ 0 ≤ (x : Int) + d.floor := by
    rw [← hfl]
    constructor
    · intro h; exact Rat.le_floor_iff.mpr (by simpa using h)
    · intro h
      have := Rat.le_floor_iff.mp h
      simpa using this
  have h2 : ((x : ℚ) + d < (Wr : ℚ)) ↔ (x : Int) + d.floor < (Wr : Int) := by
    rw [← hfl]
    constructor
    · intro h; exact Rat.floor_lt_iff.mpr (by simpa using h)
    · intro h
      have := Rat.floor_lt_iff.mp h
      simpa using this
  simp only [h1, h2, hfl]

theorem rightCol_lt {d : ℚ} {Wr x xr : Nat} (h : rightCol d Wr x = some xr) : xr < Wr := by
  rw [rightCol_eq] at h
  split at h
  · cases h; omega
  · cases h

theorem comb_congr (P P' : Plane) (hWr : P'.Wr = P.Wr) (hd : P'.d = P.d)
    (hL : ∀ y x, y < P.H → x < P.W → P'.armsL y x = P.armsL y x)
    (hR : ∀ y x, y < P.H → x < P.Wr → P'.armsR y x = P.armsR y x)
    (y x : Nat) (hy : y < P.H) (hx : x < P.W) : comb P' y x = comb P y x := by
  unfold comb
  rw [hWr, hd]
  cases h : rightCol P.d P.Wr x with
  | none => rfl
  | some xr => simp only [hL y x hy hx, hR y xr hy (rightCol_lt h)]

/-- **the prescribed cell reads the cross supports inside the area only** (arms that stay in the image): the region
    transport without a translation -/
theorem aggSpec_arms_congr (P P' : Plane) (hcv : P'.cv = P.cv) (hWr : P'.Wr = P.Wr)
    (hd : P'.d = P.d) (hA : armsInImage P.H P.W P.armsL = true)
    (hL : ∀ y x, y < P.H → x < P.W → P'.armsL y x = P.armsL y x)
    (hR : ∀ y x, y < P.H → x < P.Wr → P'.armsR y x = P.armsR y x)
    (y x : Nat) (hy : y < P.H) (hx : x < P.W) : aggSpec P' y x = aggSpec P y x := by
  have hc := comb_congr P P' hWr hd hL hR
  refine (aggSpec_congr (congrFun (congrFun hcv y) x).symm ?_).symm
  cases hrc : rightCol P.d P.Wr x with
  | none =>
    have r := region_none P y x hrc
    have r' := region_none P' y x (by rw [hd, hWr]; exact hrc)
    rw [r.1, r.2, r'.1, r'.2, hcv]
    exact ⟨rfl, rfl⟩
  | some xr =>
    have ha := comb_of_rightCol P y x hrc
    obtain ⟨_, _, ht, hb⟩ := C11.comb_in ha (C11.armsInImage_spec hA hy hx)
    refine region_transport P P' y x 0 0 _ ((hc y x hy hx).trans ha) ha ht (fun y' _ h2 => ?_)
      (fun y' x' _ _ _ _ => (congrFun (congrFun hcv y') x').symm)
    have hy' : y' < P.H := Nat.lt_of_le_of_lt h2 hb
    have ha' := comb_of_rightCol P y' x hrc
    have hin := C11.comb_in ha' (C11.armsInImage_spec hA hy' hx)
    rw [C11.hLeft_of_comb ((hc y' x hy' hx).trans ha'), C11.hRight_of_comb ((hc y' x hy' hx).trans ha')]
    exact ⟨C11.hLeft_of_comb ha', C11.hRight_of_comb ha', hin.1⟩

/-- **the aggregation reads the cross supports inside the area only**: any arms that agree there with the model's give
    the same aggregated cost -/
theorem aggregate_eq_aggregateWith (inp : Cbca.Input) (aL : Nat → Nat → Arms) (aR : Nat → Nat → Nat → Arms) (dsp : Nat)
    (hN : nanOutside (inp.plane dsp) = true)
    (hL : ∀ y x, y < inp.h → x < inp.w → aL y x = inp.crossL y x)
    (hR : ∀ k y x, y < inp.h → x < inp.wr k → aR k y x = inp.crossR k y x) (y x : Nat) :
    aggregate inp y x dsp = aggregateWith inp aL aR y x dsp := by
  unfold aggregate aggregateWith
  split
  · next hA =>
    obtain ⟨hy, hx⟩ := C11.inArea_spec hA
    have hAL := C11.crossSupport_in_image inp.mr inp.h inp.w inp.dist inp.I (crop inp.off inp.filteredL)
    have hAL' : armsInImage inp.h inp.w aL = true := by
      unfold armsInImage at hAL ⊢
      simp only [List.all_eq_true, List.mem_range] at hAL ⊢
      intro y hy x hx
      rw [hL y x hy hx]
      exact hAL y hy x hx
    rw [aggOut_eq_aggSpec (inp.planeWith inp.crossL inp.crossR dsp) hAL hN _ _ hy hx,
      aggOut_eq_aggSpec (inp.planeWith aL aR dsp) hAL' hN _ _ hy hx]
    exact (aggSpec_arms_congr (inp.planeWith inp.crossL inp.crossR dsp) (inp.planeWith aL aR dsp) rfl rfl rfl hAL
      hL (hR _) _ _ hy hx).symm
  · rfl

/-! a 6 × 8 scene (distance 2, disparity 0) and its 5 × 7 crop starting at (1, 1) -/

def exWhole : Input where
  H := 6
  W := 8
  off := 0
  imL := fun y x => ((y * x : Nat) : Rat)
  hasMskL := false
  mskL := fun _ _ => 0
  validL := 0
  imR := fun y x => ((y + x : Nat) : Rat)
  hasMskR := false
  mskR := fun _ _ => 0
  validR := 0
  dist := 2
  I := 5
  subpix := 1
  disp := fun _ => 0
  cv := fun y x _ => .num ((y + 2 * x : Nat) : Rat)
  mr := .loopVar

def exCrop : Input :=
  { exWhole with
    H := 5, W := 7
    imL := fun y x => exWhole.imL (y + 1) (x + 1)
    mskL := fun y x => exWhole.mskL (y + 1) (x + 1)
    imR := fun y x => exWhole.imR (y + 1) (x + 1)
    mskR := fun y x => exWhole.mskR (y + 1) (x + 1)
    cv := fun y x d => exWhole.cv (y + 1) (x + 1) d }

theorem exCropOf : CropOf exWhole exCrop 1 1 :=
  ⟨rfl, rfl, rfl, rfl, rfl, rfl, rfl, rfl, rfl, by decide, by decide,
   fun _ _ _ _ => rfl, fun _ _ _ _ => rfl, fun _ _ _ _ => rfl, fun _ _ _ _ => rfl⟩

end Pandora.C13
