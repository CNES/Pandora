/-
  C13 — vertical flip of the bilateral filter, for an odd window width `w` and spatial weights that are
  symmetric in the row direction (`gauss_spatial_kernel` is: it depends on the squared distance to the centre).

  The kernel `nansum(window * weights) / nansum(weights)` lists the window row-major; on the flipped image the
  rows come bottom-up — a permutation of the cells, and `nansum` does not depend on the order.  The step tests
  the first and last cells of its window (`winIn`), so, like the matching cost, it commutes with the flip on
  images whose domain is a product rows × columns.
-/
import PandoraModel.Properties.C13FlipPipeline

namespace Pandora.C13
open Pandora.Locality Pandora.Filter

theorem nansum_perm {l₁ l₂ : List Val} (h : List.Perm l₁ l₂) : nansum l₁ = nansum l₂ := by
  unfold nansum
  exact (Filter.nums_perm h).sum_eq

theorem nansum_cells_flipRows (w : Nat) (F : Nat × Nat → Val) :
    nansum ((cells w).map fun p => F (w - 1 - p.1, p.2)) = nansum ((cells w).map F) :=
  (congrArg nansum List.map_map.symm).trans (nansum_perm ((cells_flipRows_perm w).map F))

def RowSymmetric (wts : Weights) (w : Nat) : Prop :=
  ∀ i j, i < w → j < w → wts.spatial (w - 1 - i) j = wts.spatial i j

theorem half_mirror (w : Nat) (hodd : w % 2 = 1) : w - 1 - w / 2 = w / 2 := by
  have h := Nat.div_add_mod w 2
  rw [hodd] at h
  generalize w / 2 = k at h ⊢
  subst h
  rw [Nat.add_sub_cancel, Nat.two_mul, Nat.add_sub_cancel]

theorem bilateralKernel_flipRows (wts : Weights) (w : Nat) (hodd : w % 2 = 1) (hsym : RowSymmetric wts w)
    (win : Nat → Nat → Val) :
    bilateralKernel wts w (w / 2) (fun i j => win (w - 1 - i) j) = bilateralKernel wts w (w / 2) win := by
  have hwt : ∀ p ∈ cells w, cellWeight wts (fun i j => win (w - 1 - i) j) (win (w / 2) (w / 2)) p
      = cellWeight wts win (win (w / 2) (w / 2)) (w - 1 - p.1, p.2) := by
    intro p hp
    have := (C10.mem_cells w p.1 p.2).1 hp
    unfold cellWeight
    rw [hsym p.1 p.2 this.1 this.2]
  unfold bilateralKernel
  simp only [half_mirror w hodd]
  rw [List.map_congr_left hwt, List.map_congr_left (fun p hp => congrArg (win (w - 1 - p.1) p.2 * ·) (hwt p hp)),
    nansum_cells_flipRows w (cellWeight wts win (win (w / 2) (w / 2))),
    nansum_cells_flipRows w (fun p => win p.1 p.2 * cellWeight wts win (win (w / 2) (w / 2)) p)]

theorem winIn_vflip (w : Nat) (hodd : w % 2 = 1) (a : Locality.Img (Val × Nat)) (ha : RectDom a) (p : Px) :
    winIn w (vflip a) p ↔ winIn w a (-p.1, p.2) := by
  unfold winIn vflip
  simp only [half_mirror w hodd, Int.sub_eq_add_neg, Int.neg_add, Int.neg_neg]
  exact ha.corners _ _ _ _

/-- **The bilateral filter of odd width with row-symmetric spatial weights commutes with the flip** on
    images whose domain is a product rows × columns. -/
theorem bilateralStep_vflip (wts : Weights) (invalidMask w : Nat) (hodd : w % 2 = 1) (hsym : RowSymmetric wts w) :
    VFlipOn (bilateralStep wts invalidMask w) := by
  intro a ha
  funext p
  unfold bilateralStep
  show ((a (-p.1, p.2)).map fun x => _) = ((a (-p.1, p.2)).map fun x => _)
  congr 1
  funext x
  have hk : bilateralKernel wts w (w / 2) (winOf invalidMask w (vflip a) p)
      = bilateralKernel wts w (w / 2) (winOf invalidMask w a (-p.1, p.2)) := by
    rw [← bilateralKernel_flipRows wts w hodd hsym (winOf invalidMask w a (-p.1, p.2))]
    apply bilateralKernel_congr wts w (w / 2) _ _
      (Nat.div_lt_self (Nat.pos_of_ne_zero fun h => by rw [h] at hodd; cases hodd) (by decide))
    intro i j hi hj
    unfold winOf vflip
    simp only
    congr 3
    omega
  rw [if_congr (winIn_vflip w hodd a ha p) hk rfl]

/-- the pipeline with the bilateral filter, which commutes with the flip on product domains only: the map before the
    filter must have a product domain (true when refinement is off or never raises, and the flags are defined on the
    scene) -/
theorem bilateralStage_vflip (C : PipeCfg) {agg : AggStep} (hA : VFlipOn agg)
    {flagL : Img McCell → Img Nat} (hF : VFlipOn flagL) (doRefine : Bool)
    (hdom : ∀ a, RectDom a → RectDom (refineStage C agg flagL doRefine a))
    (wts : Weights) (w : Nat) (hodd : w % 2 = 1) (hsym : RowSymmetric wts w) :
    VFlipOn (filtStage C agg flagL doRefine (bilateralStep wts C.invalidMask w)) :=
  filtStage_commutes C (costStage_vflip C hA) hF doRefine hdom
    (bilateralStep_vflip wts C.invalidMask w hodd hsym)

/-! ### Non-vacuity: weights that depend on the squared distance to the centre of a 3 × 3 window are
    row-symmetric; the array-level statement for any array -/

def exWts : Weights := ⟨fun i j => 1 / (1 + (((i : Int) - 1) * ((i : Int) - 1) + ((j : Int) - 1) * ((j : Int) - 1) : Int)), fun d => 1 / (1 + d * d)⟩

theorem exWts_rowSymmetric : RowSymmetric exWts 3 := by
  intro i j hi _
  match i, hi with
  | 0, _ | 1, _ | 2, _ => rfl

example (ny nx : Nat) (data : Nat → Nat → Val × Nat) (p : Px) :
    bilateralStep exWts 1 3 (toImg ny nx (flipArr ny data)) p
      = bilateralStep exWts 1 3 (toImg ny nx data) ((ny : Int) - 1 - p.1, p.2) :=
  flip_run_eq (bilateralStep_equivariant exWts 1 3) (bilateralStep_vflip exWts 1 3 (by decide) exWts_rowSymmetric) ny nx data p

end Pandora.C13
