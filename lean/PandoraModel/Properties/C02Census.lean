/-
  C02 — `Census.popcount32b` REGENERATED from the Python source (`Generated/KernelsCensus.lean`, written by
  translator/gen_kernels_census.py with the bit-operation extension of translator/pyexpr.py) returns the number of set
  bits of EVERY 32-bit argument, and no sub-expression it evaluates reaches 2^32 (so the uint32 arithmetic numpy runs
  it with never wraps).

  The specification is `bitCount n x`, the number of `i < n` with bit `i` of `x` set (`Nat.testBit`).  The regenerated
  function is the model's `MC.popcount32b` (`popcount32b_generated_eq_model`, the same text), and `Lemmas/MCPopcount.lean`
  proves that one line by line, for every argument below 2^32.
-/
import PandoraModel.Generated.KernelsCensus
import PandoraModel.Lemmas.MCPopcount


namespace Pandora.C02Census
open Pandora.MC.Popcount
open Pandora.Generated

def bitCount (n x : Nat) : Nat := ((List.range n).filter (fun i => x.testBit i)).length

theorem bitCount_succ (n x : Nat) : bitCount (n + 1) x = x % 2 + bitCount n (x / 2) := by
  have h0 : (if x.testBit 0 = true then 1 else 0) = x % 2 := by
    rw [Nat.testBit_zero]
    rcases Nat.mod_two_eq_zero_or_one x with h | h <;> simp [h]
  have hs : ((fun i => x.testBit i) ∘ Nat.succ) = fun i => (x / 2).testBit i := funext fun i => Nat.testBit_succ x i
  unfold bitCount
  rw [← List.countP_eq_length_filter, ← List.countP_eq_length_filter, List.range_succ_eq_map, List.countP_cons,
    List.countP_map, hs, h0, Nat.add_comm]

theorem bitCount_eq_rec (n : Nat) : ∀ x, bitCount n x = bitCountRec n x := by
  induction n with
  | zero => intro x; simp [bitCount, bitCountRec]
  | succ n ih => intro x; rw [bitCount_succ, ih]; rfl

theorem bitCountRec_of_lt (n m x : Nat) (hx : x < 2 ^ n) : bitCountRec (n + m) x = bitCountRec n x := by
  rw [bitCountRec_add, Nat.div_eq_of_lt hx, bitCountRec_zero, Nat.add_zero]

def toDigits4 : Nat → Nat → List Nat
  | 0, _ => []
  | n + 1, x => (x % 4) :: toDigits4 n (x / 4)

theorem digits_toDigits4 (n : Nat) : ∀ x, digits 4 (toDigits4 n x) = x % 4 ^ n := by
  induction n with
  | zero => intro x; simp [toDigits4, digits, Nat.mod_one]
  | succ n ih =>
    intro x
    simp only [toDigits4, digits]
    rw [ih, Nat.pow_succ, Nat.mul_comm (4 ^ n) 4, Nat.mod_mul]

theorem sum_pop2_toDigits4 (n : Nat) : ∀ x, ((toDigits4 n x).map pop2).sum = bitCountRec (2 * n) x := by
  induction n with
  | zero => intro x; simp [toDigits4, bitCountRec]
  | succ n ih =>
    intro x
    have : 2 * (n + 1) = 2 * n + 2 := by ring
    rw [this, bitCountRec_two]
    simp only [toDigits4, List.map_cons, List.sum_cons]
    rw [ih]

theorem popcount32b_generated_eq_model : KernelsCensus.popcount32b = MC.popcount32b := by
  funext x
  unfold KernelsCensus.popcount32b MC.popcount32b
  rfl

theorem popcount32b_correct (x : Nat) (hx : x < 2 ^ 32) : KernelsCensus.popcount32b x = bitCount 32 x := by
  rw [popcount32b_generated_eq_model, bitCount_eq_rec]
  exact popcount32b_eq_bitCountRec x hx

theorem popcount32b_correct_of_le (n x : Nat) (hn : n ≤ 32) (hx : x < 2 ^ n) : KernelsCensus.popcount32b x = bitCount n x := by
  have h := bitCountRec_of_lt n (32 - n) x hx
  rw [Nat.add_sub_cancel' hn] at h
  rw [popcount32b_correct x (lt_of_lt_of_le hx (Nat.pow_le_pow_right Nat.two_pos hn)), bitCount_eq_rec, bitCount_eq_rec, h]

/-- what a 5×5 census can produce (25 comparison bits) -/
theorem popcount32b_correct_25 (x : Nat) (hx : x < 2 ^ 25) : KernelsCensus.popcount32b x = bitCount 25 x :=
  popcount32b_correct_of_le 25 x (by decide) hx

/-- what a 3×3 census can produce (9 comparison bits) -/
theorem popcount32b_correct_9 (x : Nat) (hx : x < 2 ^ 9) : KernelsCensus.popcount32b x = bitCount 9 x :=
  popcount32b_correct_of_le 9 x (by decide) hx

theorem bitCount_le (n x : Nat) : bitCount n x ≤ n := by
  unfold bitCount
  exact le_trans (List.length_filter_le _ _) (by simp)

theorem popcount32b_le (x : Nat) (hx : x < 2 ^ 32) : KernelsCensus.popcount32b x ≤ 32 := by
  rw [popcount32b_correct x hx]
  exact bitCount_le 32 x

/-- **no 32-bit wrap-around**: every sub-expression `popcount32b` evaluates on a 32-bit argument is itself below 2^32
    (`popcount32bTrace` is printed from the same intermediate form as `popcount32b`), so numpy's uint32 arithmetic
    computes exactly what the unbounded reading computes -/
theorem popcount32b_no_wrap (x : Nat) (hx : x < 2 ^ 32) : ∀ v ∈ KernelsCensus.popcount32bTrace x, v < 2 ^ 32 := by
  unfold KernelsCensus.popcount32bTrace
  simp only [List.nil_append, List.cons_append, List.forall_mem_cons, List.not_mem_nil, false_imp_iff, implies_true,
    and_true]
  -- in the order of the trace: each value is at most `x`, or at most a mask or a sum of masks
  have sum2 (u v : Nat) : (u &&& 858993459) + (v &&& 858993459) ≤ 858993459 + 858993459 :=
    Nat.add_le_add Nat.and_le_right Nat.and_le_right
  have sum3 (u : Nat) : (u &&& 252645135) + (u &&& 252645135) >>> 8 ≤ 252645135 + 252645135 :=
    Nat.add_le_add Nat.and_le_right ((Nat.shiftRight_le _ 8).trans Nat.and_le_right)
  exact ⟨(Nat.shiftRight_le x 1).trans_lt hx,
    (Nat.and_le_left.trans (Nat.shiftRight_le x 1)).trans_lt hx,
    (Nat.sub_le x _).trans_lt hx,
    Nat.and_le_right.trans_lt (by decide),
    ((Nat.shiftRight_le _ 2).trans (Nat.sub_le x _)).trans_lt hx,
    Nat.and_le_right.trans_lt (by decide),
    (sum2 _ _).trans_lt (by decide),
    ((Nat.shiftRight_le _ 4).trans (sum2 _ _)).trans_lt (by decide),
    (Nat.add_le_add (sum2 _ _) ((Nat.shiftRight_le _ 4).trans (sum2 _ _))).trans_lt (by decide),
    Nat.and_le_right.trans_lt (by decide),
    ((Nat.shiftRight_le _ 8).trans Nat.and_le_right).trans_lt (by decide),
    (sum3 _).trans_lt (by decide),
    ((Nat.shiftRight_le _ 16).trans (sum3 _)).trans_lt (by decide),
    (Nat.add_le_add (sum3 _) ((Nat.shiftRight_le _ 16).trans (sum3 _))).trans_lt (by decide),
    Nat.and_le_right.trans_lt (by decide)⟩

theorem bitCount_xor_eq_hamming (n a b : Nat) :
    bitCount n (a ^^^ b) = ((List.range n).filter (fun i => Bool.xor (a.testBit i) (b.testBit i))).length := by
  simp only [bitCount, Nat.testBit_xor]

/-- `census_cost` on two census strings of a `w × w` window with `w² ≤ 32`: the regenerated `popcount32b` of their xor is
    their Hamming distance -/
theorem census_cost_eq_hamming (a b : Nat) (ha : a < 2 ^ 32) (hb : b < 2 ^ 32) :
    KernelsCensus.popcount32b (a ^^^ b) = ((List.range 32).filter (fun i => Bool.xor (a.testBit i) (b.testBit i))).length := by
  rw [popcount32b_correct _ (Nat.xor_lt_two_pow ha hb), bitCount_xor_eq_hamming]

example : (0xFFFFFFFF : Nat) < 2 ^ 32 ∧ KernelsCensus.popcount32b 0xFFFFFFFF = 32 ∧ bitCount 32 0xFFFFFFFF = 32 := by decide +kernel
example : (0x1ABCDEF : Nat) < 2 ^ 25 ∧ bitCount 25 0x1ABCDEF = 18 := by decide +kernel

end Pandora.C02Census
