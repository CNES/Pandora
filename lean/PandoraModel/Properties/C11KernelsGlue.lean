/-
  C11 — the numpy GLUE of `pandora/aggregation/cbca.py`, regenerated from the source on every run
  (`translator/gen_kernels_cbca_glue.py` -> `Generated/KernelsCbcaGlue.lean`), is the hand model `Model/Cbca.lean`:
  the scalar decisions (index of the shifted right image, facing columns, the four `offset` crops, `cmax`), one iteration
  of the disparity loop (steps 1-4 chained on the generated kernels, `sum4 += 1`, `+=`, `/=`), the whole method on the
  whole volume, and the order and meaning of the image-preparation statements of `computes_cross_supports`.
-/
import PandoraModel.Generated.KernelsCbcaGlue
import PandoraModel.Properties.C11
import PandoraModel.Properties.C11KernelsSteps

namespace Pandora.C11KernelsGlue
open Pandora.Cbca Pandora.PyLoops Pandora.PyExpr Pandora.Generated Pandora.C11KernelsSteps
open Pandora.Generated.KernelsCbcaSteps

-- stated once: the unifier is slow to see it inside a larger term
theorem ratFloor_eq_floor (x : ℚ) : x.floor = ⌊x⌋ := rfl

theorem leftCol_generated_eq (x : Int) (d : ℚ) : KernelsCbcaGlue.leftCol x d = x := by
  unfold KernelsCbcaGlue.leftCol; rfl

theorem facing_generated_eq (x wr : Nat) (d : ℚ) :
    rightCol d wr x = if KernelsCbcaGlue.facingMask (x : Int) d (wr : Int) then some (KernelsCbcaGlue.facingCol (x : Int) d).toNat else none := by
  unfold rightCol KernelsCbcaGlue.facingMask KernelsCbcaGlue.facingCol
  simp only [Int.cast_natCast, ge_iff_le, Bool.and_eq_true, decide_eq_true_eq]
  by_cases h : (0 : ℚ) ≤ (x : ℚ) + d ∧ (x : ℚ) + d < (wr : ℚ)
  · rw [if_pos h, if_pos h, rtrunc_of_nonneg h.1]
  · rw [if_neg h, if_neg h]

theorem facingCol_nat (x wr : Nat) (d : ℚ) (xr : Nat) (h : rightCol d wr x = some xr) :
    KernelsCbcaGlue.facingCol (x : Int) d = (xr : Int) ∧ xr < wr := by
  unfold rightCol at h
  simp only at h
  split at h
  · rename_i hc
    injection h with h
    unfold KernelsCbcaGlue.facingCol
    rw [Int.cast_natCast, rtrunc_of_nonneg hc.1]
    have h0 : 0 ≤ ((x : ℚ) + d).floor := by rw [ratFloor_eq_floor]; exact Int.floor_nonneg.mpr hc.1
    have h1 : ((x : ℚ) + d).floor < (wr : Int) := by
      rw [ratFloor_eq_floor]; exact Int.floor_lt.mpr (by exact_mod_cast hc.2)
    constructor <;> omega
  · exact absurd h (by simp)

def facingList (d : ℚ) (wr W : Nat) : List Nat :=
  (List.range W).filter (fun (i : Nat) => KernelsCbcaGlue.facingMask (i : Int) d (wr : Int))

theorem whereIdx_eq (d : ℚ) (wr W : Nat) :
    KernelsCbcaGlue.whereIdx (fun x => KernelsCbcaGlue.facingMask x d (wr : Int)) (W : Int)
      = (facingList d wr W).map (fun (i : Nat) => (i : Int)) := by
  unfold KernelsCbcaGlue.whereIdx facingList
  simp

theorem getD_map_cast (l : List Nat) (t : Nat) (h : t < l.length) :
    (l.map (fun (i : Nat) => (i : Int))).getD t 0 = ((l[t] : Nat) : Int) := by
  simp [List.getD_eq_getElem?_getD, h]

theorem mem_facingList (d : ℚ) (wr W x : Nat) :
    x ∈ facingList d wr W ↔ x < W ∧ rightCol d wr x ≠ none := by
  unfold facingList
  rw [List.mem_filter, List.mem_range, facing_generated_eq]
  by_cases h : KernelsCbcaGlue.facingMask (x : Int) d (wr : Int) = true <;> simp [h]

/-- **the two column lists `cost_volume_aggregation` builds (`range_col[valid_index]`,
    `range_col_right[valid_index].astype(int)` with `valid_index = np.where(...)`) are wired as the model says** -/
theorem wired_generated (P : Plane) :
    Wired P (facingList P.d P.Wr P.W).length
      (fun t => KernelsCbcaGlue.leftCol (((facingList P.d P.Wr P.W).map (fun (i : Nat) => (i : Int))).getD t.toNat 0) P.d)
      (fun t => KernelsCbcaGlue.facingCol (((facingList P.d P.Wr P.W).map (fun (i : Nat) => (i : Int))).getD t.toNat 0) P.d) where
  facing := by
    intro t ht
    have hm : (facingList P.d P.Wr P.W)[t] ∈ facingList P.d P.Wr P.W := List.getElem_mem ht
    rw [mem_facingList] at hm
    obtain ⟨xr, hxr⟩ := Option.ne_none_iff_exists'.mp hm.2
    have hc := facingCol_nat _ _ _ _ hxr
    refine ⟨(facingList P.d P.Wr P.W)[t], xr, ?_, hm.1, hxr, ?_, hc.2⟩
    · simp only [Int.toNat_natCast, leftCol_generated_eq]; exact getD_map_cast _ _ ht
    · simp only [Int.toNat_natCast]; rw [getD_map_cast _ _ ht]; exact hc.1
  once := by
    intro t t' ht ht' h
    simp only [Int.toNat_natCast, leftCol_generated_eq] at h
    rw [getD_map_cast _ _ ht, getD_map_cast _ _ ht'] at h
    have hnd : (facingList P.d P.Wr P.W).Nodup := List.Nodup.filter _ List.nodup_range
    exact (List.Nodup.getElem_inj_iff hnd).mp (by exact_mod_cast h)
  all := by
    intro x hx hne
    have hm : x ∈ facingList P.d P.Wr P.W := (mem_facingList _ _ _ _).mpr ⟨hx, hne⟩
    obtain ⟨t, ht, he⟩ := List.getElem_of_mem hm
    refine ⟨t, ht, ?_⟩
    simp only [Int.toNat_natCast, leftCol_generated_eq]
    rw [getD_map_cast _ _ ht, he]

set_option linter.unusedTactic false in
set_option linter.unreachableTactic false in
theorem iRight_generated_eq (d : ℚ) (s : Nat) : KernelsCbcaGlue.iRight d (s : Int) = ((Cbca.iRight s d : Nat) : Int) := by
  -- whatever way the source writes the product, it is `trunc` of (fractional part of d) * subpix
  have hE : ∀ e : ℚ, e = (d - (d.floor : ℚ)) * (s : ℚ) → rtrunc e = ((Cbca.iRight s d : Nat) : Int) := by
    rintro e rfl
    have h0 : (0 : ℚ) ≤ (d - (d.floor : ℚ)) * (s : ℚ) := mul_nonneg (sub_nonneg.mpr (Int.floor_le d)) (Nat.cast_nonneg s)
    rw [rtrunc_of_nonneg h0]
    exact (Int.toNat_of_nonneg (Int.floor_nonneg.mpr h0)).symm
  unfold KernelsCbcaGlue.iRight
  apply hE
  -- `ring` for the commuted product `subpixel * (disp % 1)` (DESIGN.md T12/T15: commuted products still prove); on the source
  -- as it is `simp only` closes the goal
  simp only [rfloor, div_one, mul_one, Int.cast_natCast] <;> try ring

theorem aggInit_generated_eq (v : Val) :
    KernelsCbcaGlue.aggInit v = (match v with | .nan => Val.nan | .num _ => Val.num 0) := by
  cases v <;> simp [KernelsCbcaGlue.aggInit, vadd, vmul, Val.map2]

/-- the plane `Cbca.Input.planeWith` hands to steps 1-4, from its parts -/
def planeOf (H W : Nat) (cv : Nat → Nat → Val) (armsL : Nat → Nat → Arms) (armsR : Nat → Nat → Nat → Arms)
    (wr : Nat → Nat) (d : ℚ) (subpix : Nat) : Plane :=
  { H := H, W := W, cv := cv, armsL := armsL, armsR := armsR (Cbca.iRight subpix d), Wr := wr (Cbca.iRight subpix d), d := d }

/-- `C11KernelsSteps.cbcaStep1_generated_eq`, the same statement, under the name the documents and the audit of the glue count:
    step 1 for ANY array that holds the cost plane inside `H × W` (the cells outside are never read) -/
theorem cbcaStep1_generated_eq_of (H W : Nat) (cv : Nat → Nat → Val) (cvp : Int → Int → Val)
    (hcv : ∀ y x : Nat, y < H → x < W → cvp y x = cv y x) :
    ∃ r, cbcaStep1 cvp H W = .ok r ∧ r.n0 = H ∧ r.n1 = (W : Int) + 1 ∧
      ∀ (y : Nat) (j : Int), y < H → -((W : Int) + 1) ≤ j → j < (W : Int) + 1 →
        get2 r.get r.n0 r.n1 y j = Val.num (s1At W (cv y) j) :=
  cbcaStep1_generated_eq H W cv cvp hcv

/-- one iteration of the disparity loop, for ANY arrays that hold the cost plane / the initial content of `agg[dsp]` inside
    the area: the chain of the four generated kernels, `sum4 += 1`, `+=`, `/=` is `Cbca.aggOut` of the plane -/
theorem aggPlane_generated_eq_of (H W : Nat) (cv : Nat → Nat → Val) (armsL : Nat → Nat → Arms)
    (armsR : Nat → Nat → Nat → Arms) (wr : Nat → Nat) (d : ℚ) (subpix : Nat) (hH : 1 ≤ H) (hin : ArmsIn H W armsL)
    (cvp aggp : Int → Int → Val) (hcv : ∀ y x : Nat, y < H → x < W → cvp y x = cv y x)
    (hag : ∀ y x : Nat, y < H → x < W → aggp x y = KernelsCbcaGlue.aggInit (cv y x)) :
    ∃ out, KernelsCbcaGlue.aggPlane cvp H W aggp W H
        (embA armsL) H W 4 (fun s => embA (armsR s.toNat)) (fun _ => H) (fun s => wr s.toNat) (fun _ => 4) d subpix = .ok out ∧
      out.n0 = W ∧ out.n1 = H ∧
      ∀ y x : Nat, y < H → x < W → out.get x y = aggOut (planeOf H W cv armsL armsR wr d subpix) y x := by
  have hw := wired_generated (planeOf H W cv armsL armsR wr d subpix)
  obtain ⟨r1, e1, a0, a1, c1⟩ := cbcaStep1_generated_eq H W cv cvp hcv
  rw [a0, a1] at c1
  obtain ⟨r2, e2, b0, b1, b2, b3, c2⟩ := cbcaStep2_generated_eq (planeOf H W cv armsL armsR wr d subpix) _ _ _ r1.get c1 hw hin
  obtain ⟨r3, e3, d0, d1, c3⟩ := cbcaStep3_generated_eq (planeOf H W cv armsL armsR wr d subpix) hH r2.1.get
    (fun y x hy hx => (c2 y x hy hx).1)
  rw [d0, d1] at c3
  obtain ⟨r4, e4, f0, f1, f2, f3, c4⟩ := cbcaStep4_generated_eq (planeOf H W cv armsL armsR wr d subpix) _ _ _ r3.get r2.2.get c3
    (fun y x hy hx => (c2 y x hy hx).2) hw hin
  simp only [planeOf] at e2 e3 e4 b0 b1 b2 b3 d0 d1 f0 f1 f2 f3
  unfold KernelsCbcaGlue.aggPlane
  simp only [iRight_generated_eq, Int.toNat_natCast, whereIdx_eq, List.length_map, e1, a0, a1, e2, b0, b1, b2, b3, e3, d0, d1,
    e4, f0, f1, f2, f3, decide_true, Bool.and_self, Bool.true_eq_false, if_false]
  refine ⟨_, rfl, rfl, rfl, ?_⟩
  intro y x hy hx
  obtain ⟨g1, g2⟩ := c4 y x hy hx
  show KernelsCbcaGlue.fdivV (vadd (aggp (x : Int) (y : Int)) (r4.1.get y x))
    (vadd (r4.2.get y x) (Val.num 1)) = _
  rw [g1, g2, hag y x hy hx, aggInit_generated_eq]
  unfold aggOut
  show _ = match cv y x with | .nan => Val.nan | .num _ => _
  cases cv y x with
  | nan => rfl
  | num c => simp [KernelsCbcaGlue.fdivV, vadd, Val.map2, fdiv, Pandora.C11.sum4_pos]

theorem aggPlane_generated_eq (H W : Nat) (cv : Nat → Nat → Val) (armsL : Nat → Nat → Arms)
    (armsR : Nat → Nat → Nat → Arms) (wr : Nat → Nat) (d : ℚ) (subpix : Nat) (hH : 1 ≤ H) (hin : ArmsIn H W armsL) :
    ∃ out, KernelsCbcaGlue.aggPlane (embV cv) H W (fun i j => KernelsCbcaGlue.aggInit (embV cv j i)) W H
        (embA armsL) H W 4 (fun s => embA (armsR s.toNat)) (fun _ => H) (fun s => wr s.toNat) (fun _ => 4) d subpix = .ok out ∧
      out.n0 = W ∧ out.n1 = H ∧
      ∀ y x : Nat, y < H → x < W → out.get x y = aggOut (planeOf H W cv armsL armsR wr d subpix) y x :=
  aggPlane_generated_eq_of H W cv armsL armsR wr d subpix hH hin _ _ (fun y x _ _ => by simp [embV])
    (fun y x _ _ => by simp [embV])

/-- the model's crop by `offset_row_col` on an `(n0, n1)` array: first row, first column, rows, columns
    (`Cbca.crop off`, `Input.h`, `Input.w`, `Input.wr`) -/
def cropBox (n0 n1 off : Nat) : Int × Int × Int × Int :=
  if off = 0 then (0, 0, (n0 : Int), (n1 : Int))
  else (((min off n0 : Nat) : Int), ((min off n1 : Nat) : Int), ((n0 - 2 * off : Nat) : Int), ((n1 - 2 * off : Nat) : Int))

theorem sliceBox_crop (n0 n1 off : Nat) (h : 0 < off) :
    KernelsCbcaGlue.sliceBox n0 n1 off (-(off : Int)) off (-(off : Int))
      = (((min off n0 : Nat) : Int), ((min off n1 : Nat) : Int), ((n0 - 2 * off : Nat) : Int), ((n1 - 2 * off : Nat) : Int)) := by
  -- an axis of length `n` cut to `[off, n - off)`: `n - 2 off` cells, none when the bounds cross
  have e : ∀ n : Nat, (if ((n - off : Nat) : Int) < ((min off n : Nat) : Int) then 0
      else ((n - off : Nat) : Int) - ((min off n : Nat) : Int)) = ((n - 2 * off : Nat) : Int) := by
    intro n; split <;> omega
  unfold KernelsCbcaGlue.sliceBox
  simp only [sliceBound_natCast, sliceBound_neg_natCast _ _ h, e]

/-- a crop site of the source, whatever way its test is written (`offset != 0`, `offset > 0`): the slice
    `[off:-off, off:-off]` when the test holds, the whole array otherwise -/
theorem cropSite_eq (n0 n1 off : Nat) (test : Bool) (ht : test = true ↔ 0 < off) :
    (if test then KernelsCbcaGlue.sliceBox n0 n1 off (-(off : Int)) off (-(off : Int)) else (0, 0, (n0 : Int), (n1 : Int)))
      = cropBox n0 n1 off := by
  unfold cropBox
  by_cases h0 : off = 0
  · rw [if_neg (by rw [ht]; omega), if_pos h0]
  · rw [if_pos (ht.mpr (by omega)), if_neg h0]; exact sliceBox_crop n0 n1 off (by omega)

section
-- the `omega` after `simp` serves the documented rewrites H2 / HN1 of DESIGN_NOTES/C11.md (`if offset >= 1` for `offset > 0` /
-- `offset != 0`); on the source as it is `simp` closes the goal and the linters call it unused
set_option linter.unusedTactic false
set_option linter.unreachableTactic false

theorem leftCrop_generated_eq (n0 n1 off : Nat) : KernelsCbcaGlue.leftCropBox n0 n1 off = cropBox n0 n1 off :=
  cropSite_eq n0 n1 off _ (by unfold KernelsCbcaGlue.leftCropTest; simp <;> omega)

theorem rightCrop_generated_eq (n0 n1 off : Nat) (shift : Int) :
    KernelsCbcaGlue.rightCropBox n0 n1 off shift = cropBox n0 n1 off :=
  cropSite_eq n0 n1 off _ (by unfold KernelsCbcaGlue.rightCropTest; simp <;> omega)

theorem cvCrop_generated_eq (n0 n1 off : Nat) : KernelsCbcaGlue.cvCropBox n0 n1 off = cropBox n0 n1 off :=
  cropSite_eq n0 n1 off _ (by unfold KernelsCbcaGlue.cvCropTest; simp <;> omega)

theorem writeBackTest_iff (off : Nat) : KernelsCbcaGlue.writeBackTest (off : Int) = true ↔ 0 < off := by
  unfold KernelsCbcaGlue.writeBackTest; simp <;> omega

end

theorem writeBack_generated_eq (n0 n1 off : Nat) : KernelsCbcaGlue.writeBackBox n0 n1 off = cropBox n0 n1 off :=
  cropSite_eq n0 n1 off _ (writeBackTest_iff off)

/-- `cropBox` is the crop of the model: `Input.h × Input.w` cells starting at `(off, off)` (when there is a cell at all),
    and `Input.wr k` columns for the `k`-th shifted right image (one column fewer than the image for `k ≠ 0`) -/
theorem cropBox_model (inp : Input) (k : Nat) :
    (cropBox inp.H inp.W inp.off).2.2.1 = (inp.h : Int) ∧ (cropBox inp.H inp.W inp.off).2.2.2 = (inp.w : Int) ∧
    (cropBox inp.H (if k = 0 then inp.W else inp.W - 1) inp.off).2.2.1 = (inp.h : Int) ∧
    (cropBox inp.H (if k = 0 then inp.W else inp.W - 1) inp.off).2.2.2 = (inp.wr k : Int) ∧
    (0 < inp.h → (cropBox inp.H inp.W inp.off).1 = (inp.off : Int)) ∧
    (0 < inp.w → (cropBox inp.H inp.W inp.off).2.1 = (inp.off : Int)) ∧
    (0 < inp.wr k → (cropBox inp.H (if k = 0 then inp.W else inp.W - 1) inp.off).2.1 = (inp.off : Int)) := by
  unfold cropBox Input.h Input.w Input.wr
  by_cases h0 : inp.off = 0
  · simp [h0]
  · simp only [if_neg h0]
    -- `simp only` has closed the four extents (they are the model's by definition); a first cell `min off n` is `off` as
    -- soon as `n - 2 off` is positive
    refine ⟨trivial, trivial, trivial, trivial, fun h => ?_, fun h => ?_, fun h => ?_⟩
    · omega
    · omega
    · split_ifs at h ⊢ <;> omega

/-- what each preparation statement does, in the reading of `Model/Cbca.lean` (masked, NaN and `+inf` pixels are
    `Val.nan`), with the MEANING THE TRANSLATOR READ from the statement: guard and test of the mask stores
    (`leftMaskGuard/Test`, `rightMaskGuard/Test`, `shiftMaskGuard/Test` over the mask cell and the attributes
    `valid_pixels` / `no_data_mask` of the image's own dataset), the cells of the `as_strided` window whose sum is added to the
    shifted image (`shiftMaskOffsets`: a NaN in any of them makes the pixel NaN, zeros leave it), the size of the median
    (`prefilterSize`; the model has the 3 × 3 filter only).  `shift` is the index of the shifted right image. -/
def applyPrep (H W : Nat) (hasMsk : Bool) (msk : Nat → Nat → Int) (valid nodata : Int) (shift : Nat) :
    KernelsCbcaGlue.PrepOp → Img → Img
  | .copy, g => g
  | .maskInvalid, g => fun y x =>
      if KernelsCbcaGlue.leftMaskGuard hasMsk && KernelsCbcaGlue.leftMaskTest (msk y x) valid nodata then .nan else g y x
  | .maskInvalidPixel, g => fun y x =>
      if KernelsCbcaGlue.rightMaskGuard hasMsk shift && KernelsCbcaGlue.rightMaskTest (msk y x) valid nodata then .nan else g y x
  | .maskInvalidShifted, g => fun y x =>
      if KernelsCbcaGlue.shiftMaskGuard hasMsk shift &&
          KernelsCbcaGlue.shiftMaskOffsets.any (fun o => KernelsCbcaGlue.shiftMaskTest (msk (y + o.1) (x + o.2)) valid nodata)
      then .nan else g y x
  | .median3, g => if KernelsCbcaGlue.prefilterSize = 3 then median3 H W g else fun _ _ => Val.nan
  | .nanToInf, g => g

def runPrep (H W : Nat) (hasMsk : Bool) (msk : Nat → Nat → Int) (valid nodata : Int) (shift : Nat)
    (ops : List KernelsCbcaGlue.PrepOp) (g : Img) : Img :=
  ops.foldl (fun g op => applyPrep H W hasMsk msk valid nodata shift op g) g

/-- the unmasked `k`-th shifted right image (`shift_right_img`: linear interpolation at `k / subpix`) -/
def rawShift (inp : Input) (k : Nat) : Img := fun y x =>
  if k = 0 then .num (inp.imR y x)
  else .num ((1 - (k : ℚ) / inp.subpix) * inp.imR y x + (k : ℚ) / inp.subpix * inp.imR y (x + 1))

/-- `np.nan_to_num(…, copy=False, nan=np.inf)`: NaN becomes the `+inf` `cross_support` is proved with (`Fl.ofMasked`) -/
theorem nanReplacement_generated_eq : KernelsCbcaGlue.nanReplacement = Fl.ofMasked Val.nan := rfl

/-- the summed `as_strided` view has the width of the shifted images (`W - 1`) -/
theorem shiftMask_generated_width (W : Nat) (hW : 1 ≤ W) :
    (W : Int) + KernelsCbcaGlue.shiftMaskWidthDelta = ((W - 1 : Nat) : Int) := by
  unfold KernelsCbcaGlue.shiftMaskWidthDelta; omega

/-- a test of a mask store, however the source writes the comparison: the cell differs from `valid_pixels` -/
theorem bne_of_test (m v : Int) (t : Bool) (h : t = true ↔ m ≠ v) : t = (m != v) := by
  by_cases hmv : m = v <;> cases t <;> simp_all

section
-- the `omega` after `simp only` serves the documented rewrite HN1 of DESIGN_NOTES/C11.md (`valid_pixels != msk` for
-- `msk != valid_pixels`); on the source as it is the linters call it unused
set_option linter.unusedTactic false
set_option linter.unreachableTactic false

theorem leftMaskTest_generated_eq (m v nd : Int) : KernelsCbcaGlue.leftMaskTest m v nd = (m != v) :=
  bne_of_test m v _ (by unfold KernelsCbcaGlue.leftMaskTest; simp only [Bool.not_eq_true', decide_eq_false_iff_not, ne_eq] <;> omega)

theorem rightMaskTest_generated_eq (m v nd : Int) : KernelsCbcaGlue.rightMaskTest m v nd = (m != v) :=
  bne_of_test m v _ (by unfold KernelsCbcaGlue.rightMaskTest; simp only [Bool.not_eq_true', decide_eq_false_iff_not, ne_eq] <;> omega)

theorem shiftMaskTest_generated_eq (m v nd : Int) : KernelsCbcaGlue.shiftMaskTest m v nd = (m != v) :=
  bne_of_test m v _ (by unfold KernelsCbcaGlue.shiftMaskTest; simp only [Bool.not_eq_true', decide_eq_false_iff_not, ne_eq] <;> omega)

end

theorem prepLeft_generated_eq (inp : Input) (nodata : Int) :
    runPrep inp.H inp.W inp.hasMskL inp.mskL inp.validL nodata 0 KernelsCbcaGlue.prepLeft (fun y x => .num (inp.imL y x))
      = inp.filteredL := by
  unfold KernelsCbcaGlue.prepLeft runPrep Input.filteredL
  simp only [List.foldl, applyPrep, KernelsCbcaGlue.prefilterSize, if_true]
  refine congrArg (median3 inp.H inp.W) ?_
  funext y x
  simp [maskedImg, KernelsCbcaGlue.leftMaskGuard, leftMaskTest_generated_eq]

theorem prepRight_generated_eq (inp : Input) (k : Nat) (nodata : Int) :
    runPrep inp.H (if k = 0 then inp.W else inp.W - 1) inp.hasMskR inp.mskR inp.validR nodata k KernelsCbcaGlue.prepRight
      (rawShift inp k) = inp.filteredR k := by
  unfold KernelsCbcaGlue.prepRight runPrep Input.filteredR
  simp only [List.foldl, applyPrep, KernelsCbcaGlue.prefilterSize, if_true]
  by_cases hk : k = 0
  · simp only [hk, if_true]
    refine congrArg (median3 inp.H inp.W) ?_
    funext y x
    simp [maskedImg, rawShift, KernelsCbcaGlue.rightMaskGuard, rightMaskTest_generated_eq, KernelsCbcaGlue.shiftMaskGuard]
  · simp only [hk, if_false]
    refine congrArg (median3 inp.H (inp.W - 1)) ?_
    funext y x
    simp [shiftedImg, rawShift, hk, KernelsCbcaGlue.rightMaskGuard, KernelsCbcaGlue.shiftMaskGuard,
      shiftMaskTest_generated_eq, KernelsCbcaGlue.shiftMaskOffsets]

/-- **One iteration of the disparity loop of `cost_volume_aggregation`, as the source defines it, computes the cells
    of `Cbca.aggregateWith`** inside the aggregated area, for every input, cross supports (left arms inside the area) and
    disparity index: `agg[dsp, x - off, y - off]` is the model's cell `(y, x, dsp)`. -/
theorem aggregate_generated (inp : Input) (armsL : Nat → Nat → Arms) (armsR : Nat → Nat → Nat → Arms) (dsp : Nat)
    (hH : 1 ≤ inp.h) (hin : ArmsIn inp.h inp.w armsL) :
    ∃ out, KernelsCbcaGlue.aggPlane (embV (fun y x => inp.cv (y + inp.off) (x + inp.off) dsp)) inp.h inp.w
        (fun i j => KernelsCbcaGlue.aggInit (embV (fun y x => inp.cv (y + inp.off) (x + inp.off) dsp) j i)) inp.w inp.h
        (embA armsL) inp.h inp.w 4 (fun s => embA (armsR s.toNat)) (fun _ => inp.h) (fun s => inp.wr s.toNat) (fun _ => 4)
        (inp.disp dsp) inp.subpix = .ok out ∧ out.n0 = inp.w ∧ out.n1 = inp.h ∧
      ∀ y x : Nat, inArea inp y x = true →
        out.get ((x - inp.off : Nat) : Int) ((y - inp.off : Nat) : Int) = aggregateWith inp armsL armsR y x dsp := by
  obtain ⟨out, e, s0, s1, hc⟩ := aggPlane_generated_eq inp.h inp.w (fun y x => inp.cv (y + inp.off) (x + inp.off) dsp)
    armsL armsR inp.wr (inp.disp dsp) inp.subpix hH hin
  refine ⟨out, e, s0, s1, ?_⟩
  intro y x ha
  unfold aggregateWith
  rw [if_pos ha]
  have ha := (Pandora.C11.inArea_iff inp y x).mp ha
  have := hc (y - inp.off) (x - inp.off) (by omega) (by omega)
  exact this

theorem crossL_armsIn (inp : Input) : ArmsIn inp.h inp.w inp.crossL :=
  armsIn_of (Pandora.C11.crossSupport_in_image inp.mr inp.h inp.w inp.dist inp.I (crop inp.off inp.filteredL))

/-- the same with the cross supports of the model, under the property's specification -/
theorem aggregate_generated_spec (inp : Input) (h : inp.mr = .neighbour ∨ 2 ≤ inp.dist) (dsp : Nat) (hH : 1 ≤ inp.h)
    (hN : nanOutside (inp.planeRef dsp) = true) :
    ∃ out, KernelsCbcaGlue.aggPlane (embV (fun y x => inp.cv (y + inp.off) (x + inp.off) dsp)) inp.h inp.w
        (fun i j => KernelsCbcaGlue.aggInit (embV (fun y x => inp.cv (y + inp.off) (x + inp.off) dsp) j i)) inp.w inp.h
        (embA inp.crossL) inp.h inp.w 4 (fun s => embA (inp.crossR s.toNat)) (fun _ => inp.h) (fun s => inp.wr s.toNat)
        (fun _ => 4) (inp.disp dsp) inp.subpix = .ok out ∧
      ∀ y x : Nat, inArea inp y x = true →
        specAt inp y x dsp (out.get ((x - inp.off : Nat) : Int) ((y - inp.off : Nat) : Int)) = true := by
  obtain ⟨out, e, _, _, hc⟩ := aggregate_generated inp inp.crossL inp.crossR dsp hH (crossL_armsIn inp)
  refine ⟨out, e, ?_⟩
  intro y x ha
  rw [hc y x ha]
  exact Pandora.C11.cbca_spec inp h dsp hN y x

/-- an iteration leaves every other plane of `agg` as it was -/
theorem aggLoopBody_frame (cvd : Int → Int → Int → Val) (a0 a1 b1 b2 : Int) (cl : Int → Int → Int → Int) (c0 c1 c2 : Int)
    (cr : Int → Int → Int → Int → Int) (r0 r1 r2 : Int → Int) (disp : Int → ℚ) (subpix dsp : Int)
    (agg agg' : Int → Int → Int → Val)
    (h : KernelsCbcaGlue.aggLoopBody cvd a0 a1 b1 b2 cl c0 c1 c2 cr r0 r1 r2 disp subpix dsp agg = .ok agg') :
    ∀ k : Int, k ≠ dsp → agg' k = agg k := by
  unfold KernelsCbcaGlue.aggLoopBody at h
  split at h
  · exact absurd h (by simp)
  · injection h with h
    intro k hk
    rw [← h]
    funext i j
    simp [hk]

/-- an iteration reads plane `dsp` of `cv_data`, plane `dsp` of `agg` and the disparity `disp[dsp]` only: two states /
    volumes / disparity lists that agree there give the same new plane -/
theorem aggLoopBody_reads (cvd cvd' : Int → Int → Int → Val) (a0 a1 b1 b2 : Int) (cl : Int → Int → Int → Int) (c0 c1 c2 : Int)
    (cr : Int → Int → Int → Int → Int) (r0 r1 r2 : Int → Int) (disp disp' : Int → ℚ) (subpix dsp : Int)
    (agg agg2 : Int → Int → Int → Val)
    (hc : ∀ i j, cvd i j dsp = cvd' i j dsp) (ha : ∀ i j, agg dsp i j = agg2 dsp i j) (hd : disp dsp = disp' dsp) :
    (match KernelsCbcaGlue.aggLoopBody cvd a0 a1 b1 b2 cl c0 c1 c2 cr r0 r1 r2 disp subpix dsp agg,
           KernelsCbcaGlue.aggLoopBody cvd' a0 a1 b1 b2 cl c0 c1 c2 cr r0 r1 r2 disp' subpix dsp agg2 with
     | .ok x, .ok y => x dsp = y dsp
     | .outOfBounds, .outOfBounds => True
     | _, _ => False) := by
  unfold KernelsCbcaGlue.aggLoopBody
  have e1 : (fun i j => cvd i j dsp) = (fun i j => cvd' i j dsp) := by funext i j; exact hc i j
  have e2 : (fun i j => agg dsp i j) = (fun i j => agg2 dsp i j) := by funext i j; exact ha i j
  rw [e1, e2, hd]
  generalize KernelsCbcaGlue.aggPlane _ _ _ _ _ _ _ _ _ _ _ _ _ _ _ _ = R
  cases R with
  | outOfBounds => trivial
  | ok r => simp

theorem forPlanes_inv {σ : Type} (body : Int → σ → Res σ) (P : Nat → σ → Prop) (n : Nat) (s0 : σ) (h0 : P 0 s0)
    (hstep : ∀ (k : Nat) (s : σ), k < n → P k s → ∃ s', body (k : Int) s = .ok s' ∧ P (k + 1) s') :
    ∃ s, KernelsCbcaGlue.forPlanes body n s0 = .ok s ∧ P n s := by
  induction n with
  | zero => exact ⟨s0, rfl, h0⟩
  | succ n ih =>
    obtain ⟨s, hs, hp⟩ := ih (fun k s hk hP => hstep k s (by omega) hP)
    obtain ⟨s', hb, hp'⟩ := hstep n s (by omega) hp
    exact ⟨s', by simp only [KernelsCbcaGlue.forPlanes, hs, hb], hp'⟩

def emb3 (f : Nat → Nat → Nat → Val) : Int → Int → Int → Val := fun y x k => f y.toNat x.toNat k.toNat

theorem emb3_crop (f : Nat → Nat → Nat → Val) (off y x k : Nat) :
    emb3 f ((off : Int) + (y : Int)) ((off : Int) + (x : Int)) (k : Int) = f (y + off) (x + off) k := by
  simp only [emb3, Int.toNat_natCast]
  rw [show ((off : Int) + (y : Int)).toNat = y + off by omega, show ((off : Int) + (x : Int)).toNat = x + off by omega]

theorem area_of_off_zero (inp : Input) (h0 : inp.off = 0) :
    inp.h = inp.H ∧ inp.w = inp.W ∧ ∀ y x : Nat, y < inp.H → x < inp.W → inArea inp y x = true := by
  have hh : inp.h = inp.H := by rw [Input.h, h0]; rfl
  have hw : inp.w = inp.W := by rw [Input.w, h0]; rfl
  refine ⟨hh, hw, fun y x hy hx => (Pandora.C11.inArea_iff inp y x).mpr ?_⟩
  rw [h0, hh, hw, Nat.zero_add, Nat.zero_add]
  exact ⟨Nat.zero_le y, hy, Nat.zero_le x, hx⟩

theorem area_coord {inp : Input} {y x : Nat} (ha : inArea inp y x = true) :
    (y : Int) - (inp.off : Int) = ((y - inp.off : Nat) : Int) ∧ (x : Int) - (inp.off : Int) = ((x - inp.off : Nat) : Int) :=
  have h := (Pandora.C11.inArea_iff inp y x).mp ha
  ⟨(Nat.cast_sub h.1).symm, (Nat.cast_sub h.2.2.1).symm⟩

/-- the test of the store `cv[off:-off, off:-off] = …`, on integers, is the model's `inArea`; `b2` is the first column of
    the box, arbitrary when the area has no column -/
theorem writeBack_test (inp : Input) (y x : Nat) (b2 : Int) (hb : 0 < inp.w → b2 = (inp.off : Int)) :
    (decide ((inp.off : Int) ≤ (y : Int)) && decide ((y : Int) < (inp.off : Int) + (inp.h : Int)) &&
      decide (b2 ≤ (x : Int)) && decide ((x : Int) < b2 + (inp.w : Int))) = inArea inp y x := by
  rw [Bool.eq_iff_iff, Pandora.C11.inArea_iff]
  simp only [Bool.and_eq_true, decide_eq_true_eq]
  by_cases hw : 0 < inp.w
  · obtain rfl := hb hw
    omega
  · omega

/-- **`cost_volume_aggregation` as the source defines it — crop of the cost volume by `offset_row_col`, `agg`
    initialised from it, the sequential loop over the disparities with `agg` as its state, `np.swapaxes`, the store into the
    cropped area or the replacement of the whole volume — returns, for every input, the cost volume of the model:
    every cell is `Cbca.aggregateWith`.** -/
theorem costVolumeAggregation_generated_eq (inp : Input) (D : Nat) (armsL : Nat → Nat → Arms) (armsR : Nat → Nat → Nat → Arms)
    (hH : 1 ≤ inp.h) (hin : ArmsIn inp.h inp.w armsL) :
    ∃ out, KernelsCbcaGlue.costVolumeAggregation (emb3 inp.cv) inp.H inp.W D inp.off (embA armsL) inp.h inp.w 4
        (fun s => embA (armsR s.toNat)) (fun _ => inp.h) (fun s => inp.wr s.toNat) (fun _ => 4)
        (fun k => inp.disp k.toNat) inp.subpix = .ok out ∧
      out.n0 = inp.H ∧ out.n1 = inp.W ∧ out.n2 = D ∧
      ∀ y x k : Nat, y < inp.H → x < inp.W → k < D → out.get y x k = aggregateWith inp armsL armsR y x k := by
  obtain ⟨m1, m2, _, _, m5, m6, _⟩ := cropBox_model inp 0
  have m5' := m5 hH
  unfold KernelsCbcaGlue.costVolumeAggregation
  simp only [cvCrop_generated_eq, writeBack_generated_eq, Int.toNat_natCast]
  generalize cropBox inp.H inp.W inp.off = b at m1 m2 m5' m6
  obtain ⟨b1, b2, b3, b4⟩ := b
  simp only at m1 m2 m5' m6
  subst m1 m2 m5'
  -- the loop: the planes below `m` hold the model's aggregated plane, the others their initial content
  obtain ⟨agg, hloop, hP⟩ := forPlanes_inv
    (KernelsCbcaGlue.aggLoopBody (fun i j k => emb3 inp.cv ((inp.off : Int) + i) (b2 + j) k) inp.h inp.w inp.w inp.h (embA armsL) inp.h inp.w 4
      (fun s => embA (armsR s.toNat)) (fun _ => inp.h) (fun s => inp.wr s.toNat) (fun _ => 4) (fun k => inp.disp k.toNat) inp.subpix)
    (fun m agg => ∀ k y x : Nat, y < inp.h → x < inp.w →
      (k < m → agg k x y = aggOut (inp.planeWith armsL armsR k) y x) ∧
      (m ≤ k → agg k x y = KernelsCbcaGlue.aggInit (inp.cv (y + inp.off) (x + inp.off) k)))
    D (fun k i j => KernelsCbcaGlue.aggInit (emb3 inp.cv ((inp.off : Int) + j) (b2 + i) k))
    (by
      intro k y x hy hx
      refine ⟨fun h => absurd h (Nat.not_lt_zero k), fun _ => ?_⟩
      obtain rfl := m6 (Nat.zero_lt_of_lt hx)
      exact congrArg KernelsCbcaGlue.aggInit (emb3_crop inp.cv inp.off y x k))
    (by
      intro k agg hk hP
      obtain ⟨out, e, s0, s1, hc⟩ := aggPlane_generated_eq_of inp.h inp.w (fun y x => inp.cv (y + inp.off) (x + inp.off) k)
        armsL armsR inp.wr (inp.disp k) inp.subpix hH hin
        (fun i j => emb3 inp.cv ((inp.off : Int) + i) (b2 + j) (k : Int)) (fun i j => agg (k : Int) i j)
        (by
          intro y x hy hx
          obtain rfl := m6 (Nat.zero_lt_of_lt hx)
          exact emb3_crop inp.cv inp.off y x k)
        (fun y x hy hx => (hP k y x hy hx).2 (le_refl k))
      unfold KernelsCbcaGlue.aggLoopBody
      simp only [Int.toNat_natCast, e]
      refine ⟨_, rfl, ?_⟩
      intro k' y x hy hx
      by_cases hkk : k' = k
      · subst hkk
        refine ⟨fun _ => ?_, fun h => absurd h (by omega)⟩
        simp only [if_true]
        exact hc y x hy hx
      · have hne : ((k' : Int) = (k : Int)) = False := by simp; omega
        simp only [hne, if_false]
        exact ⟨fun h => (hP k' y x hy hx).1 (by omega), fun h => (hP k' y x hy hx).2 (by omega)⟩)
  rw [hloop]
  have hcell : ∀ y x k : Nat, k < D → inArea inp y x = true →
      agg k ((x - inp.off : Nat) : Int) ((y - inp.off : Nat) : Int) = aggregateWith inp armsL armsR y x k := by
    intro y x k hk ha
    obtain ⟨hy, hx⟩ := Pandora.C11.inArea_spec ha
    unfold aggregateWith
    rw [if_pos ha]
    exact (hP k _ _ hy hx).1 hk
  by_cases h0 : inp.off = 0
  · have ht : KernelsCbcaGlue.writeBackTest (inp.off : Int) = false := by rw [h0]; decide
    simp only [ht, Bool.false_eq_true, if_false]
    obtain ⟨hh, hw, hall⟩ := area_of_off_zero inp h0
    refine ⟨_, rfl, by simp [hh], by simp [hw], rfl, ?_⟩
    intro y x k hy hx hk
    have := hcell y x k hk (hall y x hy hx)
    simp only [h0, Nat.sub_zero] at this
    exact this
  · have ht := (writeBackTest_iff inp.off).mpr (Nat.pos_of_ne_zero h0)
    simp only [ht, if_true, decide_true, Bool.and_self, Bool.true_eq_false, if_false]
    refine ⟨_, rfl, rfl, rfl, rfl, ?_⟩
    intro y x k hy hx hk
    show (if _ then _ else _) = _
    rw [writeBack_test inp y x b2 m6]
    by_cases ha : inArea inp y x = true
    · obtain rfl := m6 (Nat.zero_lt_of_lt (Pandora.C11.inArea_spec ha).2)
      rw [if_pos ha, ← hcell y x k hk ha, (area_coord ha).1, (area_coord ha).2]
    · unfold aggregateWith
      rw [if_neg ha, if_neg ha]
      simp [emb3]

theorem costVolumeAggregation_generated_model (inp : Input) (D : Nat) (hH : 1 ≤ inp.h) :
    ∃ out, KernelsCbcaGlue.costVolumeAggregation (emb3 inp.cv) inp.H inp.W D inp.off (embA inp.crossL) inp.h inp.w 4
        (fun s => embA (inp.crossR s.toNat)) (fun _ => inp.h) (fun s => inp.wr s.toNat) (fun _ => 4)
        (fun k => inp.disp k.toNat) inp.subpix = .ok out ∧
      out.n0 = inp.H ∧ out.n1 = inp.W ∧ out.n2 = D ∧
      ∀ y x k : Nat, y < inp.H → x < inp.W → k < D → out.get y x k = aggregate inp y x k := by
  exact costVolumeAggregation_generated_eq inp D inp.crossL inp.crossR hH (crossL_armsIn inp)

/-- **C11's clauses about the generated whole**: `sum_over_region` / `divided_by_region_size` (`specAt`: the cell is the sum
    of the non-NaN costs over the combined support region divided by its size, the margin untouched), `nan_stays`,
    `no_new_nan` — for every cell of the volume the generated `cost_volume_aggregation` returns. -/
theorem costVolumeAggregation_generated_spec (inp : Input) (h : inp.mr = .neighbour ∨ 2 ≤ inp.dist) (D : Nat) (hH : 1 ≤ inp.h)
    (hN : ∀ k : Nat, k < D → nanOutside (inp.planeRef k) = true) :
    ∃ out, KernelsCbcaGlue.costVolumeAggregation (emb3 inp.cv) inp.H inp.W D inp.off (embA inp.crossL) inp.h inp.w 4
        (fun s => embA (inp.crossR s.toNat)) (fun _ => inp.h) (fun s => inp.wr s.toNat) (fun _ => 4)
        (fun k => inp.disp k.toNat) inp.subpix = .ok out ∧
      ∀ y x k : Nat, y < inp.H → x < inp.W → k < D →
        specAt inp y x k (out.get y x k) = true ∧
        ((inp.cv y x k).isNan = true → (out.get y x k).isNan = true) ∧
        ((inp.cv y x k).isNan = false → (out.get y x k).isNan = false) := by
  obtain ⟨out, e, _, _, _, hc⟩ := costVolumeAggregation_generated_model inp D hH
  refine ⟨out, e, ?_⟩
  intro y x k hy hx hk
  rw [hc y x k hy hx hk]
  exact ⟨Pandora.C11.cbca_spec inp h k (hN k hk) y x, Pandora.C11.nan_stays inp y x k, Pandora.C11.no_new_nan inp y x k⟩

/-- `plane_independent` about the generated whole: two cost volumes that agree on plane `k` give outputs that agree on
    plane `k` (same images, masks, parameters) -/
theorem costVolumeAggregation_generated_plane_independent (inp : Input) (cv' : Nat → Nat → Nat → Val) (D k : Nat)
    (hH : 1 ≤ inp.h) (hk : k < D) (h : ∀ y x, cv' y x k = inp.cv y x k) :
    ∃ out out', KernelsCbcaGlue.costVolumeAggregation (emb3 inp.cv) inp.H inp.W D inp.off (embA inp.crossL) inp.h inp.w 4
        (fun s => embA (inp.crossR s.toNat)) (fun _ => inp.h) (fun s => inp.wr s.toNat) (fun _ => 4)
        (fun k => inp.disp k.toNat) inp.subpix = .ok out ∧
      KernelsCbcaGlue.costVolumeAggregation (emb3 cv') inp.H inp.W D inp.off (embA inp.crossL) inp.h inp.w 4
        (fun s => embA (inp.crossR s.toNat)) (fun _ => inp.h) (fun s => inp.wr s.toNat) (fun _ => 4)
        (fun k => inp.disp k.toNat) inp.subpix = .ok out' ∧
      ∀ y x : Nat, y < inp.H → x < inp.W → out'.get y x k = out.get y x k := by
  obtain ⟨out, e, _, _, _, hc⟩ := costVolumeAggregation_generated_model inp D hH
  obtain ⟨out', e', _, _, _, hc'⟩ := costVolumeAggregation_generated_model { inp with cv := cv' } D hH
  refine ⟨out, out', e, e', ?_⟩
  intro y x hy hx
  rw [hc y x k hy hx hk, hc' y x k hy hx hk]
  exact Pandora.C11.plane_independent inp cv' k h y x

/-- the `cmax` attribute written by `cost_volume_aggregation` is the model's `cmaxAfter` (any `cmax`, any distance) -/
theorem cmaxUpdate_generated_eq (cmax : ℚ) (dist : Nat) :
    KernelsCbcaGlue.cmaxUpdate cmax (dist : Int) = cmaxAfter cmax dist := by
  unfold KernelsCbcaGlue.cmaxUpdate cmaxAfter
  simp only [ipow]
  push_cast
  ring

example : ArmsIn exP.H exP.W exP.armsL := armsIn_of (by decide +kernel)
example : (1 : Nat) ≤ exP.H := by decide
example : KernelsCbcaGlue.iRight (-3 / 2) 2 = 1 := by decide +kernel
example : cropBox 7 9 2 = (2, 2, 3, 5) := by decide +kernel
example : KernelsCbcaGlue.rightCropBox 7 8 2 1 = (2, 2, 3, 4) := by decide +kernel

end Pandora.C11KernelsGlue
