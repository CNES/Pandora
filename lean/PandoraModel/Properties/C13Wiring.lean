/-
  C13 — two step models chained on their own arrays: matching cost (C02's `MC.costVolume`) followed by
  winner-takes-all (C03's `Wta.toDisp`, block loops included).  (The wiring itself — that `to_disp` receives the
  volume `compute_cost_volume` returned — is C08's subject; here the composed function is the composition of the two
  models.)
-/
import PandoraModel.Properties.C13Pipeline

namespace Pandora.C13
open Pandora.Locality Pandora.MC

theorem toDisp_wtaOfMc_is_step (x : MC.Input) (hx : McOK x) (ev : MC.Cell → Val) (isMax : Bool) (disps : List Rat)
    (invalid : Val) (s : Blocks.Split) (h0 : s.beginY = 0 ∧ s.beginX = 0) :
    toImg x.L.rows x.L.cols (Wta.toDisp s (wtaOfMc x ev isMax disps invalid))
      = (wtaStep isMax disps invalid ∘ fun a p => (mcRowStep (paramsOf x) (gminOf x) (nOf x) a p).map (List.map ev))
          (toImg x.L.rows x.L.cols (mcScene x)) :=
  (toDisp_is_wtaStep s h0 (wtaOfMc x ev isMax disps invalid)).trans
    (congrArg (wtaStep isMax disps invalid) (mcRowStep_ev_scene x hx ev).symm)

/-- **Matching cost then winner-takes-all: crop run = whole run.**  `x'` is the crop of the scene of `x`
    starting at `(r0, c0)` with the same configuration and the same global disparity range (a scalar
    interval). -/
theorem mc_wta_crop_eq_whole (x x' : MC.Input) (hwf : wfShape x = true) (hwf' : wfShape x' = true)
    (hz : x.meas = .zncc → ∀ k : Int, noTinyVariance x k = true)
    (hz' : x'.meas = .zncc → ∀ k : Int, noTinyVariance x' k = true)
    (hp : paramsOf x' = paramsOf x) (r0 c0 : Nat)
    (hcrop : ∀ r c, r < x'.L.rows → c < x'.L.cols → mcScene x' r c = mcScene x (r + r0) (c + c0))
    (hfit : r0 + x'.L.rows ≤ x.L.rows ∧ c0 + x'.L.cols ≤ x.L.cols)
    (hgmin : gridMin x'.dminG x'.L.rows x'.L.cols = gridMin x.dminG x.L.rows x.L.cols)
    (hgmax : gridMax x'.dmaxG x'.L.rows x'.L.cols = gridMax x.dmaxG x.L.rows x.L.cols)
    (ev : MC.Cell → Val) (isMax : Bool) (disps : List Rat) (invalid : Val)
    (s s' : Blocks.Split) (h0 : s.beginY = 0 ∧ s.beginX = 0) (h0' : s'.beginY = 0 ∧ s'.beginX = 0)
    (r c : Nat) (hr : r < x'.L.rows) (hc : c < x'.L.cols)
    (hcone : ∀ q, inCone (mcCone (paramsOf x) (gridMin x.dminG x.L.rows x.L.cols) (gridMax x.dmaxG x.L.rows x.L.cols))
        ((r : Int) + r0, (c : Int) + c0) q →
      InRect r0 c0 x'.L.rows x'.L.cols q ∨ ¬ InImage x.L.rows x.L.cols q) :
    Wta.toDisp s' (wtaOfMc x' ev isMax disps invalid) r c
      = Wta.toDisp s (wtaOfMc x ev isMax disps invalid) (r + r0) (c + c0) := by
  have hx : McOK x := ⟨hwf, hz⟩
  have h1 := toDisp_wtaOfMc_is_step x' ⟨hwf', hz'⟩ ev isMax disps invalid s' h0'
  unfold nOf gminOf gmaxOf at h1
  rw [hp, hgmin, hgmax, show x'.sp = x.sp from congrArg McParams.sp hp] at h1
  exact crop_arr_eq_whole
    (crop_run_eq_whole
      (Cone.add_zero (mcCone (paramsOf x) (gminOf x) (gmaxOf x)) ▸ Local.comp (Local.map (mcRowStep_local (paramsOf x) hx.sp_pos _ _ _
        (sample_le_gmax _ _ x.sp hx.sp_pos (C02.gridOK_of_wf x hwf))) (List.map ev)) (wtaStep_local isMax disps invalid))
      (Equivariant.comp (Equivariant.map (mcRowStep_equivariant _ _ _) (List.map ev))
        (wtaStep_equivariant isMax disps invalid)))
    (toDisp_wtaOfMc_is_step x hx ev isMax disps invalid s h0) h1 hcrop hfit r c hr hc hcone

end Pandora.C13
