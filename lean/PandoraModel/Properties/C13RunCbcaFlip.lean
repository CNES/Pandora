/-
  C13 — vertical flip of the composed run of the step models with cross-based aggregation (`fullRunCbca`,
  `C13RunCbca.lean`): instance of `runR_flip` (`C13RunFlip.lean`) with `agg := cbcaStep`, which commutes with the flip
  (`cbcaStep_vflip`, `C13CbcaFlip.lean`).
-/
import PandoraModel.Properties.C13RunCbca
import PandoraModel.Properties.C13RunFlip
import PandoraModel.Properties.C13CbcaFlip

namespace Pandora.C13

/-- **Vertical flip of the run of the models with cross-based aggregation**: the run on the pair listed bottom-up
    gives at pixel `(r, c)` the flag word and confidence cell the run on the pair gives at `(rows - 1 - r, c)`.
    Hypotheses of `run_flip`; the float reading `ev` of a cost cell keeps NaN. -/
theorem runCbca_flip (K K' : RunCfg) (G : AggCfg) (V : CrossCheck.Variant) (CP : CrossCheck.Params)
    (x xF : MC.Input) (hf : FlipRun x xF) (ok : RunOK K K' x) (okF : RunOK K K' xF)
    (hev : K.ev .nan = .nan) (hev' : K'.ev .nan = .nan)
    (out outF : Nat → Nat → CrossCheck.PixOut)
    (hout : fullRunCbca K K' G V CP x = some out) (houtF : fullRunCbca K K' G V CP xF = some outF)
    (hin : ∀ A, afterFilterR K x (aggRow K G x) = some A → LeftInInterval CP x.L.rows x.L.cols A)
    (hinF : ∀ A, afterFilterR K xF (aggRow K G xF) = some A → LeftInInterval CP xF.L.rows xF.L.cols A)
    (r c : Nat) (hr : r < x.L.rows) (hc : c < x.L.cols) :
    outF r c = out (x.L.rows - 1 - r) c := by
  have hRF := costRows_cbca_of_mc K G xF okF.mc hev
  have hRF' := costRows_cbca_of_mc K' G (swapInput xF) okF.mcR hev'
  rw [cbcaQ_congr K G hf.params hf.gmin hf.gmax] at hRF
  rw [cbcaQ_congr K' G (paramsOf_swap_congr hf.params) hf.gminR hf.gmaxR] at hRF'
  exact runR_flip K K' V CP x xF hf
    (cbcaStep_equivariant _) (cbcaStep_vflip _).toOn (cbcaStep_equivariant _) (cbcaStep_vflip _).toOn
    ⟨ok, costRows_cbca_of_mc K G x ok.mc hev, costRows_cbca_of_mc K' G (swapInput x) ok.mcR hev', hout, hin⟩
    ⟨okF, hRF, hRF', houtF, hinF⟩ r c hr hc

end Pandora.C13
