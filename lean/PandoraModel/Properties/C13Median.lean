/-
  C13 — locality of the median filter (model of C10: `Filter.medianFilterDisparity`, the block loops of
  the source included).

  Seen on partial images, `MedianFilter.filter_disparity` is a *stencil*: the new disparity of a pixel
  is a function of the (disparity, flag) pairs at the offsets `[-fs/2, fs/2]²` from the pixel — a pixel of
  the window that is outside the image makes the pixel keep its disparity (the "edge" rule of the code).
  Hence: square cone of radius `filter_size / 2`.
-/
import PandoraModel.Properties.C13Util
import PandoraModel.Properties.C10

namespace Pandora.C13
open Pandora.Locality Pandora.Filter

/-- offsets of the `w × w` window whose pixel is `before` cells after the window's first cell, in the
    row-major order of `Filter.cells` -/
def winOffs (w before : Nat) : List Px :=
  (cells w).map fun p => ((p.1 : Int) - (before : Int), (p.2 : Int) - (before : Int))

/-- the masked value of a window cell (`nan` outside the image — never read then) -/
def maskedOpt (invalidMask : Nat) : Option (Val × Nat) → Val
  | some (d, f) => maskCell invalidMask f d
  | none => .nan

/-- what the median filter does with the pixel's own (disparity, flag) and its window -/
def medianG (invalidMask : Nat) : List (Option (Val × Nat)) → Option Val
  | [] => none
  | none :: _ => none
  | some (d, f) :: win =>
    some (if (maskCell invalidMask f d).isNum then
            (if win.all Option.isSome then nanmedian (win.map (maskedOpt invalidMask)) else d)
          else d)

def medianStep (invalidMask fs : Nat) : Img (Val × Nat) → Img Val :=
  stencil ((0, 0) :: winOffs fs (fs / 2)) (medianG invalidMask)

theorem maskCell_of_isNum {invalidMask flag : Nat} {d : Val} (h : (maskCell invalidMask flag d).isNum = true) :
    maskCell invalidMask flag d = d := by
  unfold maskCell at h ⊢
  split
  · rename_i hb
    rw [if_pos hb] at h
    cases h
  · rfl

/-- the common shape of the two disparity filters: a masked cell `m` of the disparity `d` is replaced by the value of
    the kernel when it is a number and its window lies in the image (`I` in the model, `W` on partial images), and the
    pixel keeps `d` otherwise -/
theorem keep_or_filter {m d : Val} (hm : m.isNum = true → m = d) {I W : Prop} [Decidable I] [Decidable W]
    (hIW : I ↔ W) {k k' : Val} (hk : I → k = k') :
    (if m.isNum = true then (if m.isNan = true then Val.nan else if I then k else m) else d)
      = (if m.isNum = true then (if W then k' else d) else d) := by
  cases m with
  | nan => rfl
  | num v =>
    have hd : Val.num v = d := hm rfl
    by_cases hi : I
    · simp only [Val.isNum, Val.isNan, Bool.not_false, Bool.false_eq_true, if_true, if_false, if_pos hi,
        if_pos (hIW.1 hi), hk hi]
    · simp only [Val.isNum, Val.isNan, Bool.not_false, Bool.false_eq_true, if_true, if_false, if_neg hi,
        if_neg (fun h => hi (hIW.2 h)), hd]

theorem medianOffs_in (fs : Nat) : OffsIn (Cone.square (fs / 2)) ((0, 0) :: winOffs fs (fs / 2)) := by
  intro d hd
  rcases List.mem_cons.1 hd with rfl | hd
  · simp [Cone.square]; omega
  · unfold winOffs at hd
    obtain ⟨p, hp, rfl⟩ := List.mem_map.1 hd
    have := (C10.mem_cells fs p.1 p.2).1 hp
    simp only [Cone.square]
    omega

theorem medianStep_local (invalidMask fs : Nat) : Local (Cone.square (fs / 2)) (medianStep invalidMask fs) :=
  stencil_local_of_bounds _ _ _ (medianOffs_in fs)

theorem medianStep_equivariant (invalidMask fs : Nat) : Equivariant (medianStep invalidMask fs) :=
  stencil_equivariant _ _

/-- the stencil reads, for an interior pixel, exactly the cells of the code's window -/
theorem medianWindow_reads (ny nx fs : Nat) (flags : Nat → Nat → Nat) (disp : Filter.Img) (r c : Nat)
    (hi : interior (fs / 2) (fs / 2) ny nx r c = true) :
    (winOffs fs (fs / 2)).map (fun d => toImg ny nx (zipArr disp flags) ((r : Int) + d.1, (c : Int) + d.2))
      = (cells fs).map (fun p => some (disp (r - fs / 2 + p.1) (c - fs / 2 + p.2),
                                       flags (r - fs / 2 + p.1) (c - fs / 2 + p.2))) := by
  unfold winOffs
  rw [List.map_map]
  apply List.map_congr_left
  intro p hp
  have hp' := (C10.mem_cells fs p.1 p.2).1 hp
  simp only [interior, Bool.and_eq_true, decide_eq_true_eq] at hi
  simp only [Function.comp]
  have e1 : (r : Int) + ((p.1 : Int) - ((fs / 2 : Nat) : Int)) = ((r - fs / 2 + p.1 : Nat) : Int) := by omega
  have e2 : (c : Int) + ((p.2 : Int) - ((fs / 2 : Nat) : Int)) = ((c - fs / 2 + p.2 : Nat) : Int) := by omega
  rw [e1, e2, toImg_some ny nx _ _ _ (by omega) (by omega)]
  rfl

theorem medianWindow_has_none (ny nx fs : Nat) (flags : Nat → Nat → Nat) (disp : Filter.Img) (r c : Nat)
    (hi : ¬ interior (fs / 2) (fs / 2) ny nx r c = true) (hodd : fs % 2 = 1) :
    ((winOffs fs (fs / 2)).map
      (fun d => toImg ny nx (zipArr disp flags) ((r : Int) + d.1, (c : Int) + d.2))).all Option.isSome = false := by
  rw [Bool.eq_false_iff]
  intro hall
  apply hi
  rw [List.all_eq_true] at hall
  -- two opposite corners of the window are cells of the image
  have corner : ∀ a b : Nat, a < fs → b < fs →
      InImage ny nx ((r : Int) + ((a : Int) - ((fs / 2 : Nat) : Int)), (c : Int) + ((b : Int) - ((fs / 2 : Nat) : Int))) :=
    fun a b ha hb => (isSome_toImg ny nx (zipArr disp flags) _).1 (hall _ (List.mem_map.2
      ⟨((a : Int) - ((fs / 2 : Nat) : Int), (b : Int) - ((fs / 2 : Nat) : Int)),
        List.mem_map.2 ⟨(a, b), (C10.mem_cells fs a b).2 ⟨ha, hb⟩, rfl⟩, rfl⟩))
  have h0 := corner 0 0 (by omega) (by omega)
  have h1 := corner (fs - 1) (fs - 1) (by omega) (by omega)
  unfold InImage at h0 h1
  simp only [interior, Bool.and_eq_true, decide_eq_true_eq]
  simp only at h0 h1
  omega

/-- **The model of `MedianFilter.filter_disparity` is the stencil `medianStep`**, for every block split
    whose offsets start at the radius (in particular the one read from the source), every odd filter
    size and every map at least as large as the window. -/
theorem medianFilterDisparity_is_medianStep (s : Blocks.Split) (invalidMask fs ny nx : Nat)
    (flags : Nat → Nat → Nat) (disp : Filter.Img)
    (hy : s.beginY = fs / 2) (hx : s.beginX = fs / 2) (hodd : fs % 2 = 1) (hny : fs ≤ ny) (hnx : fs ≤ nx) :
    toImg ny nx (medianFilterDisparity s invalidMask fs ny nx flags disp)
      = medianStep invalidMask fs (toImg ny nx (zipArr disp flags)) := by
  apply toImg_eq_of_cells
  · intro r c hr hc
    unfold medianStep stencil
    simp only [List.map_cons, Int.add_zero]
    rw [toImg_some ny nx _ r c hr hc]
    show medianG invalidMask (some (disp r c, flags r c) :: _) = _
    simp only [medianG]
    congr 1
    symm
    unfold medianFilterDisparity
    rw [C10.medianFilter_eq_direct s fs ny nx _ hy hx hodd hny hnx]
    refine keep_or_filter maskCell_of_isNum ⟨fun hi => ?_, fun hw => ?_⟩ fun hi => ?_
    · rw [medianWindow_reads ny nx fs flags disp r c hi, List.all_map]
      exact List.all_eq_true.2 fun _ _ => rfl
    · apply Decidable.by_contra
      intro hi
      rw [medianWindow_has_none ny nx fs flags disp r c hi hodd] at hw
      cases hw
    · rw [medianWindow_reads ny nx fs flags disp r c hi, List.map_map]
      rfl
  · intro q hq
    unfold medianStep stencil
    simp only [List.map_cons, Int.add_zero]
    rw [toImg_none ny nx _ q hq]
    rfl

/-- **Median filter: crop run = whole run**, wherever the crop starts, whatever the block splits of the two runs. -/
theorem median_crop_eq_whole (s s' : Blocks.Split) (invalidMask fs ny nx r0 c0 ny' nx' : Nat)
    (flags : Nat → Nat → Nat) (disp : Filter.Img)
    (hy : s.beginY = fs / 2) (hx : s.beginX = fs / 2) (hy' : s'.beginY = fs / 2) (hx' : s'.beginX = fs / 2)
    (hodd : fs % 2 = 1) (hny : fs ≤ ny') (hnx : fs ≤ nx') (hfit : r0 + ny' ≤ ny ∧ c0 + nx' ≤ nx)
    (r c : Nat) (hr : r < ny') (hc : c < nx')
    (hcone : ∀ q, inCone (Cone.square (fs / 2)) ((r : Int) + r0, (c : Int) + c0) q →
      InRect r0 c0 ny' nx' q ∨ ¬ InImage ny nx q) :
    medianFilterDisparity s' invalidMask fs ny' nx' (cropArr r0 c0 flags) (cropArr r0 c0 disp) r c
      = medianFilterDisparity s invalidMask fs ny nx flags disp (r + r0) (c + c0) :=
  crop_arr_eq_whole (crop_run_eq_whole (medianStep_local invalidMask fs) (medianStep_equivariant invalidMask fs))
    (medianFilterDisparity_is_medianStep s invalidMask fs ny nx flags disp hy hx hodd (by omega) (by omega))
    (medianFilterDisparity_is_medianStep s' invalidMask fs ny' nx' _ _ hy' hx' hodd hny hnx)
    (fun _ _ _ _ => rfl) hfit r c hr hc hcone

/-! ### Non-vacuity: a 5×6 map, filter size 3, crop `[1,5) × [2,6)`; pixel (1,1) of the crop has its whole
    cone in the crop -/

example : (∀ q, inCone (Cone.square (3 / 2)) (((1 : Nat) : Int) + (1 : Nat), ((1 : Nat) : Int) + (2 : Nat)) q →
    InRect 1 2 4 4 q ∨ ¬ InImage 5 6 q) :=
  cone_in_crop_of_bounds (Cone.square (3 / 2)) 1 2 4 4 5 6 (((1 : Nat) : Int), ((1 : Nat) : Int)) (by decide)

end Pandora.C13
