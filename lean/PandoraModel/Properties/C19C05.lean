/-
  C19 ∘ C05 / C17 — the configuration `main` saves is accepted again by `check_conf` and completes to
  itself; the idempotence of the step checks is C05's theorem, not a hypothesis.

  `Properties/C19.lean` states the replay on the abstract configuration of `Model/Save.lean` (`SideCfg`,
  `Saved`), with the acceptance of the input section (`schemaOk`) and the idempotence of the step checks
  as hypotheses.  C05 / C17 prove, for the model of `check_conf` on Python dictionaries (`Model/Config.lean`)
  instantiated with the tables regenerated from the source, that `check_conf` is idempotent.  This file
  connects the two: `main` on dictionaries (`SaveConfig.mainSavedDict`; between `check_conf` and
  `save_config`, `pandora.run` overwrites the `indicator` of every confidence step, `SaveConfig.runIndicators`),
  an adapter from dictionaries to `Save.SideCfg` / `Save.Saved` under which C19's hypotheses are discharged,
  and the check of one step as the `chk` of `Save.checkPipeline`.
-/
import PandoraModel.Properties.C19
import PandoraModel.Properties.C05Conf
import PandoraModel.Model.SaveConfig

namespace Pandora.C19C05
open Pandora.Config Pandora.Save Pandora.SaveConfig Pandora.Generated.Schemas

/-- `check_conf` reads the keys `input` and `pipeline` of the user's dictionary and nothing else -/
theorem checkConf_reads_two_keys (files : Files) (sch : InputSchemas) (fl : MachineFlags) (reg : List KindDesc)
    (u u' : Dict) (m : CState)
    (hi : Dict.lookup u' "input" = Dict.lookup u "input")
    (hp : Dict.lookup u' "pipeline" = Dict.lookup u "pipeline") :
    checkConf files sch fl reg u' m = checkConf files sch fl reg u m := by
  unfold checkConf getConfigInput getConfigPipeline
  rw [hi, hp]

theorem mainSavedDict_lookup (facts : MainFacts) (hw : facts.writesRightDisp = false) (cfg : Dict) (margins : JVal)
    (k : String) (hk : k ≠ "margins") :
    Dict.lookup (mainSavedDict facts cfg margins) k = Dict.lookup cfg k := by
  unfold mainSavedDict
  simp only [hw, Bool.false_eq_true, if_false]
  by_cases ha : facts.addsMargins = true
  · simp only [ha, if_true]
    exact Merge.lookup_setKey_ne _ _ _ _ (Ne.symm hk)
  · simp [ha]

/-- the two facts about `main` the replay uses, as regenerated from `pandora/__init__.py` on this run:
    the derived right interval is not written into the saved configuration, the margins are -/
theorem source_main_facts :
    Pandora.Generated.mainFacts.writesRightDisp = false ∧ Pandora.Generated.mainFacts.addsMargins = true :=
  ⟨by decide, C19.source_adds_margins⟩

theorem mainSavedDict_source (I P margins : JVal) :
    mainSavedDict Pandora.Generated.mainFacts [("input", I), ("pipeline", P)] margins =
      [("input", I), ("pipeline", P), ("margins", margins)] := by
  simp [mainSavedDict, source_main_facts.1, source_main_facts.2, Dict.setKey]

theorem saved_config_is_result_plus_margins (files : Files) (fl : MachineFlags) (user kvs P : Dict) (m m' : CState)
    (out : Dict) (hin : Dict.lookup user "input" = some (.obj kvs)) (hpi : Dict.lookup user "pipeline" = some (.obj P))
    (hnd : (Dict.keys kvs).Nodup) (hfresh : C05W.FreshFor fl m) (hwf : Merge.wfDict P = true)
    (h : checkConf files inputSchemas fl registry user m = .ok (out, m')) (margins : JVal) :
    ∃ L' R' M, out = [("input", .obj [("left", .obj L'), ("right", .obj R')]), ("pipeline", .obj M)] ∧
      mainSavedDict Pandora.Generated.mainFacts out margins =
        [("input", .obj [("left", .obj L'), ("right", .obj R')]), ("pipeline", .obj M), ("margins", margins)] := by
  obtain ⟨L', R', hout, _⟩ := C05C.checkConf_ok_shape hin hpi hnd hfresh hwf h
  exact ⟨L', R', _, hout, by rw [hout, mainSavedDict_source]⟩

def noDataOfJ : JVal → NoData
  | .int i => .int i
  | .float .nan => .nan
  | _ => .other

/-- `mask` / `classif` / `segm`: `None` or a path; `none` = not representable in `Save.SideCfg` -/
def auxOfJ : JVal → Option (Option String)
  | .null => some none
  | .str s => some (some s)
  | _ => none

def dispOfJ : JVal → DispCfg
  | .null => .null
  | .str s => .path s
  | .list l =>
    match intsOfJ l with
    | some xs => .ints xs
    | none => .other
  | _ => .other

/-- one side of a completed `input` section read as `Save.SideCfg`: the six keys must be present,
    `img` a string, the auxiliary images `None` or strings -/
def sideOfDict (S : Dict) : Option SideCfg :=
  match Dict.lookup S "img", Dict.lookup S "nodata", Dict.lookup S "mask", Dict.lookup S "classif",
        Dict.lookup S "segm", Dict.lookup S "disp" with
  | some (.str img), some nd, some mk, some cl, some sg, some d =>
    match auxOfJ mk, auxOfJ cl, auxOfJ sg with
    | some mk', some cl', some sg' =>
      some { img := img, nodata := noDataOfJ nd, mask := mk', classif := cl', segm := sg', disp := dispOfJ d }
    | _, _, _ => none
  | _, _, _, _, _, _ => none

theorem sideOfDict_eq {S : Dict} {img : String} {nd mk cl sg d : JVal} {mk' cl' sg' : Option String}
    (h1 : Dict.lookup S "img" = some (.str img)) (h2 : Dict.lookup S "nodata" = some nd)
    (h3 : Dict.lookup S "mask" = some mk) (h4 : Dict.lookup S "classif" = some cl)
    (h5 : Dict.lookup S "segm" = some sg) (h6 : Dict.lookup S "disp" = some d)
    (a3 : auxOfJ mk = some mk') (a4 : auxOfJ cl = some cl') (a5 : auxOfJ sg = some sg') :
    sideOfDict S = some { img := img, nodata := noDataOfJ nd, mask := mk', classif := cl', segm := sg',
                          disp := dispOfJ d } := by
  simp [sideOfDict, h1, h2, h3, h4, h5, h6, a3, a4, a5]

theorem auxOk_aux {files : Files} {im : FileInfo} {x : Option JVal} (h : C17W.auxOk files im x = true) :
    ∃ v a, x = some v ∧ auxOfJ v = some a := by
  cases x with
  | none => simp [C17W.auxOk] at h
  | some v =>
    cases v <;> simp [C17W.auxOk] at h
    · exact ⟨_, none, rfl, rfl⟩
    · exact ⟨_, some _, rfl, rfl⟩

theorem nodataOk_adapter {v : JVal} (h : C17W.nodataOk v = true) : nodataOk (noDataOfJ v) = true := by
  cases v <;> simp [C17W.nodataOk] at h
  · rfl
  · rename_i f
    cases f <;> simp at h
    rfl

theorem sideBase_side {files : Files} {S : Dict} {im : FileInfo} {img : String} {d : JVal}
    (h : C17W.sideBaseOk files S im = true) (h1 : Dict.lookup S "img" = some (.str img))
    (h6 : Dict.lookup S "disp" = some d) :
    ∃ s, sideOfDict S = some s ∧ nodataOk s.nodata = true ∧ s.disp = dispOfJ d := by
  obtain ⟨_, hn, hm, hc, hs⟩ := C17W.sideBaseOk_iff.1 h
  obtain ⟨mk, mk', e3, a3⟩ := auxOk_aux hm
  obtain ⟨cl, cl', e4, a4⟩ := auxOk_aux hc
  obtain ⟨sg, sg', e5, a5⟩ := auxOk_aux hs
  cases hnd : Dict.lookup S "nodata" with
  | none => simp [hnd] at hn
  | some nd =>
    simp only [hnd] at hn
    exact ⟨_, sideOfDict_eq h1 hnd e3 e4 e5 h6 a3 a4 a5, nodataOk_adapter hn, rfl⟩

theorem rangeOk_adapter {items : List JVal} (h : C17W.rangeOk (.list items) = true) :
    ∃ x y, dispOfJ (.list items) = .ints [x, y] ∧ x ≤ y := by
  match items with
  | [a, b] =>
    simp only [C17W.rangeOk] at h
    cases ha : intOf? a <;> cases hb : intOf? b <;> simp [ha, hb] at h
    exact ⟨_, _, by simp [dispOfJ, intsOfJ, ha, hb], h⟩
  | [] => simp [C17W.rangeOk] at h
  | [_] => simp [C17W.rangeOk] at h
  | _ :: _ :: _ :: _ => simp [C17W.rangeOk] at h

theorem dispsOk_adapter {files : Files} {iml imr : FileInfo} {x y : Option JVal}
    (h : C17W.dispsOk files iml imr x y = true) :
    ∃ ld rd, x = some ld ∧ y = some rd ∧ dispOk (dispOfJ ld) (dispOfJ rd) = true := by
  rcases C17W.dispsOk_iff.1 h with ⟨items, rfl, rfl, hr⟩ | ⟨p, rfl, rfl, _⟩ | ⟨p, q, rfl, rfl, _⟩
  · obtain ⟨a, b, hd, hab⟩ := rangeOk_adapter hr
    exact ⟨_, _, rfl, rfl, by rw [hd]; simp [dispOk, dispOfJ, hab]⟩
  · exact ⟨_, _, rfl, rfl, by simp [dispOk, dispOfJ]⟩
  · exact ⟨_, _, rfl, rfl, by simp [dispOk, dispOfJ]⟩

/-- **C19's hypothesis `hacc`, discharged**: the two sides of an input section in one of the documented
    forms (what `checkInputSection` accepts, `C17W.checkInputSection_ok_iff`) read as two `SideCfg` that
    satisfy `Save.schemaOk` -/
theorem accepted_sides {files : Files} {L R : Dict} (h : C17W.formOk files L R = true) :
    ∃ l r, sideOfDict L = some l ∧ sideOfDict R = some r ∧ schemaOk l r = true ∧
      (∃ ld rd, Dict.lookup L "disp" = some ld ∧ Dict.lookup R "disp" = some rd ∧
        l.disp = dispOfJ ld ∧ r.disp = dispOfJ rd) := by
  obtain ⟨iml, imr, hl, hr, _, hLb, hRb, hd⟩ := C17W.formOk_iff.1 h
  obtain ⟨p, hp, _⟩ := (C17W.imgOf_some files L iml).1 hl
  obtain ⟨q, hq, _⟩ := (C17W.imgOf_some files R imr).1 hr
  obtain ⟨ld, rd, l6, r6, hdo⟩ := dispsOk_adapter hd
  obtain ⟨l, hls, ln, hld⟩ := sideBase_side hLb hp l6
  obtain ⟨r, hrs, rn, hrd⟩ := sideBase_side hRb hq r6
  refine ⟨l, r, hls, hrs, ?_, ld, rd, l6, r6, hld, hrd⟩
  simp [schemaOk, ln, rn, hld, hrd, hdo]

/-- a saved `cfg/config.json` read as `Save.Saved` (pipeline: the dictionary of steps; margins: the
    value under `margins`, if any) -/
def savedOfDict (d : Dict) : Option (Saved Dict JVal) :=
  match sideDict d "left", sideDict d "right", Dict.lookup d "pipeline" with
  | some L, some R, some (.obj M) =>
    match sideOfDict L, sideOfDict R with
    | some l, some r => some { left := l, right := r, pipeline := M, margins := Dict.lookup d "margins" }
    | _, _ => none
  | _, _, _ => none

theorem dispOfJ_derived (ld rd : JVal) : dispOfJ (derivedRightJ ld rd) = derivedRight (dispOfJ ld) (dispOfJ rd) := by
  cases rd with
  | null =>
    cases ld with
    | list l =>
      simp only [derivedRightJ, dispOfJ]
      cases hl : intsOfJ l with
      | none => simp [derivedRight]
      | some xs =>
        match xs with
        | [] => simp [derivedRight]
        | [_] => simp [derivedRight]
        | x :: y :: _ => simp [derivedRight, intsOfJ, intOf?]
    | _ => simp [derivedRightJ, dispOfJ, derivedRight]
  | list l =>
    simp only [derivedRightJ, dispOfJ]
    cases intsOfJ l <;> simp [derivedRight]
  | _ => simp [derivedRightJ, dispOfJ, derivedRight]

theorem sideOfDict_some {S : Dict} {s : SideCfg} (h : sideOfDict S = some s) :
    ∃ img nd mk cl sg d mk' cl' sg',
      Dict.lookup S "img" = some (.str img) ∧ Dict.lookup S "nodata" = some nd ∧
      Dict.lookup S "mask" = some mk ∧ Dict.lookup S "classif" = some cl ∧
      Dict.lookup S "segm" = some sg ∧ Dict.lookup S "disp" = some d ∧
      auxOfJ mk = some mk' ∧ auxOfJ cl = some cl' ∧ auxOfJ sg = some sg' ∧
      s = { img := img, nodata := noDataOfJ nd, mask := mk', classif := cl', segm := sg', disp := dispOfJ d } := by
  unfold sideOfDict at h
  split at h
  · rename_i img nd mk cl sg d h1 h2 h3 h4 h5 h6
    split at h
    · rename_i mk' cl' sg' a3 a4 a5
      simp only [Option.some.injEq] at h
      exact ⟨img, nd, mk, cl, sg, d, mk', cl', sg', h1, h2, h3, h4, h5, h6, a3, a4, a5, h.symm⟩
    · cases h
  · cases h

theorem sideOfDict_disp {S : Dict} {s : SideCfg} (h : sideOfDict S = some s) :
    ∃ d, Dict.lookup S "disp" = some d ∧ s.disp = dispOfJ d := by
  obtain ⟨_, _, _, _, _, d, _, _, _, _, _, _, _, _, hd, _, _, _, rfl⟩ := sideOfDict_some h
  exact ⟨d, hd, rfl⟩

theorem sideOfDict_setDisp (S : Dict) (v : JVal) (s : SideCfg) (hs : sideOfDict S = some s) :
    sideOfDict (Dict.setKey S "disp" v) = some { s with disp := dispOfJ v } := by
  obtain ⟨img, nd, mk, cl, sg, d, mk', cl', sg', h1, h2, h3, h4, h5, h6, a3, a4, a5, rfl⟩ := sideOfDict_some hs
  have hk : ∀ {k x}, k ≠ "disp" → Dict.lookup S k = some x → Dict.lookup (Dict.setKey S "disp" v) k = some x :=
    fun hk h => (Merge.lookup_setKey_ne _ _ _ _ (Ne.symm hk)).trans h
  have hd : Dict.lookup (Dict.setKey S "disp" v) "disp" = some v := by
    rw [Merge.lookup_setKey]; simp
  exact sideOfDict_eq (hk (by decide) h1) (hk (by decide) h2) (hk (by decide) h3) (hk (by decide) h4)
    (hk (by decide) h5) hd a3 a4 a5

/-- **the adapter commutes with `main`** (for both values of both facts): the dictionary `main` saves,
    read as `Save.Saved`, is `Save.mainSaved` of the two sides read as `SideCfg` -/
theorem savedOfDict_mainSaved (facts : MainFacts) (L' R' M : Dict) (l r : SideCfg)
    (hl : sideOfDict L' = some l) (hr : sideOfDict R' = some r) (margins : JVal) :
    savedOfDict (mainSavedDict facts
        [("input", .obj [("left", .obj L'), ("right", .obj R')]), ("pipeline", .obj M)] margins) =
      some (mainSaved facts l r M margins) := by
  obtain ⟨ld, hld, hdl⟩ := sideOfDict_disp hl
  obtain ⟨rd, hrd, hdr⟩ := sideOfDict_disp hr
  have hR := sideOfDict_setDisp R' (derivedRightJ ld rd) r hr
  have heff : ({ r with disp := dispOfJ (derivedRightJ ld rd) } : SideCfg) = effectiveRight l r := by
    simp [effectiveRight, dispOfJ_derived, hdl, hdr]
  rw [heff] at hR
  obtain ⟨w, a⟩ := facts
  cases w <;> cases a <;>
    simp [mainSavedDict, writeDerived, setRightDisp, sideDict, savedOfDict, mainSaved, Dict.lookup, Dict.setKey,
      hl, hr, hld, hrd, hR]

/-- **the check of one step of the pipeline section**, as a function `S → Option S` with
    `S = step name × step value` (the `chk` of `Save.checkPipeline`): the value is a JSON value without
    duplicate keys; with its magic strings rewritten (`update_conf`) it is a dictionary; the step name has
    a kind; `Abstract<Kind>(**step)` of the source's registry returns; the callback's own test passes.
    The result is the dictionary the class returned. -/
def stepCheck (o : Oracle) (fl : MachineFlags) (l r : ImgInfo) (s : String × JVal) : Option (String × JVal) :=
  if Merge.wfVal s.2 then
    match Machine.Kind.ofName? (Machine.kindOf s.1), Merge.deepRw s.2 with
    | some kind, .obj cfg =>
      match kindDesc? registry kind.name with
      | some kd =>
        match construct o kd l r cfg with
        | .ok out => if C05W.extraOk fl kind l r out then some (s.1, .obj out) else none
        | .error _ => none
      | none => none
    | _, _ => none
  else none

/-- the step check is `C05W.stepOut` (registry of the source) on the step with its magic strings rewritten -/
theorem stepCheck_eq (o : Oracle) (fl : MachineFlags) (l r : ImgInfo) (s : String × JVal) :
    stepCheck o fl l r s =
      if Merge.wfVal s.2 then (C05W.stepOut o fl registry l r s.1 (Merge.deepRw s.2)).map fun out => (s.1, .obj out)
      else none := by
  unfold stepCheck C05W.stepOut
  by_cases hw : Merge.wfVal s.2 = true
  · simp only [hw, if_true]
    cases Machine.Kind.ofName? (Machine.kindOf s.1) with
    | none => rfl
    | some kind =>
      cases Merge.deepRw s.2 with
      | obj cfg =>
        simp only
        cases kindDesc? registry kind.name with
        | none => rfl
        | some kd =>
          simp only
          cases construct o kd l r cfg with
          | error e => rfl
          | ok out => simp only; split <;> rfl
      | _ => rfl
  · simp [hw]

/-- **C19's hypothesis `hidem`, proved**: a step check applied to its own output returns that output
    (`C05W.stepOut_facts`: what a class of the source returns is its own output) -/
theorem stepCheck_idempotent (o : Oracle) (fl : MachineFlags) (l r : ImgInfo) :
    ∀ s s', stepCheck o fl l r s = some s' → stepCheck o fl l r s' = some s' := by
  intro s s' h
  rw [stepCheck_eq] at h
  split at h
  · rename_i hw
    obtain ⟨out, ho, rfl⟩ := Option.map_eq_some_iff.1 h
    obtain ⟨_, cfg, _, _, hv, _⟩ := C05W.stepOut_eq_some.1 ho
    obtain ⟨cfgU, hsU, rfl⟩ := Merge.deepRw_eq_obj hv
    have hwU : Merge.wfDict cfgU = true := by rw [hsU] at hw; simpa [Merge.wfVal] using hw
    rw [hv] at ho
    obtain ⟨_, hidem, hw', hf'⟩ := C05W.stepOut_facts ho (Merge.wfDict_deepRwD cfgU hwU) (Merge.deepRwD_idem cfgU)
    rw [stepCheck_eq]
    simp [Merge.wfVal, hw', hf', hidem]
  · cases h

/-- the steps of a pipeline dictionary in the form `Save.checkPipeline` takes (`S` = name × value) -/
def stepsOf (P : Dict) : List (String × (String × JVal)) := P.map (fun kv => (kv.1, kv))

theorem stepsOf_names (P : Dict) : (stepsOf P).map (·.1) = Dict.keys P := by
  simp [stepsOf, Dict.keys]

/-- on a pipeline without duplicate keys, `Save.checkPipeline stepCheck` is the map `C05W.pipelineOut` makes:
    both are `mapValsM` over the user's items, of functions that agree on values without duplicate keys -/
theorem checkPipeline_stepCheck (o : Oracle) (fl : MachineFlags) (l r : ImgInfo) (P : Dict) (hw : Merge.wfDict P = true) :
    checkPipeline (stepCheck o fl l r) (stepsOf P) =
      (mapValsM (fun n v => (C05W.stepOut o fl registry l r n v).map JVal.obj) (Merge.deepRwD P)).map stepsOf := by
  show mapValsM (fun _ s => stepCheck o fl l r s) (P.map fun kv => (kv.1, (kv.1, kv.2))) = _
  rw [mapValsM_mapVals (fun n v => (n, v)) P, Merge.deepRwD_eq_map, mapValsM_mapVals (fun _ v => Merge.deepRw v) P]
  show _ = (mapValsM _ P).map (List.map fun s => (s.1, (s.1, s.2)))
  rw [← mapValsM_map (fun n w => (n, w)) P]
  refine mapValsM_congr fun kv hkv => ?_
  rw [stepCheck_eq, if_pos (Merge.wfDict_mem hw hkv), Option.map_map]
  rfl

/-- a checked pipeline is a fix-point of `Save.checkPipeline stepCheck` -/
theorem checkedPipeline_checkPipeline {o : Oracle} {fl : MachineFlags} {l r : ImgInfo} {Q : Dict}
    (hQ : C05W.CheckedPipeline o fl l r Q) :
    checkPipeline (stepCheck o fl l r) (stepsOf Q) = some (stepsOf Q) := by
  obtain ⟨hw, hf, hfix⟩ := hQ
  obtain ⟨hpath, hmirror, _⟩ := C05W.pipelineOut_eq_some.1 hfix
  rw [checkPipeline_stepCheck o fl l r Q hw, hf, ← C05W.pipelineOut_of_path hpath hmirror, hfix]; rfl

/-- **the real pipeline section is an instance of `Save.checkPipeline`**: when `check_pipeline_section`
    (model of `Config.lean`, registry of the source) accepts the user's pipeline `P` and returns
    `{"pipeline": M}`, `Save.checkPipeline stepCheck` maps the steps of `P` to the steps of `M` -/
theorem checkPipelineSection_checkPipeline {o : Oracle} {fl : MachineFlags} {P : Dict} {l r : ImgInfo}
    {m m' : CState} {out : Dict} (hfresh : C05W.FreshFor fl m) (hwf : Merge.wfDict P = true)
    (h : checkPipelineSection o fl registry [("pipeline", .obj P)] l r m = .ok (out, m')) :
    checkPipeline (stepCheck o fl l r) (stepsOf P) = some (stepsOf m'.pipelineCfg) := by
  have hout := (C05W.checkPipelineSection_out hfresh hwf h).1
  obtain ⟨hpath, hmirror, _⟩ := C05W.pipelineOut_eq_some.1 hout
  rw [checkPipeline_stepCheck o fl l r P hwf, ← C05W.pipelineOut_of_path hpath hmirror, hout]; rfl

/-- **the saved pipeline section completes to itself** — `C19.checkPipeline_fixpoint` with its
    hypothesis discharged: the steps `check_conf` returned (which `main` saves unchanged), checked again
    one by one, are returned unchanged -/
theorem saved_pipeline_fixpoint {o : Oracle} {fl : MachineFlags} {P : Dict} {l r : ImgInfo}
    {m m' : CState} {out : Dict} (hfresh : C05W.FreshFor fl m) (hwf : Merge.wfDict P = true)
    (h : checkPipelineSection o fl registry [("pipeline", .obj P)] l r m = .ok (out, m')) :
    checkPipeline (stepCheck o fl l r) (stepsOf m'.pipelineCfg) = some (stepsOf m'.pipelineCfg) :=
  checkedPipeline_checkPipeline (C05W.checked_of_checkPipelineSection hfresh hwf h)

/-- the steps `check_conf` returned bear the user's step names, in the user's order -/
theorem saved_pipeline_names {o : Oracle} {fl : MachineFlags} {P : Dict} {l r : ImgInfo}
    {m m' : CState} {out : Dict} (hfresh : C05W.FreshFor fl m) (hwf : Merge.wfDict P = true)
    (h : checkPipelineSection o fl registry [("pipeline", .obj P)] l r m = .ok (out, m')) :
    Dict.keys m'.pipelineCfg = Dict.keys P :=
  (C05W.pipelineOut_lookup (C05W.checkPipelineSection_out hfresh hwf h).1).1.trans (Merge.keys_deepRwD P)

/-- the suffix `run` writes is `""` or starts with a dot: never one of the strings `update_conf` rewrites -/
theorem indicatorOf_fixed (n : String) : rewriteLeaf (.str (indicatorOf n)) = .str (indicatorOf n) := by
  have key : ∀ (l : List Char), (l.dropWhile (· != '.')) = [] ∨ ∃ t, (l.dropWhile (· != '.')) = '.' :: t := by
    intro l
    induction l with
    | nil => exact Or.inl rfl
    | cons c cs ih =>
      by_cases hc : c = '.'
      · subst hc; exact Or.inr ⟨cs, by simp⟩
      · have : ((c :: cs).dropWhile (· != '.')) = cs.dropWhile (· != '.') := by
          rw [List.dropWhile_cons]; simp [hc]
        rw [this]; exact ih
  have hne : ∀ (x : String), x.toList.head? = some 'N' ∨ x.toList.head? = some 'i' ∨ x.toList.head? = some '-' →
      indicatorOf n ≠ x := by
    intro x hx e
    have : (indicatorOf n).toList = n.toList.dropWhile (· != '.') := by simp [indicatorOf]
    rw [e] at this
    rcases key n.toList with h | ⟨t, h⟩ <;> rw [h] at this <;> rw [this] at hx <;> simp at hx
  exact Merge.rewriteLeaf_of_ne (fun e => hne "NaN" (Or.inl (by decide)) (JVal.str.inj e))
    (fun e => hne "inf" (Or.inr (Or.inl (by decide))) (JVal.str.inj e))
    (fun e => hne "-inf" (Or.inr (Or.inr (by decide))) (JVal.str.inj e))

/-- what the confidence classes of the source have in common, as far as `indicator` goes: a plain default,
    never NaN-rewritten, any string accepted, no guard in the class -/
def IndicatorFacts (c : ClassDesc) : Prop :=
  C05.wfActions c.actions = true ∧ C05.guardFree c.actions = true ∧ "indicator" ∈ C05.defaultKeys c.actions ∧
  "indicator" ∉ C05.nanKeys c.actions ∧ ∀ e ∈ c.schema, e.1 = "indicator" → e.2.2 = Schema.type .str

instance (c : ClassDesc) : Decidable (IndicatorFacts c) := by unfold IndicatorFacts; infer_instance

theorem generated_indicator_facts :
    (∀ c ∈ kind_cost_volume_confidence.classes, IndicatorFacts c) ∧
    kind_cost_volume_confidence.methodKey = "confidence_method" ∧
    kindDesc? registry "cost_volume_confidence" = some kind_cost_volume_confidence :=
  ⟨by decide +kernel, by decide +kernel, rfl⟩

/-- `indicator` is defaulted by the class, hence present in a dictionary its check returned unchanged -/
theorem indicator_present {o : Oracle} {c : ClassDesc} {l r : ImgInfo} {cfg : Dict}
    (hfacts : IndicatorFacts c) (h : classCheck o c l r cfg = .ok cfg) :
    Dict.lookup cfg "indicator" ≠ none := by
  obtain ⟨hwf, _, hdk, _⟩ := hfacts
  exact fun hn => (Merge.lookup_none_iff cfg _).1 hn (C05.runActions_fix_keys hwf (C05.classCheck_ok h).1 _ hdk)

/-- `AbstractCostVolumeConfidence(**cfg)` of the source: a fix-point stays one when `indicator` is overwritten by a
    string (`C05.classCheck_setKey_fix`: the confidence classes have no guard, default `indicator` plainly and accept
    any string for it) -/
theorem construct_indicator {o : Oracle} {l r : ImgInfo} {cfg : Dict} (s : String) (hnd : (Dict.keys cfg).Nodup)
    (h : construct o kind_cost_volume_confidence l r cfg = .ok cfg) :
    construct o kind_cost_volume_confidence l r (Dict.setKey cfg "indicator" (.str s)) =
      .ok (Dict.setKey cfg "indicator" (.str s)) := by
  obtain ⟨hall, hmk, _⟩ := generated_indicator_facts
  obtain ⟨m, c, hm, hf, hcc⟩ := C05W.construct_ok_iff.1 h
  have hfacts := hall c (C05W.findClass_some hf).1
  have ⟨hwf, hgf, _, hnk, hsch⟩ := hfacts
  refine C05W.construct_ok_iff.2 ⟨m, c, ?_, hf, C05.classCheck_setKey_fix "indicator" (.str s) hwf hgf hnk
    (fun e he hk => by rw [hsch e he hk]; simp [Schema.accepts_type, PyType.isInstance]) hnd
    (indicator_present hfacts hcc) hcc⟩
  rw [hmk] at hm ⊢
  rw [Merge.lookup_setKey_ne _ _ _ _ (by decide), hm]

theorem runPipeline_keys (M : Dict) : Dict.keys (runPipeline M) = Dict.keys M := by
  simp only [runPipeline, Dict.keys, List.map_map]
  apply List.map_congr_left
  intro kv _
  simp only [Function.comp, runStep]
  split
  · split <;> rfl
  · rfl

/-- a checked step stays checked when `run` overwrites the `indicator` of a confidence step by the suffix of
    the step's name -/
theorem runStep_checked {o : Oracle} {fl : MachineFlags} {l r : ImgInfo} {kv : String × JVal}
    (h : C05W.CheckedStep o fl l r kv) : C05W.CheckedStep o fl l r (runStep kv) := by
  obtain ⟨cfg, hv, ho, hcw, hcf⟩ := h
  unfold runStep
  by_cases hcvc : Machine.kindOf kv.1 = "cost_volume_confidence"
  · simp only [hcvc, if_true, hv]
    obtain ⟨kind, _, kd, hk, hv', hkd, hc, _⟩ := C05W.stepOut_eq_some.1 ho
    cases hv'
    have hkk : kind = .costVolumeConfidence := by
      rw [hcvc, show "cost_volume_confidence" = Machine.Kind.costVolumeConfidence.name from rfl,
        Machine.Kind.ofName?_name] at hk
      exact (Option.some.inj hk).symm
    subst hkk
    have hkd' : kd = kind_cost_volume_confidence :=
      (Option.some.inj (generated_indicator_facts.2.2.symm.trans hkd)).symm
    subst hkd'
    have hpres : Dict.lookup cfg "indicator" ≠ none := by
      obtain ⟨_, c, _, hfc, hcc⟩ := C05W.construct_ok_iff.1 hc
      exact indicator_present (generated_indicator_facts.1 c (C05W.findClass_some hfc).1) hcc
    obtain ⟨hw2, hf2⟩ := Merge.wf_fixed_setKey cfg "indicator" (.str (indicatorOf kv.1)) hcw hcf hpres rfl (indicatorOf_fixed kv.1)
    exact ⟨_, rfl, C05W.stepOut_eq_some.2 ⟨.costVolumeConfidence, _, kind_cost_volume_confidence, hk, rfl, hkd,
      construct_indicator (indicatorOf kv.1) (Merge.wfDict_keys_nodup cfg hcw) hc, by simp [C05W.extraOk]⟩, hw2, hf2⟩
  · simp only [hcvc, if_false]
    exact ⟨cfg, hv, ho, hcw, hcf⟩

/-- **what `run` writes keeps the pipeline checked** -/
theorem runPipeline_checked {o : Oracle} {fl : MachineFlags} {l r : ImgInfo} {M : Dict}
    (hM : C05W.CheckedPipeline o fl l r M) : C05W.CheckedPipeline o fl l r (runPipeline M) := by
  obtain ⟨hnd, hpath, hmirror, hsteps⟩ := hM.steps
  have hkeys := runPipeline_keys M
  refine C05W.checked_of_steps (by rw [hkeys]; exact hnd) (by rw [hkeys]; exact hpath) (by rw [hkeys]; exact hmirror) ?_
  intro kv hm
  obtain ⟨kv0, hkv0, rfl⟩ := List.mem_map.1 hm
  exact runStep_checked (hsteps kv0 hkv0)

theorem runPipeline_idem (M : Dict) : runPipeline (runPipeline M) = runPipeline M := by
  simp only [runPipeline, List.map_map]
  apply List.map_congr_left
  intro kv _
  simp only [Function.comp]
  unfold runStep
  by_cases hcvc : Machine.kindOf kv.1 = "cost_volume_confidence"
  · simp only [hcvc, if_true]
    cases hv : kv.2 with
    | obj step =>
      simp only [hcvc, if_true]
      congr 2
      have : Dict.lookup (Dict.setKey step "indicator" (.str (indicatorOf kv.1))) "indicator" =
          some (.str (indicatorOf kv.1)) := by rw [Merge.lookup_setKey]; simp
      exact Merge.setKey_same _ _ _ this
    | _ => simp [hcvc, hv]
  · simp [hcvc]

/-- **the pipeline section `main` really saves (indicators written by `run`) completes to itself**, step by
    step, in `Save.checkPipeline`'s terms -/
theorem saved_pipeline_fixpoint_run {o : Oracle} {fl : MachineFlags} {P : Dict} {l r : ImgInfo}
    {m m' : CState} {out : Dict} (hfresh : C05W.FreshFor fl m) (hwf : Merge.wfDict P = true)
    (h : checkPipelineSection o fl registry [("pipeline", .obj P)] l r m = .ok (out, m')) :
    checkPipeline (stepCheck o fl l r) (stepsOf (runPipeline m'.pipelineCfg)) =
      some (stepsOf (runPipeline m'.pipelineCfg)) ∧
    Dict.keys (runPipeline m'.pipelineCfg) = Dict.keys P := by
  refine ⟨checkedPipeline_checkPipeline (runPipeline_checked (C05W.checked_of_checkPipelineSection hfresh hwf h)), ?_⟩
  rw [runPipeline_keys, saved_pipeline_names hfresh hwf h]

theorem runIndicators_shape (I : JVal) (M : Dict) :
    runIndicators [("input", I), ("pipeline", .obj M)] = [("input", I), ("pipeline", .obj (runPipeline M))] := by
  simp [runIndicators, Dict.lookup, Dict.setKey]

theorem runIndicators_idem (I : JVal) (M : Dict) :
    runIndicators (runIndicators [("input", I), ("pipeline", .obj M)]) = runIndicators [("input", I), ("pipeline", .obj M)] := by
  rw [runIndicators_shape, runIndicators_shape, runPipeline_idem]

/-! #### for either value of the fact `runWritesIndicator` the translator reads off `state_machine.py` -/

theorem afterRun_shape (w : Bool) (I : JVal) (M : Dict) :
    afterRun w [("input", I), ("pipeline", .obj M)] = [("input", I), ("pipeline", .obj (afterRunPipeline w M))] := by
  cases w
  · rfl
  · simp [afterRun, afterRunPipeline, runIndicators_shape]

theorem afterRunPipeline_idem (w : Bool) (M : Dict) :
    afterRunPipeline w (afterRunPipeline w M) = afterRunPipeline w M := by
  cases w
  · rfl
  · simp [afterRunPipeline, runPipeline_idem]

theorem afterRunPipeline_keys (w : Bool) (M : Dict) : Dict.keys (afterRunPipeline w M) = Dict.keys M := by
  cases w
  · rfl
  · simp [afterRunPipeline, runPipeline_keys]

theorem afterRunPipeline_checked {o : Oracle} {fl : MachineFlags} {l r : ImgInfo} {M : Dict} (w : Bool)
    (hM : C05W.CheckedPipeline o fl l r M) : C05W.CheckedPipeline o fl l r (afterRunPipeline w M) := by
  cases w
  · exact hM
  · exact runPipeline_checked hM

/-- **the saved configuration completes to itself, whatever the translator found in `run`**: with
    `w = Generated.runWritesIndicator` this is the statement about the `main` of the source -/
theorem saved_config_replays_any (w : Bool) (files : Files) (fl : MachineFlags) (user kvs P : Dict) (m m' : CState)
    (out : Dict) (hin : Dict.lookup user "input" = some (.obj kvs)) (hpi : Dict.lookup user "pipeline" = some (.obj P))
    (hnd : C17W.NodupSection kvs) (hfresh : C05W.FreshFor fl m) (hwf : Merge.wfDict P = true)
    (h : checkConf files inputSchemas fl registry user m = .ok (out, m'))
    (facts : MainFacts) (hw : facts.writesRightDisp = false) (margins : JVal)
    (m2 : CState) (hfresh2 : C05W.FreshFor fl m2) :
    ∃ m2', checkConf files inputSchemas fl registry (mainSavedDict facts (afterRun w out) margins) m2 =
      .ok (afterRun w out, m2') := by
  obtain ⟨L', R', hout, _, hci, hcp⟩ := C05C.checkConf_ok_shape hin hpi hnd.1 hfresh hwf h
  have hchk := afterRunPipeline_checked w (C05W.checked_of_checkPipelineSection hfresh hwf hcp)
  obtain ⟨m2', hcp2⟩ := C05W.checkPipelineSection_of_checked hchk m2 hfresh2
  refine ⟨m2', ?_⟩
  rw [checkConf_reads_two_keys files inputSchemas fl registry (afterRun w out)
    (mainSavedDict facts (afterRun w out) margins) m2
    (mainSavedDict_lookup facts hw _ margins "input" (by decide))
    (mainSavedDict_lookup facts hw _ margins "pipeline" (by decide))]
  rw [hout, afterRun_shape]
  apply (C05C.checkConf_ok_iff files fl _ [("left", .obj L'), ("right", .obj R')] (afterRunPipeline w m'.pipelineCfg) m2 m2' _
    (by simp [Dict.lookup]) (by simp [Dict.lookup]) (by simp [Dict.keys])).2
  exact ⟨L', R', _, C17W.checkInputSection_idempotent hnd hci, hcp2, rfl⟩

/-- **The configuration `main` saves is accepted again and completes to the first run's result.**
    For every user configuration `check_conf` accepts (on a machine that carries no step over), the
    dictionary `main` saves — `check_conf`'s result with the machine's margins added, the derived right
    interval *not* written into it — is accepted by `check_conf` on a second (fresh) machine, and the
    result of that second check is the result of the first: same input section, same steps in the same
    order with the same parameters.  No hypothesis on the step checks; `margins` may be any value
    (`check_conf` never reads it).  This is `saved_config_replays_any` for a `run` that writes nothing. -/
theorem saved_config_replays (files : Files) (fl : MachineFlags) (user kvs P : Dict) (m m' : CState) (out : Dict)
    (hin : Dict.lookup user "input" = some (.obj kvs)) (hpi : Dict.lookup user "pipeline" = some (.obj P))
    (hnd : C17W.NodupSection kvs) (hfresh : C05W.FreshFor fl m) (hwf : Merge.wfDict P = true)
    (h : checkConf files inputSchemas fl registry user m = .ok (out, m'))
    (facts : MainFacts) (hw : facts.writesRightDisp = false) (margins : JVal)
    (m2 : CState) (hfresh2 : C05W.FreshFor fl m2) :
    ∃ m2', checkConf files inputSchemas fl registry (mainSavedDict facts out margins) m2 = .ok (out, m2') :=
  saved_config_replays_any false files fl user kvs P m m' out hin hpi hnd hfresh hwf h facts hw margins m2 hfresh2

/-- **`saved_config_replays` for the `main` of the source** and the `update_conf` / machine of the source
    (`machineFlags`): every machine is fresh (`check_conf` empties `pipeline_cfg`). -/
theorem source_saved_config_replays (files : Files) (user kvs P : Dict) (m m' : CState) (out : Dict)
    (hin : Dict.lookup user "input" = some (.obj kvs)) (hpi : Dict.lookup user "pipeline" = some (.obj P))
    (hnd : C17W.NodupSection kvs) (hwf : Merge.wfDict P = true)
    (h : checkConf files inputSchemas machineFlags registry user m = .ok (out, m'))
    (margins : JVal) (m2 : CState) :
    ∃ m2', checkConf files inputSchemas machineFlags registry
      (mainSavedDict Pandora.Generated.mainFacts out margins) m2 = .ok (out, m2') :=
  saved_config_replays files machineFlags user kvs P m m' out hin hpi hnd (C05W.FreshFor.of_reset (by decide) m) hwf h
    Pandora.Generated.mainFacts source_main_facts.1 margins m2 (C05W.FreshFor.of_reset (by decide) m2)

/-- **The configuration `main` really saves — `check_conf`'s result, the indicators `run` wrote into it, the
    margins — is accepted again and completes to itself.**  As `saved_config_replays`, for the dictionary
    `main` holds when it calls `save_config`: between `check_conf` and `save_config`, `pandora.run` has
    overwritten the `indicator` of every confidence step (`SaveConfig.runIndicators`).  The second
    `check_conf` returns that dictionary (without `margins`): same input section, same steps, same
    parameters, the indicators `run` will write again. -/
theorem saved_config_replays_run (files : Files) (fl : MachineFlags) (user kvs P : Dict) (m m' : CState) (out : Dict)
    (hin : Dict.lookup user "input" = some (.obj kvs)) (hpi : Dict.lookup user "pipeline" = some (.obj P))
    (hnd : C17W.NodupSection kvs) (hfresh : C05W.FreshFor fl m) (hwf : Merge.wfDict P = true)
    (h : checkConf files inputSchemas fl registry user m = .ok (out, m'))
    (facts : MainFacts) (hw : facts.writesRightDisp = false) (margins : JVal)
    (m2 : CState) (hfresh2 : C05W.FreshFor fl m2) :
    ∃ m2', checkConf files inputSchemas fl registry (mainSavedDict facts (runIndicators out) margins) m2 =
      .ok (runIndicators out, m2') :=
  saved_config_replays_any true files fl user kvs P m m' out hin hpi hnd hfresh hwf h facts hw margins m2 hfresh2

theorem source_saved_config_replays_run (files : Files) (user kvs P : Dict) (m m' : CState) (out : Dict)
    (hin : Dict.lookup user "input" = some (.obj kvs)) (hpi : Dict.lookup user "pipeline" = some (.obj P))
    (hnd : C17W.NodupSection kvs) (hwf : Merge.wfDict P = true)
    (h : checkConf files inputSchemas machineFlags registry user m = .ok (out, m'))
    (margins : JVal) (m2 : CState) :
    ∃ m2', checkConf files inputSchemas machineFlags registry
      (mainSavedDict Pandora.Generated.mainFacts (runIndicators out) margins) m2 = .ok (runIndicators out, m2') :=
  saved_config_replays_run files machineFlags user kvs P m m' out hin hpi hnd (C05W.FreshFor.of_reset (by decide) m) hwf h
    Pandora.Generated.mainFacts source_main_facts.1 margins m2 (C05W.FreshFor.of_reset (by decide) m2)

/-- the saved configuration of the source: `main` as regenerated (`mainFacts`), `run` as regenerated
    (`runWritesIndicator`), `update_conf` and machine of the source (`machineFlags`) -/
theorem source_saved_config_replays_any (files : Files) (user kvs P : Dict) (m m' : CState) (out : Dict)
    (hin : Dict.lookup user "input" = some (.obj kvs)) (hpi : Dict.lookup user "pipeline" = some (.obj P))
    (hnd : C17W.NodupSection kvs) (hwf : Merge.wfDict P = true)
    (h : checkConf files inputSchemas machineFlags registry user m = .ok (out, m'))
    (margins : JVal) (m2 : CState) :
    ∃ m2', checkConf files inputSchemas machineFlags registry
      (mainSavedDict Pandora.Generated.mainFacts (afterRun Pandora.Generated.runWritesIndicator out) margins) m2 =
        .ok (afterRun Pandora.Generated.runWritesIndicator out, m2') :=
  saved_config_replays_any _ files machineFlags user kvs P m m' out hin hpi hnd (C05W.FreshFor.of_reset (by decide) m) hwf h
    Pandora.Generated.mainFacts source_main_facts.1 margins m2 (C05W.FreshFor.of_reset (by decide) m2)

/-- the `run` of the source writes the indicators: for it `afterRun` is `runIndicators` -/
theorem source_run_writes_indicator : Pandora.Generated.runWritesIndicator = true := by decide

/-- without a confidence step nothing is written by `run`: the saved pipeline is `check_conf`'s -/
theorem runPipeline_id_of_no_confidence (M : Dict)
    (h : ∀ kv ∈ M, Machine.kindOf kv.1 ≠ "cost_volume_confidence") : runPipeline M = M := by
  unfold runPipeline
  conv => rhs; rw [← List.map_id M]
  apply List.map_congr_left
  intro kv hkv
  simp [runStep, h kv hkv]

/-- the dictionary `main` saves after an accepted run, read through the adapter: `Save.mainSaved` of the two
    completed sides (which satisfy `Save.schemaOk`) and the pipeline with the indicators `run` wrote -/
theorem savedOfDict_of_checkConf {files : Files} {fl : MachineFlags} {user kvs P : Dict} {m m' : CState} {out : Dict}
    (hin : Dict.lookup user "input" = some (.obj kvs)) (hpi : Dict.lookup user "pipeline" = some (.obj P))
    (hnd : (Dict.keys kvs).Nodup) (hfresh : C05W.FreshFor fl m) (hwf : Merge.wfDict P = true)
    (h : checkConf files inputSchemas fl registry user m = .ok (out, m')) (margins : JVal) :
    ∃ L' R' l r, out = [("input", .obj [("left", .obj L'), ("right", .obj R')]), ("pipeline", .obj m'.pipelineCfg)] ∧
      sideOfDict L' = some l ∧ sideOfDict R' = some r ∧ schemaOk l r = true ∧
      savedOfDict (mainSavedDict Pandora.Generated.mainFacts (runIndicators out) margins) =
        some (mainSaved Pandora.Generated.mainFacts l r (runPipeline m'.pipelineCfg) margins) := by
  obtain ⟨L', R', hout, hform, _⟩ := C05C.checkConf_ok_shape hin hpi hnd hfresh hwf h
  obtain ⟨l, r, hl, hr, hacc, _⟩ := accepted_sides hform
  refine ⟨L', R', l, r, hout, hl, hr, hacc, ?_⟩
  rw [hout, runIndicators_shape]
  exact savedOfDict_mainSaved _ L' R' _ l r hl hr margins

/-- **C19's replay specification, hypothesis-free for the source**: for every configuration `check_conf`
    accepts, the dictionary `main` saves (indicators written by `run`, margins added) reads — through the
    adapter — as `Save.mainSaved` of two sides `l`, `r` and the rewritten pipeline, and all clauses of
    `Save.specRefeed` hold of it: accepted when fed back, completes to itself, the second run hands
    `create_dataset_from_inputs` the same sections, the margins are recorded.  `hacc` of `C19.refeed_spec`
    is discharged by C17's acceptance theorem, `hm` / `hw` by the generated `mainFacts`. -/
theorem source_refeed_spec_of_checkConf (files : Files) (fl : MachineFlags) (user kvs P : Dict) (m m' : CState)
    (out : Dict) (hin : Dict.lookup user "input" = some (.obj kvs)) (hpi : Dict.lookup user "pipeline" = some (.obj P))
    (hnd : (Dict.keys kvs).Nodup) (hfresh : C05W.FreshFor fl m) (hwf : Merge.wfDict P = true)
    (h : checkConf files inputSchemas fl registry user m = .ok (out, m')) (margins : JVal) :
    ∃ l r M, savedOfDict (mainSavedDict Pandora.Generated.mainFacts (runIndicators out) margins) =
        some (mainSaved Pandora.Generated.mainFacts l r (runPipeline M) margins) ∧
      Dict.lookup out "pipeline" = some (.obj M) ∧
      schemaOk l r = true ∧
      (specRefeed l r (mainSaved Pandora.Generated.mainFacts l r (runPipeline M) margins)).all (·.2) = true := by
  obtain ⟨L', R', l, r, hout, _, _, hacc, hsaved⟩ := savedOfDict_of_checkConf hin hpi hnd hfresh hwf h margins
  exact ⟨l, r, _, hsaved, by rw [hout]; simp [Dict.lookup], hacc,
    C19.source_refeed_spec l r _ margins hacc⟩

/-- **the two models of feeding the saved file back agree**: C19's abstract `refeedInput` on the adapter's
    reading of the saved dictionary accepts and returns the adapter's reading of the input section the
    dictionary model `checkConf` returns for that same saved dictionary -/
theorem refeed_models_agree (files : Files) (fl : MachineFlags) (user kvs P : Dict) (m m' : CState)
    (out : Dict) (hin : Dict.lookup user "input" = some (.obj kvs)) (hpi : Dict.lookup user "pipeline" = some (.obj P))
    (hnd : C17W.NodupSection kvs) (hfresh : C05W.FreshFor fl m) (hwf : Merge.wfDict P = true)
    (h : checkConf files inputSchemas fl registry user m = .ok (out, m')) (margins : JVal)
    (m2 : CState) (hfresh2 : C05W.FreshFor fl m2) :
    ∃ s out2 m2' L2 R2,
      savedOfDict (mainSavedDict Pandora.Generated.mainFacts (runIndicators out) margins) = some s ∧
      checkConf files inputSchemas fl registry
        (mainSavedDict Pandora.Generated.mainFacts (runIndicators out) margins) m2 = .ok (out2, m2') ∧
      sideDict out2 "left" = some L2 ∧ sideDict out2 "right" = some R2 ∧
      refeedInput s = (sideOfDict L2).bind (fun l2 => (sideOfDict R2).map (fun r2 => (l2, r2))) ∧
      (refeedInput s).isSome = true := by
  obtain ⟨m2', h2⟩ := saved_config_replays_run files fl user kvs P m m' out hin hpi hnd hfresh hwf h
    Pandora.Generated.mainFacts source_main_facts.1 margins m2 hfresh2
  obtain ⟨L', R', l, r, hout, hl, hr, hacc, hsaved⟩ := savedOfDict_of_checkConf hin hpi hnd.1 hfresh hwf h margins
  refine ⟨_, runIndicators out, m2', L', R', hsaved, h2, ?_, ?_, ?_, ?_⟩
  · rw [hout, runIndicators_shape]; simp [sideDict, Dict.lookup]
  · rw [hout, runIndicators_shape]; simp [sideDict, Dict.lookup]
  · simp [refeedInput, mainSaved, source_main_facts.1, C19.checkInput_asUser, hacc, hl, hr]
  · simp [refeedInput, mainSaved, source_main_facts.1, C19.checkInput_asUser, hacc]

/-- a user configuration with a `"NaN"` to rewrite, defaults to add on both sides and in every step, an
    integer interval (from which `main` derives the right one) and a validation step (two checking rounds) -/
def exUser : Dict :=
  [("input", .obj [("left", .obj [("img", .str "l.tif"), ("disp", .list [.int (-3), .int 2]), ("nodata", .str "NaN")]),
                   ("right", .obj [("img", .str "r.tif")])]),
   ("pipeline", .obj C05W.userPipeline),
   ("comment", .str "not read by check_conf")]

def exOut : Dict :=
  [("input", .obj [
     ("left", .obj [("nodata", .float .nan), ("mask", .null), ("classif", .null), ("segm", .null),
                    ("img", .str "l.tif"), ("disp", .list [.int (-3), .int 2])]),
     ("right", .obj [("nodata", .int (-9999)), ("mask", .null), ("classif", .null), ("segm", .null),
                     ("disp", .null), ("img", .str "r.tif")])]),
   ("pipeline", .obj [
     ("matching_cost", .obj [("matching_cost_method", .str "zncc"), ("window_size", .int 7),
       ("subpix", .int 1), ("band", .null), ("step", .int 1)]),
     ("disparity", .obj [("invalid_disparity", .float .nan), ("disparity_method", .str "wta")]),
     ("filter", .obj [("filter_method", .str "median"), ("filter_size", .int 3)]),
     ("validation", .obj [("validation_method", .str "cross_checking_accurate"),
       ("cross_checking_threshold", .float (.num 1))])])]

def resultOf : Except Err (Dict × CState) → Option Dict
  | .ok (cfg, _) => some cfg
  | .error _ => none

/-- the hypotheses of `source_saved_config_replays` are satisfiable by a non-trivial input, and its
    conclusion is seen on it: the first run completes `exUser` to `exOut`; the file `main` saves is `exOut`
    plus margins; fed back it is accepted and completes to `exOut` -/
example :
    resultOf (checkConf C17.fs inputSchemas machineFlags registry exUser {}) = some exOut ∧
    Merge.wfDict C05W.userPipeline = true ∧
    mainSavedDict Pandora.Generated.mainFacts exOut (.str "margins") = exOut ++ [("margins", .str "margins")] ∧
    resultOf (checkConf C17.fs inputSchemas machineFlags registry
      (mainSavedDict Pandora.Generated.mainFacts exOut (.str "margins")) {}) = some exOut := by
  decide +kernel

example : C17W.NodupSection [("left", .obj [("img", .str "l.tif"), ("disp", .list [.int (-3), .int 2]), ("nodata", .str "NaN")]),
                            ("right", .obj [("img", .str "r.tif")])] :=
  C17W.nodupSection_of_B (by decide +kernel)

/-- the adapter on the concrete run: the saved dictionary reads as `Save.mainSaved` of the two sides, and
    C19's abstract refeed accepts it; with a `main` that writes the derived interval into the configuration
    (`writesRightDisp := true`) the dictionary model refuses the saved file, as C19's `refeed_rejected_when_written` says of the abstract one -/
example :
    (savedOfDict (mainSavedDict Pandora.Generated.mainFacts exOut .null)).map (fun s => (s.left, s.right)) =
      some ({ img := "l.tif", nodata := .nan, mask := none, classif := none, segm := none, disp := .ints [-3, 2] },
            { img := "r.tif", nodata := .int (-9999), mask := none, classif := none, segm := none, disp := .null }) ∧
    ((savedOfDict (mainSavedDict Pandora.Generated.mainFacts exOut .null)).bind refeedInput).isSome = true ∧
    ((savedOfDict (mainSavedDict { writesRightDisp := true, addsMargins := true } exOut .null)).map
      (fun s => s.right.disp)) = some (.ints [-2, 3]) ∧
    ((savedOfDict (mainSavedDict { writesRightDisp := true, addsMargins := true } exOut .null)).bind refeedInput) = none ∧
    resultOf (checkConf C17.fs inputSchemas machineFlags registry
      (mainSavedDict { writesRightDisp := true, addsMargins := true } exOut .null) {}) = none := by
  decide +kernel

/-- a suffixed confidence step: `check_conf` completes it with the placeholder `indicator: ""`, `run` writes
    `".amb"` into the dictionary `main` saves, and the saved dictionary completes to itself — not to the first
    `check_conf` result (`saved_config_replays_run`; cf. the real `pandora.main`, DESIGN_NOTES/C19.md) -/
example :
    let user : Dict :=
      [("input", .obj [("left", .obj [("img", .str "l.tif"), ("disp", .list [.int (-3), .int 2])]),
                       ("right", .obj [("img", .str "r.tif")])]),
       ("pipeline", .obj [("matching_cost", .obj [("matching_cost_method", .str "census")]),
                          ("cost_volume_confidence.amb", .obj [("confidence_method", .str "ambiguity")]),
                          ("disparity", .obj [("disparity_method", .str "wta")])])]
    let indicatorIn (d : Option Dict) : Option JVal :=
      d.bind fun d => (Dict.lookup d "pipeline").bind fun p =>
        match p with
        | .obj M => (Dict.lookup M "cost_volume_confidence.amb").bind fun st =>
            match st with | .obj c => Dict.lookup c "indicator" | _ => none
        | _ => none
    let first := resultOf (checkConf C17.fs inputSchemas machineFlags registry user {})
    let saved := first.map fun out => mainSavedDict Pandora.Generated.mainFacts (runIndicators out) .null
    indicatorIn first = some (.str "") ∧ indicatorIn saved = some (.str ".amb") ∧
    (saved.bind fun s => resultOf (checkConf C17.fs inputSchemas machineFlags registry s {})) = first.map runIndicators ∧
    first.map runIndicators ≠ first := by
  decide +kernel

/-- `stepCheck` on the concrete steps: the user's filter step completes, the completed step is a fix-point -/
example :
    stepCheck noOracle machineFlags C05.monoL C05.monoR ("filter", .obj [("filter_method", .str "median")]) =
      some ("filter", .obj [("filter_method", .str "median"), ("filter_size", .int 3)]) ∧
    stepCheck noOracle machineFlags C05.monoL C05.monoR
      ("filter", .obj [("filter_method", .str "median"), ("filter_size", .int 3)]) =
      some ("filter", .obj [("filter_method", .str "median"), ("filter_size", .int 3)]) ∧
    stepCheck noOracle machineFlags C05.monoL C05.monoR ("filter", .obj [("filter_method", .str "median"),
      ("filter_size", .int 4)]) = none := by
  decide +kernel

end Pandora.C19C05
