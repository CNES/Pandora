/-
  C13 — locality of the sub-pixel refinement (model of C06: `Refinement.loopRefinement`).

  `loop_refinement` is two `prange` loops whose body reads and writes the pixel's own cells: seen on
  partial images the step is *pointwise* (empty cone) in the pixel's cost row, disparity and flag.
  The only non-local ingredient of the model is its error channel (the first pixel that raises makes the
  whole run raise): the theorems are therefore about runs that return.
-/
import PandoraModel.Model.PipelineRun
import PandoraModel.Properties.C13Util
import PandoraModel.Lemmas.MapRes
import PandoraModel.Lemmas.Grid

namespace Pandora.C13
open Pandora.Locality Pandora.Refinement

def Res.toOption {α : Type} : Res α → Option α
  | .ok y => some y
  | .err _ => none

/-- **The refinement step on partial images**: pixel by pixel (a pixel on which the body raises has no
    output). -/
def refineStep (P : Params) : Img PixIn → Img PixOut :=
  fun a p => (a p).bind fun x => Res.toOption (refinePixel P x)

theorem refineStep_local (P : Params) : Local Cone.zero (refineStep P) :=
  pointwise_local fun o => o.bind fun x => Res.toOption (refinePixel P x)

theorem refineStep_equivariant (P : Params) : Equivariant (refineStep P) := by
  intro t a
  rfl

/-- **When the run returns**: exactly when the loop body returns on every pixel. -/
theorem loopRefinement_ok_iff (P : Params) (g : List (List PixIn)) :
    (∃ o, loopRefinement P g = .ok o) ↔ ∀ row ∈ g, ∀ x ∈ row, ∃ y, refinePixel P x = .ok y := by
  unfold loopRefinement
  rw [mapRes_isOk_iff]
  exact forall₂_congr fun row _ => mapRes_isOk_iff _ row

/-- **The model of `loop_refinement`, when it returns, is the pointwise step `refineStep`.** -/
theorem loopRefinement_is_refineStep (P : Params) (g : List (List PixIn)) (o : List (List PixOut))
    (h : loopRefinement P g = .ok o) : gridImg o = refineStep P (gridImg g) := by
  funext p
  unfold gridImg refineStep
  by_cases hp : 0 ≤ p.1 ∧ 0 ≤ p.2
  · -- row by row, then cell by cell, `mapRes` returns what the body returns
    simp only [if_pos hp]
    cases hg : g[p.1.toNat]? with
    | none => rw [mapRes_getElem?_none h hg]; rfl
    | some row =>
      obtain ⟨orow, ho, hrow⟩ := mapRes_getElem?_some h hg
      rw [ho, Option.bind_some, Option.bind_some]
      cases hx : row[p.2.toNat]? with
      | none => rw [mapRes_getElem?_none hrow hx]; rfl
      | some x =>
        obtain ⟨y, hy, hxy⟩ := mapRes_getElem?_some hrow hx
        rw [hy, Option.bind_some, hxy]
        rfl
  · simp only [if_neg hp]
    rfl

theorem loopRefinement_tabulate (P : Params) (rows cols : Nat) (g : Nat → Nat → PixIn) (o : List (List PixOut))
    (h : loopRefinement P (Blocks.tabulate rows cols g) = .ok o) (r c : Nat) (hr : r < rows) (hc : c < cols) :
    ∃ y, refinePixel P (g r c) = .ok y ∧ gridImg o ((r : Int), (c : Int)) = some y := by
  obtain ⟨orow, ho, hrow⟩ := mapRes_getElem?_some h
    (show (Blocks.tabulate rows cols g)[r]? = some ((List.range cols).map (g r)) by
      rw [Blocks.getElem?_tabulate, if_pos hr])
  obtain ⟨y, hy, hxy⟩ := mapRes_getElem?_some hrow
    (show ((List.range cols).map (g r))[c]? = some (g r c) by
      rw [List.getElem?_map, List.getElem?_range hc, Option.map_some])
  refine ⟨y, hxy, ?_⟩
  unfold gridImg
  rw [if_pos ⟨Int.natCast_nonneg r, Int.natCast_nonneg c⟩, Int.toNat_natCast, Int.toNat_natCast, ho, Option.bind_some, hy]

/-- **Refinement on a crop = on the whole map**: if both runs return, the pixel at `(i, j)` of any
    sub-grid `g'` whose cell `(i, j)` is the cell `(i + r0, j + c0)` of `g` gets the same coefficient,
    disparity and flag — whatever else the two grids contain. -/
theorem refine_crop_eq_whole (P : Params) (g g' : List (List PixIn)) (o o' : List (List PixOut))
    (h : loopRefinement P g = .ok o) (h' : loopRefinement P g' = .ok o') (i j r0 c0 : Nat)
    (hcell : (g'[i]?).bind (fun row => row[j]?) = (g[i + r0]?).bind (fun row => row[j + c0]?)) :
    (o'[i]?).bind (fun row => row[j]?) = (o[i + r0]?).bind (fun row => row[j + c0]?) := by
  have e := congrFun (loopRefinement_is_refineStep P g o h) (((i + r0 : Nat) : Int), ((j + c0 : Nat) : Int))
  have e' := congrFun (loopRefinement_is_refineStep P g' o' h') ((i : Int), (j : Int))
  unfold gridImg refineStep at e e'
  simp only [Int.natCast_nonneg, and_self, if_true, Int.toNat_natCast] at e e'
  rw [e, e', hcell]

/-! ### Non-vacuity: a 1×2 grid on which the run returns (one invalid pixel, one pixel at the end of the
    interval) -/

def exP : Params := { method := .vfit, isMax := false, subpix := 1, dmin := -1, dmax := 1 }
def exGrid : List (List PixIn) :=
  [[{ costs := [.num 3, .num 1, .num 2], d := .num 0, flag := 1, pmin := -1, pmax := 1 },
    { costs := [.num 3, .num 1, .num 2], d := .num 1, flag := 0, pmin := -1, pmax := 1 }]]

def Res.isOk {α : Type} : Res α → Bool
  | .ok _ => true
  | .err _ => false

example : Res.isOk (loopRefinement exP exGrid) = true := by decide +kernel

end Pandora.C13
