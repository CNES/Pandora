/-
  C16 — the dataset construction of pandora/img_tools.py (`add_mask`, `add_no_data`, `add_disparity`, the nodata
  detection and the pipe wiring at the end of `create_dataset_from_inputs`), regenerated from the source
  (`Generated/KernelsDataset.lean`, written by `translator/gen_kernels_dataset.py`), equals the hand model
  `Model/Dataset.lean` at the parameters `Params.fixed` (`input_mask != 0`) — for every raster, band count,
  mask (ANY integer values: the raw raster is compared, whatever its width), nodata value (finite, NaN, ±inf), window.

  Dtype casts are explicit in the generated text (`PyArr.wrapInt`): the three constants stored into the int16 `msk`
  (0, 1, 2) are unchanged by the wrap (`decide`); a cast of the INPUT mask before the `!= 0` test would need
  `wrapInt 16 true v ≠ 0 ↔ v ≠ 0`, which is false (65536) — see `wrap_loses_the_mask`.
-/
import PandoraModel.Properties.C16
import PandoraModel.Generated.KernelsDataset

namespace Pandora.C16KernelsDataset
open Pandora.Dataset Pandora.PyArr Pandora.Generated.KernelsDataset

/-- the detection chain of `create_dataset_from_inputs` is the model's `detect`, sample by sample -/
theorem noDataPixels_eq (nodata : FVal) (im : Nat → Nat → Nat → FVal) (b r c : Nat) :
    noDataPixels nodata im b r c = detect nodata (im b r c) := by
  unfold noDataPixels detect
  split
  · rfl
  · split <;> rfl

theorem anyIdx3_eq (nb rows cols : Nat) (m : Nat → Nat → Nat → Bool) :
    anyIdx3 nb rows cols m = anyRC rows cols (fun r c => anyB nb fun b => m b r c) := rfl

theorem pix2_eq (nb : Nat) (m : Nat → Nat → Nat → Bool) (r c : Nat) : pix2 nb m r c = anyB nb (fun b => m b r c) := rfl

theorem wrap16_consts : wrapInt 16 true 0 = 0 ∧ wrapInt 16 true 1 = 1 ∧ wrapInt 16 true (0 + 1 + 1) = 2 := by decide

/-- why the input mask must not be cast before it is tested: 65536 is a non-zero mask value that int16 reads as 0 -/
theorem wrap_loses_the_mask : (65536 : Int) ≠ 0 ∧ wrapInt 16 true 65536 = 0 := by decide

section Read
variable (inp : Input) (ro co rows cols : Nat)

/-- what `img_ds.read(out_dtype=float32, window=window)` hands to the tail -/
def windowed : Nat → Nat → Nat → FVal := fun b r c => inp.im b (r + ro) (c + co)

/-- what `rasterio_open(mask).read(1, window=window)` returns when there is a mask -/
def windowedMask : Option (Nat → Nat → Int) := inp.mask.map fun mf => fun r c => mf (r + ro) (c + co)

theorem windowed_eq_crop : windowed inp ro co = (cropInput inp ro co rows cols).im := rfl
theorem windowedMask_eq_crop : windowedMask inp ro co = (cropInput inp ro co rows cols).mask := rfl

@[simp] theorem windowed_apply (b r c : Nat) : windowed inp ro co b r c = inp.im b (r + ro) (c + co) := rfl

/-- **`add_no_data` (+ the detection) regenerated = model**: image samples and `no_data_img` -/
theorem addNoData_generated :
    (datasetTail inp.nbands rows cols inp.nodata (windowed inp ro co) (windowedMask inp ro co)).1
        = (readDS Params.fixed inp ro co rows cols).im
    ∧ (datasetTail inp.nbands rows cols inp.nodata (windowed inp ro co) (windowedMask inp ro co)).2.1
        = (readDS Params.fixed inp ro co rows cols).noDataImg := by
  unfold datasetTail addNoData readDS
  simp only [anyIdx3_eq, noDataPixels_eq, windowed_apply, Params.fixed]
  split <;> exact ⟨funext fun b => funext fun r => funext fun c => by simp [*], rfl⟩

/-- **`add_mask` regenerated = model**: presence and every cell of `msk`, for any integer mask values -/
theorem addMask_generated :
    (datasetTail inp.nbands rows cols inp.nodata (windowed inp ro co) (windowedMask inp ro co)).2.2
        = (readDS Params.fixed inp ro co rows cols).msk := by
  unfold datasetTail addMask readDS
  simp only [anyIdx3_eq, noDataPixels_eq, windowed_apply, windowedMask]
  have hp : Generated.imgToolsParams.validPixels = 0 ∧ Generated.imgToolsParams.noDataMask = 1 := by decide
  obtain ⟨w0, w1, w2⟩ := wrap16_consts
  cases hm : inp.mask with
  | none =>
    simp only [Option.map_none, Option.isNone_none, Bool.true_and]
    split
    · rfl
    · congr 1
      funext r c
      simp [mskValue, hp.1, hp.2, w0, w1, pix2_eq, noDataPixels_eq, Params.fixed, windowed_apply]
  | some mf =>
    simp only [Option.map_some, Option.isNone_some, Bool.false_and, Bool.false_eq_true, if_false]
    congr 1
    funext r c
    simp only [mskValue, maskTest, Params.invalidValue, Params.fixed, hp.1, hp.2, w0, w1, w2, pix2_eq, noDataPixels_eq,
      windowed_apply]
    by_cases hh : anyB inp.nbands (fun b => detect inp.nodata (inp.im b (r + ro) (c + co))) = true
    · simp [hh]
    · by_cases hv : mf (r + ro) (c + co) = 0 <;> simp [hh, hv]

/-- **`add_disparity` regenerated = model** -/
theorem addDisparity_generated :
    addDisparity inp.disp ro co = (readDS Params.fixed inp ro co rows cols).disp := by
  unfold addDisparity readDS
  cases inp.disp <;> rfl

/-- the dataset assembled from the regenerated functions (the fields they do not produce taken from the model) -/
def generatedDS : DS :=
  { readDS Params.fixed inp ro co rows cols with
    im := (datasetTail inp.nbands rows cols inp.nodata (windowed inp ro co) (windowedMask inp ro co)).1
    noDataImg := (datasetTail inp.nbands rows cols inp.nodata (windowed inp ro co) (windowedMask inp ro co)).2.1
    msk := (datasetTail inp.nbands rows cols inp.nodata (windowed inp ro co) (windowedMask inp ro co)).2.2
    disp := addDisparity inp.disp ro co }

theorem generatedDS_eq : generatedDS inp ro co rows cols = readDS Params.fixed inp ro co rows cols := by
  unfold generatedDS
  rw [(addNoData_generated inp ro co rows cols).1, (addNoData_generated inp ro co rows cols).2,
    addMask_generated inp ro co rows cols, addDisparity_generated inp ro co rows cols]

/-- **C16 for the regenerated functions** (any window): `nan_inf_replaced`, `nodata_iff_equal`,
    `invalid_iff_mask_nonzero`, `valid_otherwise`, `no_mask_when_nothing`, `disparity_var` (and the other clauses of a
    read) hold of the dataset built by the generated `add_no_data`, `add_mask`, `add_disparity` — no hypothesis on the
    mask values. -/
theorem generated_read_spec :
    specRead (cropInput inp ro co rows cols) ro co (generatedDS inp ro co rows cols) = true := by
  rw [generatedDS_eq]
  exact C16.read_spec_window rfl rfl

end Read

/-- the clauses of a read that the three regenerated functions are responsible for are clauses of `specRead` -/
example : ["nan_inf_replaced", "nodata_iff_equal", "invalid_iff_mask_nonzero", "valid_otherwise", "no_mask_when_nothing",
    "disparity_var"].all (fun n => clauseNames.contains n) = true := by decide

end Pandora.C16KernelsDataset
