/-
  C09, second half — pipeline-level composition.

  "In a single-scale run every valid pixel's final disparity lies within the requested global interval whatever
  refinement, filtering or occlusion/mismatch filling followed, and within its own per-pixel interval right after
  the disparity and refinement steps."

  The steps are the models of C06 (refinement), C10 (filters), C07 (cross-checking), C14 (filling) and the
  winner-takes-all of C09, composed in `Model/PipelineBound.lean` over one map representation (`Interp.DMap`).
  The preservation lemmas live in `Lemmas/Pipe*.lean`; each is derived from the theorem that carries the step's own
  property, no step algorithm is re-proved.  A step that leaves in every valid pixel a number between two valid
  disparities of the map it received keeps any constant bounds (`BoundedValid.of_bdd`): filters, cross-checking and
  filling are of that kind; refinement is not, it keeps every valid pixel inside the pixel's own interval provided
  the map it receives is still on the sample grid.
-/
import PandoraModel.Lemmas.PipeFilter
import PandoraModel.Lemmas.PipeValidation
import PandoraModel.Lemmas.PipeWta

namespace Pandora.C09P
open Pandora.Pipeline

/-- what every step of the tail keeps: valid pixels carry a number of `[lo, hi]`, and no flag word has both
    bit 8 and bit 9 (needed by the filling step, established by the cross-checking) -/
def Inv (lo hi : Rat) (m : DMap) : Prop := BoundedValid lo hi m ∧ OneFlag m

theorem runStep_dims (s : Step) (m m' : DMap) (h : runStep s m = some m') : m'.rows = m.rows ∧ m'.cols = m.cols := by
  cases s with
  | refine D => exact refineStep_dims h
  | median s fs => cases h; exact ⟨rfl, rfl⟩
  | bilateral s wts w => cases h; exact ⟨rfl, rfl⟩
  | validation V P other fill => cases h; exact validationStep_dims V P other fill m
  | multiscale => cases h; exact ⟨rfl, rfl⟩

/-- **Every step preserves the invariant** (refinement: from the hypothesis on the map it receives). -/
theorem runStep_inv (lo hi : Rat) (s : Step) (m m' : DMap) (hp : s.paramsOK m) (he : s.entryOK lo hi m)
    (hi' : Inv lo hi m) (h : runStep s m = some m') : Inv lo hi m' := by
  obtain ⟨hb, ho⟩ := hi'
  cases s with
  | refine D =>
    obtain ⟨hready, hlo, hhi⟩ := he
    refine ⟨?_, refineStep_oneFlag hready h ho⟩
    exact BoundedBy.mono (refineStep_bounded_global hready h) (fun _ _ _ _ => hlo) (fun _ _ _ _ => hhi)
  | median s fs => cases h; exact ⟨medianStep_bounded s fs lo hi m hp hb, ho⟩
  | bilateral s wts w => cases h; exact ⟨bilateralStep_bounded s wts w lo hi m hp hb, ho⟩
  | validation V P other fill => cases h; exact validationStep_inv V P other fill lo hi m hp hb ho
  | multiscale => cases h; exact ⟨hb, ho⟩

/-- **Composition.**  Along every legal tail the invariant is kept. -/
theorem runSteps_inv (lo hi : Rat) : ∀ (steps : List Step) (m m' : DMap), Legal lo hi steps m → Inv lo hi m →
    runSteps steps m = some m' → Inv lo hi m' := by
  intro steps
  induction steps with
  | nil =>
    intro m m' _ hinv h
    simp only [runSteps, Option.some.injEq] at h
    subst h; exact hinv
  | cons s ss ih =>
    intro m m' hl hinv h
    obtain ⟨hp, he, hnext⟩ := hl
    simp only [runSteps] at h
    cases hs : runStep s m with
    | none => rw [hs] at h; cases h
    | some m1 =>
      rw [hs] at h
      exact ih m1 m' (hnext m1 hs) (runStep_inv lo hi s m m1 hp he hinv hs) h

/--
  **C09, final disparity — partial.**  Whatever tail of refinement, median / bilateral filter, validation
  (cross-checking, optional mc-cnn / sgm filling) and (last-scale) multiscale steps follows the disparity step — any
  order, any length —, if the map the disparity step left has every valid pixel in `[lo, hi]`, then so has the final
  map, **provided** every step has sound parameters and every refinement step receives a map that is still on the
  sample grid of its cost volume with every valid pixel inside its own interval (`Legal`: `refineReadyB`, evaluated
  on the real intermediate maps by the check).

  Full-strength statement (false of the code: `filter_then_refine_counterexample`, finding C09-F3, which is C06-F5 at pipeline level): the same for
  every tail with sound parameters, without the hypothesis on the maps entering refinement.
-/
theorem final_in_global_interval_partial (lo hi : Rat) (steps : List Step) (m m' : DMap)
    (hlegal : Legal lo hi steps m) (hb : BoundedValid lo hi m) (ho : OneFlag m) (hrun : runSteps steps m = some m') :
    BoundedValid lo hi m' :=
  (runSteps_inv lo hi steps m m' hlegal ⟨hb, ho⟩ hrun).1

theorem paramsOK_congr (s : Step) (m m' : DMap) (hr : m'.rows = m.rows) (hc : m'.cols = m.cols) (h : s.paramsOK m) :
    s.paramsOK m' := by
  cases s with
  | refine D => trivial
  | median s fs => simp only [Step.paramsOK] at h ⊢; rw [hr, hc]; exact h
  | bilateral s wts w => simp only [Step.paramsOK] at h ⊢; rw [hr, hc]; exact h
  | validation V P other fill =>
    simp only [Step.paramsOK, otherShapeOK] at h ⊢; rw [hr]; exact h
  | multiscale => trivial

/-- a tail without refinement is legal as soon as the parameters of its steps are sound for the size of the map -/
theorem legal_of_noRefine (lo hi : Rat) : ∀ (steps : List Step) (m : DMap),
    (∀ s ∈ steps, s.isRefine = false ∧ s.paramsOK m) → Legal lo hi steps m := by
  intro steps
  induction steps with
  | nil => intro m _; trivial
  | cons s ss ih =>
    intro m hall
    obtain ⟨hnr, hp⟩ := hall s (List.mem_cons_self ..)
    refine ⟨hp, ?_, ?_⟩
    · cases s with
      | refine D => simp [Step.isRefine] at hnr
      | _ => trivial
    · intro m1 hs
      obtain ⟨hr, hc⟩ := runStep_dims s m m1 hs
      apply ih
      intro s' hs'
      obtain ⟨hnr', hp'⟩ := hall s' (List.mem_cons_of_mem _ hs')
      exact ⟨hnr', paramsOK_congr s' m m1 hr hc hp'⟩

/-- refinement right after the disparity step, then any tail without refinement -/
theorem legal_refine_first (lo hi : Rat) (D : RefineData) (tail : List Step) (m : DMap)
    (hready : refineReadyB D m = true) (hlo : lo ≤ D.P.dmin) (hhi : D.P.dmax ≤ hi)
    (htail : ∀ s ∈ tail, s.isRefine = false ∧ s.paramsOK m) : Legal lo hi (.refine D :: tail) m := by
  refine ⟨trivial, ⟨hready, hlo, hhi⟩, ?_⟩
  intro m1 hs
  obtain ⟨hr, hc⟩ := runStep_dims _ m m1 hs
  apply legal_of_noRefine
  intro s hs'
  obtain ⟨hnr, hp⟩ := htail s hs'
  exact ⟨hnr, paramsOK_congr s m m1 hr hc hp⟩

section Run
variable (x : MC.Input) (better : MC.Cell → MC.Cell → Bool) (flags : Nat → Nat → Nat) (invalid : Val)

/-- lower end of the requested global interval (as a rational, the type of the disparities) -/
def gminQ : Rat := ((MC.gridMin x.dminG x.L.rows x.L.cols : Int) : Rat)
def gmaxQ : Rat := ((MC.gridMax x.dmaxG x.L.rows x.L.cols : Int) : Rat)

/-- **Right after the disparity step**: every valid pixel lies in its own interval (`wtaMap_in_pixel_interval` of
    `Lemmas/PipeWta.lean`, under the name of the claim). -/
theorem after_disparity_in_pixel_interval (hsp : 0 < x.sp) (hflags : FlagsCoverAllNan x better flags) :
    BoundedBy (fun r c => ((x.dminG (r : Int) (c : Int) : Int) : Rat)) (fun r c => ((x.dmaxG (r : Int) (c : Int) : Int) : Rat))
      (wtaMap x better flags invalid) :=
  wtaMap_in_pixel_interval invalid hsp hflags

/-- **Right after (disparity; refinement)**: every valid pixel lies in its own interval — for both methods, both
    kinds of measure, any reading `val` of the cost cells as floats that keeps NaN; when the step returns
    (`quadratic` raises on three equal costs, C06-F2). -/
theorem after_refinement_in_pixel_interval (val : MC.Cell → Val) (method : Refinement.Method) (isMax : Bool)
    (variant : Refinement.Variant) (m' : DMap)
    (hsp : 0 < x.sp) (hg : MC.gridMin x.dminG x.L.rows x.L.cols ≤ MC.gridMax x.dmaxG x.L.rows x.L.cols)
    (hval : val .nan = .nan) (hflags : FlagsCoverAllNan x better flags)
    (hbit3 : ∀ r c, r < x.L.rows → c < x.L.cols → variant.fixOr = true ∨ Refinement.bitAt (flags r c) 3 = 0)
    (hrun : refineStep (refineDataOf x val method isMax variant) (wtaMap x better flags invalid) = some m') :
    BoundedBy (fun r c => ((x.dminG (r : Int) (c : Int) : Int) : Rat)) (fun r c => ((x.dmaxG (r : Int) (c : Int) : Int) : Rat)) m' :=
  refineStep_bounded (D := refineDataOf x val method isMax variant)
    (wtaMap_refineReady invalid val method isMax variant hsp hg hval hflags hbit3) hrun

/--
  **C09, final disparity of a single-scale run — partial.**  `matching_cost … disparity` (the C02 cost volume and the
  C09 winner-takes-all), then any legal tail: every valid pixel of the final map lies in the requested global
  interval `[gmin, gmax]`.  `Legal` is the proviso of `final_in_global_interval_partial`.
-/
theorem single_scale_final_in_global_partial (steps : List Step) (m' : DMap)
    (hsp : 0 < x.sp) (hflags : FlagsCoverAllNan x better flags)
    (hone : OneFlag (wtaMap x better flags invalid))
    (hlegal : Legal (gminQ x) (gmaxQ x) steps (wtaMap x better flags invalid))
    (hrun : runSteps steps (wtaMap x better flags invalid) = some m') :
    BoundedValid (gminQ x) (gmaxQ x) m' :=
  final_in_global_interval_partial _ _ steps _ m' hlegal
    (wtaMap_in_global_interval invalid hsp hflags) hone hrun

/--
  **The same with hypotheses on the inputs only**: refinement (either method) right after the disparity step, then
  filters and validations in any order and number: no proviso on intermediate maps.
-/
theorem single_scale_refine_first (val : MC.Cell → Val) (method : Refinement.Method) (isMax : Bool)
    (variant : Refinement.Variant) (tail : List Step) (m' : DMap)
    (hsp : 0 < x.sp) (hg : MC.gridMin x.dminG x.L.rows x.L.cols ≤ MC.gridMax x.dmaxG x.L.rows x.L.cols)
    (hval : val .nan = .nan) (hflags : FlagsCoverAllNan x better flags)
    (hbit3 : ∀ r c, r < x.L.rows → c < x.L.cols → variant.fixOr = true ∨ Refinement.bitAt (flags r c) 3 = 0)
    (hone : OneFlag (wtaMap x better flags invalid))
    (htail : ∀ s ∈ tail, s.isRefine = false ∧ s.paramsOK (wtaMap x better flags invalid))
    (hrun : runSteps (.refine (refineDataOf x val method isMax variant) :: tail) (wtaMap x better flags invalid) = some m') :
    BoundedValid (gminQ x) (gmaxQ x) m' := by
  apply single_scale_final_in_global_partial x better flags invalid _ m' hsp hflags hone _ hrun
  exact legal_refine_first _ _ _ tail _
    (wtaMap_refineReady invalid val method isMax variant hsp hg hval hflags hbit3)
    (le_refl _) (le_refl _) htail

/-- **… and without refinement**: filters and validations in any order and number, hypotheses on the inputs only. -/
theorem single_scale_no_refinement (tail : List Step) (m' : DMap)
    (hsp : 0 < x.sp) (hflags : FlagsCoverAllNan x better flags)
    (hone : OneFlag (wtaMap x better flags invalid))
    (htail : ∀ s ∈ tail, s.isRefine = false ∧ s.paramsOK (wtaMap x better flags invalid))
    (hrun : runSteps tail (wtaMap x better flags invalid) = some m') :
    BoundedValid (gminQ x) (gmaxQ x) m' :=
  single_scale_final_in_global_partial x better flags invalid tail m' hsp hflags hone
    (legal_of_noRefine _ _ tail _ htail) hrun

end Run

theorem Step.kind_documented (s : Step) : Machine.documented .dispMap s.kind = some .dispMap := by
  cases s <;> rfl

/-- every tail is accepted by the documented machine from `disp_map` -/
theorem tail_accepted : ∀ steps : List Step, acceptedFrom .dispMap (steps.map Step.kind) = true := by
  intro steps
  induction steps with
  | nil => rfl
  | cons s ss ih =>
    rw [List.map_cons, acceptedFrom, Step.kind_documented]
    exact ih

/-- conversely every kind the machine accepts in `disp_map` is the kind of a step, and leads back to `disp_map` -/
theorem tail_complete (k : Machine.Kind) (st : Machine.St) (h : Machine.documented .dispMap k = some st) :
    st = .dispMap ∧ (k = .filter ∨ k = .refinement ∨ k = .validation ∨ k = .multiscale) := by
  cases k with
  | filter => cases h; exact ⟨rfl, Or.inl rfl⟩
  | refinement => cases h; exact ⟨rfl, Or.inr (Or.inl rfl)⟩
  | validation => cases h; exact ⟨rfl, Or.inr (Or.inr (Or.inl rfl))⟩
  | multiscale => cases h; exact ⟨rfl, Or.inr (Or.inr (Or.inr rfl))⟩
  | _ => cases h

/-- the filling kernels read from the source (`Generated/Interp.lean`, regenerated on every run) are the guarded `|=`
    ones the validation step asks for -/
theorem source_fill_ok : C14.sourceVariant.guard = true ∧ C14.sourceVariant.op = .or :=
  ⟨C14.source_guarded, by decide⟩

theorem source_fill_paramsOK (meth : Interp.Method) (f : Fill) (hf : some (Fill.mk C14.sourceVariant meth) = some f) :
    f.variant.guard = true ∧ f.variant.op = .or :=
  Option.some.inj hf ▸ source_fill_ok

namespace Counterexample

/-- 3 × 3 valid pixels carrying samples of `[-1, 1]` (step 1/2): 1 everywhere, 1/2 in the centre -/
def m0 : DMap :=
  { rows := 3, cols := 3, disp := fun r c => if r = 1 ∧ c = 1 then .num (1 / 2) else .num 1, flag := fun _ _ => 0 }

/-- `vfit`, dissimilarity measure, subpix 2, cost volume over `[-1, 1]`, the cost row of C06's
    `offgrid_past_end_counterexample` at every pixel, every pixel interval = the global one; `v`: which text of the
    refinement step is modelled (`{}`: without the repairs of C06; `repaired`: with the three of them) -/
def D (v : Refinement.Variant) : RefineData :=
  { P := { variant := v, method := .vfit, isMax := false, subpix := 2, dmin := -1, dmax := 1 },
    costs := fun _ _ => [.num 9, .num 9, .num 5, .num 1, .num 1], pmin := fun _ _ => -1, pmax := fun _ _ => 1 }

def repaired : Refinement.Variant := { fixFlat := true, fixOr := true, fixEnds := true }

def W : Filter.Weights := { spatial := fun _ _ => 1, range := fun _ => 1 }

def steps (v : Refinement.Variant) : List Step := [.bilateral (Generated.Blocks.bilateral 3) W 3, .refine (D v)]

theorem weightsOK : WeightsOK W 3 := ⟨fun _ _ => zero_le_one, fun _ => zero_le_one, mul_pos one_pos one_pos⟩

theorem evaluation (v : Refinement.Variant) (hv : v = {} ∨ v = repaired) :
    (runSteps (steps v) m0).map (fun m' => (m'.rows, m'.cols, m'.flag 1 1, m'.disp 1 1)) = some (3, 3, 0, .num (43 / 36))
    ∧ refineReadyB (D v) m0 = true
    ∧ refineReadyB (D v) (bilateralStep (Generated.Blocks.bilateral 3) W 3 m0) = false := by
  rcases hv with rfl | rfl <;> decide +kernel

/--
  **The full-strength composition statement is false** (finding C09-F3: C06-F5 at pipeline level), of the refinement step
  without and with the three repairs of C06.  The tail `filter; refinement` is accepted by the machine, the
  parameters of both steps are sound, the map the disparity step left is on the sample grid, ready for refinement and
  inside `[-1, 1]`; the filter keeps it inside `[-1, 1]` (centre: 17/18) but off the grid, so that the map entering
  refinement is not `refineReadyB`; refinement then moves the centre pixel — still flagged valid — to
  43/36 > 1 = `dmax`.
-/
theorem filter_then_refine_counterexample (v : Refinement.Variant) (hv : v = {} ∨ v = repaired) :
    acceptedFrom .dispMap ((steps v).map Step.kind) = true
    ∧ (∀ s ∈ steps v, s.paramsOK m0)
    ∧ BoundedValid (-1) 1 m0 ∧ OneFlag m0 ∧ refineReadyB (D v) m0 = true
    ∧ refineReadyB (D v) (bilateralStep (Generated.Blocks.bilateral 3) W 3 m0) = false
    ∧ ∃ m', runSteps (steps v) m0 = some m' ∧ Flags.isInvalid (m'.flag 1 1) = false ∧ m'.disp 1 1 = .num (43 / 36)
        ∧ ¬ BoundedValid (-1) 1 m' := by
  obtain ⟨hrun, hready, hnot⟩ := evaluation v hv
  refine ⟨tail_accepted _, ?_,
    (boundedValidB_iff _ _ _).1 (by decide +kernel), (oneFlag_iff _).1 (by decide +kernel), hready, hnot, ?_⟩
  · intro s hs
    simp only [steps, List.mem_cons, List.not_mem_nil, or_false] at hs
    rcases hs with rfl | rfl
    · exact ⟨rfl, rfl, by decide, by decide, by decide, weightsOK⟩
    · trivial
  · cases hm : runSteps (steps v) m0 with
    | none => rw [hm] at hrun; cases hrun
    | some m' =>
      rw [hm] at hrun
      simp only [Option.map_some, Option.some.injEq, Prod.mk.injEq] at hrun
      obtain ⟨hrows, hcols, hflag, hdisp⟩ := hrun
      refine ⟨m', rfl, by rw [hflag]; decide, hdisp, ?_⟩
      intro hb
      obtain ⟨q, hq, -, hle⟩ := hb 1 1 (by omega) (by omega) (by rw [hflag]; decide)
      rw [hdisp] at hq
      cases hq
      norm_num at hle

end Counterexample

namespace Example

def P : Refinement.Params := { method := .vfit, isMax := false, subpix := 2, dmin := -1, dmax := 1 }

/-- 3 × 4 map as winner-takes-all leaves it: samples of `[-1, 1]` at step 1/2; pixel (0,3) invalid (bit 6) with NaN;
    pixel (1,0) carries information bit 2; pixel (2,0) has the narrower interval `[0, 1]` -/
def m0 : DMap :=
  { rows := 3, cols := 4,
    disp := fun r c =>
      if r = 0 ∧ c = 3 then .nan else if r = 2 ∧ c = 0 then .num (1 / 2)
      else if (r + c) % 3 = 0 then .num 0 else if (r + c) % 3 = 1 then .num (-1 / 2) else .num (1 / 2),
    flag := fun r c => if r = 0 ∧ c = 3 then 64 else if r = 1 ∧ c = 0 then 4 else 0 }

def D : RefineData :=
  { P := P,
    costs := fun r c =>
      if r = 2 ∧ c = 0 then [.nan, .nan, .num 6, .num 2, .num 3]
      else if (r + c) % 3 = 0 then [.num 7, .num 4, .num 1, .num 2, .num 5]
      else if (r + c) % 3 = 1 then [.num 5, .num 1, .num 3, .num 6, .num 8]
      else [.num 9, .num 7, .num 4, .num 2, .num 3],
    pmin := fun r c => if r = 2 ∧ c = 0 then 0 else -1,
    pmax := fun _ _ => 1 }

def W : Filter.Weights :=
  { spatial := fun a b => if a = 1 ∧ b = 1 then 2 else 1, range := fun d => if d = 0 then 1 else 1 / 2 }

theorem weightsOK : WeightsOK W 3 := by
  refine ⟨fun a b => ?_, fun d => ?_, ?_⟩
  · simp only [W]; split <;> norm_num
  · simp only [W]; split <;> norm_num
  · simp [W]

def other : Grid Val :=
  [[.num 0, .num 1, .num 0, .num 0], [.num (1 / 2), .num 0, .num (-1 / 2), .num 2], [.num 0, .num 0, .nan, .num 0]]

def cc : CrossCheck.Params := { threshold := 1, dmin := -1, dmax := 1, offset := 0 }

def tail : List Step :=
  [.median (Generated.Blocks.median 3) 3,
   .validation .asIs cc other (some ⟨C14.sourceVariant, .mccnn⟩),
   .bilateral (Generated.Blocks.bilateral 3) W 3,
   .validation .asIs cc other (some ⟨C14.sourceVariant, .sgm⟩),
   .multiscale]

theorem tail_ok : ∀ s ∈ tail, s.isRefine = false ∧ s.paramsOK m0 := by
  intro s hs
  simp only [tail, List.mem_cons, List.not_mem_nil, or_false] at hs
  rcases hs with rfl | rfl | rfl | rfl | rfl
  · exact ⟨rfl, rfl, rfl, by decide, by decide, by decide⟩
  · exact ⟨rfl, by decide, source_fill_paramsOK _⟩
  · exact ⟨rfl, rfl, rfl, by decide, by decide, by decide, weightsOK⟩
  · exact ⟨rfl, by decide, source_fill_paramsOK _⟩
  · exact ⟨rfl, trivial⟩

/-- the hypotheses of `final_in_global_interval_partial` hold of this input -/
theorem legal : Legal (-1) 1 (.refine D :: tail) m0 :=
  legal_refine_first (-1) 1 D tail m0 (by decide +kernel) (le_refl _) (le_refl _) tail_ok

theorem m0_bounded : BoundedValid (-1) 1 m0 := (boundedValidB_iff _ _ _).1 (by decide +kernel)
theorem m0_oneFlag : OneFlag m0 := (oneFlag_iff _).1 (by decide +kernel)

example : BoundedValid (-1) 1 m0 := m0_bounded
example : OneFlag m0 := m0_oneFlag

/-- the run returns, pixels are refined off the grid (1/6), occlusions are raised and filled (flag 16) -/
example : (runSteps (.refine D :: tail) m0).map (fun m' => (m'.disp 0 0, m'.flag 1 3, m'.disp 1 3, m'.disp 1 1))
    = some (.num (1 / 6), 16, .num (5 / 8), .num (41 / 256)) := by decide +kernel

example : ∀ m', runSteps (.refine D :: tail) m0 = some m' → BoundedValid (-1) 1 m' := fun m' h =>
  final_in_global_interval_partial (-1) 1 _ m0 m' legal m0_bounded m0_oneFlag h

/-! a whole run: matching cost (sad, window 1, subpix 2, per-pixel grids, one nodata pixel), winner-takes-all,
    refinement, median filter, validation with filling -/

def noMask : MC.Mask := { present := false, code := fun _ _ => 0, valid := 0, nodata := 1 }
def lMask : MC.Mask := { present := true, code := fun r c => if r = 1 ∧ c = 2 then 1 else 0, valid := 0, nodata := 1 }

def x : MC.Input where
  meas := .sad
  w := 1
  sp := 2
  L := { rows := 3, cols := 4, px := fun r c => ((3 * c + r * r : Int) : Rat) }
  R := { rows := 3, cols := 4, px := fun r c => ((3 * c + r * r + 2 : Int) : Rat) }
  mL := lMask
  mR := noMask
  dminG := fun _ c => if c = 0 then 0 else -1
  dmaxG := fun _ _ => 1

/-- the flag words of the matching-cost step: nodata pixel (bit 0), incomplete range in the last column (bit 2) -/
def flags : Nat → Nat → Nat := fun r c => if r = 1 ∧ c = 2 then 1 else if c = 3 then 4 else 0

def valOf : MC.Cell → Val
  | .num q => .num q
  | _ => .nan

def runTail : List Step :=
  [.median (Generated.Blocks.median 3) 3, .validation .asIs cc other (some ⟨C14.sourceVariant, .sgm⟩)]

theorem gmin_eq : MC.gridMin x.dminG x.L.rows x.L.cols = -1 := by decide +kernel
theorem gmax_eq : MC.gridMax x.dmaxG x.L.rows x.L.cols = 1 := by decide +kernel

example : ∀ m', runSteps (.refine (refineDataOf x valOf .vfit false {}) :: runTail) (wtaMap x IntervalWta.numLt flags .nan) = some m' →
    BoundedValid (gminQ x) (gmaxQ x) m' := fun m' h =>
  single_scale_refine_first x IntervalWta.numLt flags .nan valOf .vfit false {} runTail m' (by decide)
    (by rw [gmin_eq, gmax_eq]; decide) rfl (flagsCover_of_B _ _ _ (by decide +kernel))
    (fun r c _ _ => Or.inr (by simp only [flags]; split <;> [rfl; (split <;> rfl)]))
    ((oneFlag_iff _).1 (by decide +kernel))
    (by
      intro s hs
      simp only [runTail, List.mem_cons, List.not_mem_nil, or_false] at hs
      rcases hs with rfl | rfl
      · exact ⟨rfl, rfl, rfl, by decide, by decide, by decide⟩
      · exact ⟨rfl, by decide, source_fill_paramsOK _⟩)
    h

/-- the run returns; the winner of pixel (0,1) (sample -1/2) is refined to -2/3; the nodata pixel stays invalid -/
example : (runSteps (.refine (refineDataOf x valOf .vfit false {}) :: runTail) (wtaMap x IntervalWta.numLt flags .nan)).map
    (fun m' => (m'.disp 0 1, m'.flag 1 2)) = some (.num (-2 / 3), 1) := by decide +kernel

end Example

end Pandora.C09P
