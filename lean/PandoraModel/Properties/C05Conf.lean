/-
  C05 / C17 — `check_conf` as a whole: the input section (`Properties/C17Whole.lean`) followed by the
  pipeline section (`Properties/C05Whole.lean`) on the metadata of the two images the input section
  names, the two results concatenated (other top-level keys of the user's dictionary are dropped).
-/
import PandoraModel.Properties.C05Whole
import PandoraModel.Properties.C17Whole

namespace Pandora.C05C
open Pandora.Config Pandora.Generated.Schemas

/-- whatever `check_pipeline_section` returns has the one key `pipeline`, holding a dictionary -/
theorem checkPipelineSection_shape {o : Oracle} {fl : MachineFlags} {reg : List KindDesc} {user : Dict} {l r : ImgInfo} {m m' : CState} {out : Dict}
    (h : checkPipelineSection o fl reg user l r m = .ok (out, m')) : ∃ M, out = [("pipeline", .obj M)] := by
  unfold checkPipelineSection at h
  split at h
  · cases h
  · split at h
    · split at h
      · cases h
      · split at h
        · cases h
        · split at h
          · cases h; exact ⟨_, rfl⟩
          · cases h
    · cases h

/-- **`check_conf` = input section, then pipeline section on the images it names, concatenated** -/
theorem checkConf_ok_iff (files : Files) (fl : MachineFlags) (user kvs P : Dict) (m m' : CState) (out : Dict)
    (hin : Dict.lookup user "input" = some (.obj kvs)) (hpi : Dict.lookup user "pipeline" = some (.obj P))
    (hnd : (Dict.keys kvs).Nodup) :
    checkConf files inputSchemas fl registry user m = .ok (out, m') ↔
      ∃ L' R' M,
        checkInputSection files fl inputSchemas [("input", .obj kvs)] =
          .ok [("input", .obj [("left", .obj L'), ("right", .obj R')])] ∧
        checkPipelineSection (fileOracle files) fl registry [("pipeline", .obj P)]
          (metadata files (.obj L')) (metadata files (.obj R')) m = .ok ([("pipeline", .obj M)], m') ∧
        out = [("input", .obj [("left", .obj L'), ("right", .obj R')]), ("pipeline", .obj M)] := by
  unfold checkConf
  have hgi : getConfigInput user = [("input", .obj kvs)] := by simp [getConfigInput, hin]
  have hgp : getConfigPipeline user = [("pipeline", .obj P)] := by simp [getConfigPipeline, hpi]
  rw [hgi, hgp]
  have hlr : ("left" : String) = "right" ↔ False := by decide
  have hip : ("input" : String) = "pipeline" ↔ False := by decide
  constructor
  · intro h
    cases hci : checkInputSection files fl inputSchemas [("input", .obj kvs)] with
    | error e => simp [hci] at h
    | ok cfgInput =>
      obtain ⟨L, R, L', R', _, _, _, _, _, _, hout⟩ := (C17W.checkInputSection_ok_iff files fl kvs cfgInput hnd).1 hci
      subst hout
      simp only [hci, Dict.lookup, if_true, Option.getD_some, subscript, hlr, if_false] at h
      cases hcp : checkPipelineSection (fileOracle files) fl registry [("pipeline", .obj P)]
          (metadata files (.obj L')) (metadata files (.obj R')) m with
      | error e => simp [hcp] at h
      | ok res =>
        obtain ⟨cfgPipe, m1⟩ := res
        obtain ⟨M, rfl⟩ := checkPipelineSection_shape hcp
        simp only [hcp, List.foldl_cons, List.foldl_nil, Dict.setKey, Except.ok.injEq, Prod.mk.injEq, hip, if_false] at h
        obtain ⟨h1, h2⟩ := h
        subst h2
        exact ⟨L', R', M, rfl, hcp, h1.symm⟩
  · intro ⟨L', R', M, hci, hcp, hout⟩
    simp only [hci, Dict.lookup, if_true, Option.getD_some, subscript, hlr, hip, if_false, hcp, List.foldl_cons,
      List.foldl_nil, Dict.setKey, hout]

/-- **`check_conf` is idempotent**: the configuration it returns, checked again on a machine that
    does not carry steps over, is returned unchanged -/
theorem checkConf_idempotent (files : Files) (fl : MachineFlags) (user kvs P : Dict) (m m' : CState) (out : Dict)
    (hin : Dict.lookup user "input" = some (.obj kvs)) (hpi : Dict.lookup user "pipeline" = some (.obj P))
    (hnd : C17W.NodupSection kvs) (hfresh : C05W.FreshFor fl m) (hwf : Merge.wfDict P = true)
    (h : checkConf files inputSchemas fl registry user m = .ok (out, m'))
    (m2 : CState) (hfresh2 : C05W.FreshFor fl m2) :
    ∃ m2', checkConf files inputSchemas fl registry out m2 = .ok (out, m2') := by
  obtain ⟨L', R', M, hci, hcp, hout⟩ := (checkConf_ok_iff files fl user kvs P m m' out hin hpi hnd.1).1 h
  have hci2 := C17W.checkInputSection_idempotent hnd hci
  obtain ⟨m2', hcp2⟩ := C05W.checkPipelineSection_idempotent hfresh hwf hcp m2 hfresh2
  refine ⟨m2', ?_⟩
  apply (checkConf_ok_iff files fl out [("left", .obj L'), ("right", .obj R')] M m2 m2' out
    (by rw [hout]; simp [Dict.lookup]) (by rw [hout]; simp [Dict.lookup]) (by simp [Dict.keys])).2
  exact ⟨L', R', M, hci2, hcp2, hout⟩

/-- **an accepted run, taken apart**: `check_conf`'s result is `{"input": {"left", "right"}, "pipeline"}` with the
    two completed sides (in one of the documented forms) and the pipeline the machine holds -/
theorem checkConf_ok_shape {files : Files} {fl : MachineFlags} {user kvs P : Dict} {m m' : CState} {out : Dict}
    (hin : Dict.lookup user "input" = some (.obj kvs)) (hpi : Dict.lookup user "pipeline" = some (.obj P))
    (hnd : (Dict.keys kvs).Nodup) (hfresh : C05W.FreshFor fl m) (hwf : Merge.wfDict P = true)
    (h : checkConf files inputSchemas fl registry user m = .ok (out, m')) :
    ∃ L' R', out = [("input", .obj [("left", .obj L'), ("right", .obj R')]), ("pipeline", .obj m'.pipelineCfg)] ∧
      C17W.formOk files L' R' = true ∧
      checkInputSection files fl inputSchemas [("input", .obj kvs)] =
        .ok [("input", .obj [("left", .obj L'), ("right", .obj R')])] ∧
      checkPipelineSection (fileOracle files) fl registry [("pipeline", .obj P)]
        (metadata files (.obj L')) (metadata files (.obj R')) m = .ok ([("pipeline", .obj m'.pipelineCfg)], m') := by
  obtain ⟨L', R', M, hci, hcp, hout⟩ := (checkConf_ok_iff files fl user kvs P m m' out hin hpi hnd).1 h
  obtain ⟨_, _, L2, R2, _, _, _, _, _, hform, hshape⟩ := (C17W.checkInputSection_ok_iff files fl kvs _ hnd).1 hci
  simp only [List.cons.injEq, Prod.mk.injEq, JVal.obj.injEq, true_and, and_true] at hshape
  obtain ⟨rfl, rfl⟩ := hshape
  have hM : M = m'.pipelineCfg := by simpa using (C05W.checkPipelineSection_out hfresh hwf hcp).2
  subst hM
  exact ⟨L', R', hout, hform, hci, hcp⟩

end Pandora.C05C
