/-
  C13 — Results are local: a pixel depends on its neighbourhood, not on its position.

  The calculus, for every step, image, crop and offset: locality (cones add under composition, join under pairing),
  translation equivariance, stencils (local with any cone containing their offsets), and crop = whole for a local step
  on any crop containing the clipped cone of the pixel, wherever the crop starts.
-/
import PandoraModel.Model.Locality

namespace Pandora.C13
open Pandora.Locality

def Cone.le (R S : Cone) : Prop := R.up ≤ S.up ∧ R.down ≤ S.down ∧ R.left ≤ S.left ∧ R.right ≤ S.right

/-! A bound on the cone of a composed step is derived from bounds on the cones of its parts with the lemmas of this order
    (`add` monotone, `sup` least upper bound), never by unfolding the cones. -/

theorem Cone.le_refl (R : Cone) : Cone.le R R := ⟨Nat.le_refl _, Nat.le_refl _, Nat.le_refl _, Nat.le_refl _⟩

theorem Cone.le_trans {R S T : Cone} (h : Cone.le R S) (h' : Cone.le S T) : Cone.le R T :=
  ⟨Nat.le_trans h.1 h'.1, Nat.le_trans h.2.1 h'.2.1, Nat.le_trans h.2.2.1 h'.2.2.1, Nat.le_trans h.2.2.2 h'.2.2.2⟩

theorem Cone.add_le_add {R R' S S' : Cone} (h : Cone.le R R') (h' : Cone.le S S') : Cone.le (R.add S) (R'.add S') :=
  ⟨Nat.add_le_add h.1 h'.1, Nat.add_le_add h.2.1 h'.2.1, Nat.add_le_add h.2.2.1 h'.2.2.1, Nat.add_le_add h.2.2.2 h'.2.2.2⟩

theorem Cone.zero_le (R : Cone) : Cone.le Cone.zero R := ⟨Nat.zero_le _, Nat.zero_le _, Nat.zero_le _, Nat.zero_le _⟩

theorem Cone.add_zero (R : Cone) : R.add Cone.zero = R := rfl

theorem Cone.zero_add (R : Cone) : Cone.zero.add R = R := by
  simp only [Cone.zero, Cone.add, Nat.zero_add]

theorem Cone.le_add_right (R S : Cone) : Cone.le R (R.add S) :=
  ⟨Nat.le_add_right .., Nat.le_add_right .., Nat.le_add_right .., Nat.le_add_right ..⟩

theorem Cone.le_sup_left (R S : Cone) : Cone.le R (R.sup S) :=
  ⟨Nat.le_max_left .., Nat.le_max_left .., Nat.le_max_left .., Nat.le_max_left ..⟩

theorem Cone.le_sup_right (R S : Cone) : Cone.le S (R.sup S) :=
  ⟨Nat.le_max_right .., Nat.le_max_right .., Nat.le_max_right .., Nat.le_max_right ..⟩

theorem Cone.sup_le {R S T : Cone} (h : Cone.le R T) (h' : Cone.le S T) : Cone.le (R.sup S) T :=
  ⟨Nat.max_le.2 ⟨h.1, h'.1⟩, Nat.max_le.2 ⟨h.2.1, h'.2.1⟩, Nat.max_le.2 ⟨h.2.2.1, h'.2.2.1⟩, Nat.max_le.2 ⟨h.2.2.2, h'.2.2.2⟩⟩

theorem Cone.sup_eq_left {R S : Cone} (h : Cone.le S R) : R.sup S = R := by
  simp only [Cone.sup, Nat.max_eq_left h.1, Nat.max_eq_left h.2.1, Nat.max_eq_left h.2.2.1, Nat.max_eq_left h.2.2.2]

/-- the shape of the cone of a chain of steps on a rectified pair: `a` rows above and below, `a` columns on both sides
    extended by `l` to the left and `r` to the right (the disparity interval) -/
abbrev Cone.wide (a l r : Nat) : Cone := ⟨a, a, a + l, a + r⟩

theorem Cone.wide_mono {a a' l l' r r' : Nat} (ha : a ≤ a') (hl : l ≤ l') (hr : r ≤ r') :
    Cone.le (Cone.wide a l r) (Cone.wide a' l' r') :=
  ⟨ha, ha, Nat.add_le_add ha hl, Nat.add_le_add ha hr⟩

/-- a left chain within `wide a l r` joined with a right chain within the mirrored `wide a r l`, then a step of cone
    `S` on top (cross-checking): both chains lie within the larger extension on both sides -/
theorem Cone.sup_mirror_add_le {L R : Cone} {a l r : Nat} (hL : Cone.le L (Cone.wide a l r))
    (hR : Cone.le R (Cone.wide a r l)) (S : Cone) :
    Cone.le ((L.sup R).add S) ((Cone.wide a (max l r) (max l r)).add S) :=
  Cone.add_le_add
    (Cone.sup_le (Cone.le_trans hL (Cone.wide_mono (Nat.le_refl a) (Nat.le_max_left ..) (Nat.le_max_right ..)))
      (Cone.le_trans hR (Cone.wide_mono (Nat.le_refl a) (Nat.le_max_right ..) (Nat.le_max_left ..))))
    (Cone.le_refl S)

theorem inCone_self (R : Cone) (p : Px) : inCone R p p := by
  unfold inCone; omega

theorem inCone_zero {p q : Px} : inCone Cone.zero p q ↔ q = p := by
  unfold inCone Cone.zero
  constructor
  · intro h
    ext <;> dsimp only at h ⊢ <;> omega
  · rintro rfl
    omega

theorem inCone_mono {R S : Cone} (h : Cone.le R S) {p q : Px} (hq : inCone R p q) : inCone S p q := by
  unfold Cone.le at h
  unfold inCone at *
  omega

theorem Local.mono {α β : Type} {R S : Cone} {f : Img α → Img β} (h : Cone.le R S) (hf : Local R f) : Local S f :=
  fun a b p hab => hf a b p (fun q hq => hab q (inCone_mono h hq))

theorem inCone_add {R S : Cone} {p q r : Px} (hq : inCone S p q) (hr : inCone R q r) : inCone (R.add S) p r := by
  unfold inCone Cone.add at *
  simp only at *
  omega

theorem Local.comp {α β γ : Type} {R S : Cone} {f : Img α → Img β} {g : Img β → Img γ}
    (hf : Local R f) (hg : Local S g) : Local (R.add S) (g ∘ f) :=
  fun a b p hab => hg _ _ p fun q hq => hf a b q fun r hr => hab r (inCone_add hq hr)

def pairStep {α β γ : Type} (f : Img α → Img β) (g : Img α → Img γ) : Img α → Img (β × γ) :=
  fun a p => match f a p, g a p with
    | some x, some y => some (x, y)
    | _, _ => none

/-- two local steps run side by side (e.g. left and right products): the cones join -/
theorem Local.pair {α β γ : Type} {R S : Cone} {f : Img α → Img β} {g : Img α → Img γ}
    (hf : Local R f) (hg : Local S g) : Local (R.sup S) (pairStep f g) := by
  intro a b p hab
  have h1 := hf a b p fun q hq => hab q (inCone_mono (Cone.le_sup_left R S) hq)
  have h2 := hg a b p fun q hq => hab q (inCone_mono (Cone.le_sup_right R S) hq)
  simp only [pairStep, h1, h2]

/-- a pointwise step (winner-takes-all on a pixel's costs, refinement of a pixel's disparity) has an
    empty cone -/
theorem pointwise_local {α β : Type} (F : Option α → Option β) :
    Local Cone.zero (fun (a : Img α) p => F (a p)) := by
  intro a b p hab
  simp only [hab p (inCone_self _ p)]

def OffsIn (R : Cone) (offs : List Px) : Prop :=
  ∀ d ∈ offs, -(R.up : Int) ≤ d.1 ∧ d.1 ≤ R.down ∧ -(R.left : Int) ≤ d.2 ∧ d.2 ≤ R.right

theorem stencil_local_of_bounds {α β : Type} (R : Cone) (offs : List Px) (G : List (Option α) → Option β)
    (h : OffsIn R offs) : Local R (stencil offs G) := by
  intro a b p hab
  unfold stencil
  congr 1
  apply List.map_congr_left
  intro d hd
  apply hab
  have := h d hd
  unfold inCone
  simp only
  omega

theorem foldl_cone_spec (offs : List Px) (R : Cone) :
    let C := offs.foldl (fun R d => (⟨max R.up (-d.1).toNat, max R.down d.1.toNat, max R.left (-d.2).toNat, max R.right d.2.toNat⟩ : Cone)) R
    (R.up ≤ C.up ∧ R.down ≤ C.down ∧ R.left ≤ C.left ∧ R.right ≤ C.right) ∧
      ∀ d ∈ offs, (-d.1).toNat ≤ C.up ∧ d.1.toNat ≤ C.down ∧ (-d.2).toNat ≤ C.left ∧ d.2.toNat ≤ C.right := by
  induction offs generalizing R with
  | nil => exact ⟨⟨Nat.le_refl _, Nat.le_refl _, Nat.le_refl _, Nat.le_refl _⟩, fun _ h => nomatch h⟩
  | cons e es ih =>
    obtain ⟨⟨h1, h2, h3, h4⟩, hm⟩ :=
      ih ⟨max R.up (-e.1).toNat, max R.down e.1.toNat, max R.left (-e.2).toNat, max R.right e.2.toNat⟩
    refine ⟨⟨Nat.le_trans (Nat.le_max_left ..) h1, Nat.le_trans (Nat.le_max_left ..) h2,
      Nat.le_trans (Nat.le_max_left ..) h3, Nat.le_trans (Nat.le_max_left ..) h4⟩, fun d hd => ?_⟩
    rcases List.mem_cons.1 hd with rfl | hd
    · exact ⟨Nat.le_trans (Nat.le_max_right ..) h1, Nat.le_trans (Nat.le_max_right ..) h2,
        Nat.le_trans (Nat.le_max_right ..) h3, Nat.le_trans (Nat.le_max_right ..) h4⟩
    · exact hm d hd

theorem stencil_local {α β : Type} (offs : List Px) (G : List (Option α) → Option β) :
    Local (coneOf offs) (stencil offs G) := by
  apply stencil_local_of_bounds
  intro d hd
  have h := (foldl_cone_spec offs Cone.zero).2 d hd
  unfold coneOf
  omega

theorem stencil_equivariant {α β : Type} (offs : List Px) (G : List (Option α) → Option β) :
    Equivariant (stencil offs G) := by
  intro t a
  funext p
  unfold stencil shift
  congr 1
  apply List.map_congr_left
  intro d _
  congr 1
  ext <;> simp <;> omega

/-- **Crop = whole.** If the part of the cone of `p` that lies in the image is inside the crop `S`,
    processing the crop gives at `p` exactly what processing the whole image gives. -/
theorem crop_eq_whole {α β : Type} {R : Cone} {f : Img α → Img β} (hf : Local R f)
    (S : Px → Prop) [DecidablePred S] (a : Img α) (p : Px)
    (hS : ∀ q, inCone R p q → S q ∨ a q = none) :
    f (restrict S a) p = f a p := by
  apply hf
  intro q hq
  unfold restrict
  rcases hS q hq with h | h
  · simp [h]
  · by_cases hs : S q <;> simp [hs, h]

/-- ... wherever the crop starts: re-indexing the crop so that its corner is the origin moves the result
    with it. -/
theorem crop_anywhere {α β : Type} {R : Cone} {f : Img α → Img β} (hf : Local R f) (he : Equivariant f)
    (S : Px → Prop) [DecidablePred S] (a : Img α) (t p : Px)
    (hS : ∀ q, inCone R (p.1 + t.1, p.2 + t.2) q → S q ∨ a q = none) :
    f (shift t (restrict S a)) p = f a (p.1 + t.1, p.2 + t.2) := by
  rw [he t (restrict S a)]
  exact crop_eq_whole hf S a _ hS

/-- **Vertical flip**: a stencil whose function gives the same result when the rows of its window are
    listed bottom-up (odd-sized windows centred on the pixel: sums, medians, extrema, counts) commutes
    with flipping the image. -/
theorem stencil_vflip {α β : Type} (offs : List Px) (G : List (Option α) → Option β)
    (hG : ∀ (a : Img α) (p : Px),
      G (offs.map fun d => a (p.1 + d.1, p.2 + d.2)) = G (offs.map fun d => a (p.1 - d.1, p.2 + d.2)))
    (a : Img α) : stencil offs G (vflip a) = vflip (stencil offs G a) := by
  funext p
  unfold stencil vflip
  simp only
  rw [hG a (-p.1, p.2)]
  congr 1
  apply List.map_congr_left
  intro d _
  congr 1
  ext <;> simp <;> omega

/-! ### Non-vacuity: a 3×3 window sum is a stencil with cone (1,1,1,1); a matching window displaced by a
    disparity range has its cone extended by the range on the column side -/

def win3 : List Px := [(-1, -1), (-1, 0), (-1, 1), (0, -1), (0, 0), (0, 1), (1, -1), (1, 0), (1, 1)]
example : coneOf win3 = ⟨1, 1, 1, 1⟩ := by decide
example : coneOf (win3 ++ win3.map fun d => (d.1, d.2 + 3)) = ⟨1, 1, 1, 4⟩ := by decide

end Pandora.C13
