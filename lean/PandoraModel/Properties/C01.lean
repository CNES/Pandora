/-
  C01 — Accepted pipelines are exactly the documented automaton and run as written.

  All theorems are about the executable model `Model/Machine.lean` instantiated with the tables the
  translator regenerated from `pandora/state_machine.py` on this run (`Generated/Transitions.lean`).
-/
import PandoraModel.Lemmas.Automaton
import PandoraModel.Generated.Transitions

namespace Pandora.C01
open Pandora.Machine

/-- what the check phase must answer for a trigger `check_<kind>` in state `st` -/
def checkFireSpec (st : St) (k : Kind) : Fire :=
  match documented st k with
  | some st' => Fire.fired st'.name [] [checkCbOf k]
  | none => Fire.cantTrigger

/-- what the run phase must answer: as documented, except that `multiscale` goes back to `begin`
    for the next scale, and does nothing at the last scale -/
def runFireSpec (st : St) (k : Kind) (notLast : Bool) : Fire :=
  match documented st k with
  | none => Fire.cantTrigger
  | some st' =>
    match k with
    | .multiscale => if notLast then Fire.fired St.begin.name [] ["run_multiscale"] else Fire.condFalse []
    | .matchingCost => Fire.fired st'.name ["matching_cost_prepare"] ["matching_cost_run"]
    | k => Fire.fired st'.name [] [k.name ++ "_run"]

def CheckTableOK (tbl : List Transition) : Bool :=
  (St.all.all fun st => Kind.all.all fun k => [true, false].all fun b =>
    decide (fireAt tbl st.name b ("check_" ++ k.name) = checkFireSpec st k))
  && tbl.all (fun t => Kind.all.any (fun k => t.trigger == "check_" ++ k.name))

def RunTableOK (tbl : List Transition) : Bool :=
  (St.all.all fun st => Kind.all.all fun k => [true, false].all fun b =>
    decide (fireAt tbl st.name b k.name = runFireSpec st k b))
  && tbl.all (fun t => Kind.all.any (fun k => t.trigger == k.name))

/-- The check table in the source is the documented automaton. -/
theorem checkTable_documented : CheckTableOK Generated.transitionsCheck = true := by decide +kernel

/-- The run table in the source mirrors it (multiscale: conditional return to `begin`). -/
theorem runTable_documented : RunTableOK Generated.transitionsRun = true := by decide +kernel

theorem fireAt_unknown {tbl : List Transition} {trig : String} (h : ∀ t ∈ tbl, t.trigger ≠ trig) (st : String) (b : Bool) :
    fireAt tbl st b trig = Fire.unknownEvent := by
  have hnone : tbl.any (fun t => t.trigger == trig) = false := by
    rw [List.any_eq_false]
    exact fun t ht heq => h t ht (by simpa using heq)
  simp [fireAt, hnone]

/-- reading one row of the sweep over states, kinds and the scale condition that both table tests start with -/
theorem sweep_row {P : St → Kind → Bool → Bool}
    (h : (St.all.all fun st => Kind.all.all fun k => [true, false].all fun b => P st k b) = true) (st : St) (k : Kind) (b : Bool) :
    P st k b = true := by
  simp only [List.all_eq_true] at h
  exact h st (St.mem_all st) k (Kind.mem_all k) b (by cases b <;> simp)

theorem fire_check_kind {tbl} (hT : CheckTableOK tbl = true) (st : St) (k : Kind) (b : Bool) :
    fireAt tbl st.name b ("check_" ++ k.name) = checkFireSpec st k := by
  unfold CheckTableOK at hT
  exact of_decide_eq_true (sweep_row (Bool.and_eq_true_iff.1 hT).1 st k b)

theorem fire_check_unknown {tbl} (hT : CheckTableOK tbl = true) (st : String) (b : Bool) (s : String)
    (hs : ∀ k : Kind, s ≠ k.name) : fireAt tbl st b ("check_" ++ s) = Fire.unknownEvent := by
  unfold CheckTableOK at hT
  simp only [Bool.and_eq_true, List.all_eq_true, List.any_eq_true, beq_iff_eq] at hT
  refine fireAt_unknown (fun t ht heq => ?_) st b
  obtain ⟨k, _, hk⟩ := hT.2 t ht
  exact hs k ((String.append_right_inj _).1 (heq.symm.trans hk))

theorem fire_run_kind {tbl} (hT : RunTableOK tbl = true) (st : St) (k : Kind) (b : Bool) :
    fireAt tbl st.name b k.name = runFireSpec st k b := by
  unfold RunTableOK at hT
  exact of_decide_eq_true (sweep_row (Bool.and_eq_true_iff.1 hT).1 st k b)

theorem fire_run_unknown {tbl} (hT : RunTableOK tbl = true) (st : String) (b : Bool) (s : String)
    (hs : ∀ k : Kind, s ≠ k.name) : fireAt tbl st b s = Fire.unknownEvent := by
  unfold RunTableOK at hT
  simp only [Bool.and_eq_true, List.all_eq_true, List.any_eq_true, beq_iff_eq] at hT
  refine fireAt_unknown (fun t ht heq => ?_) st b
  obtain ⟨k, _, hk⟩ := hT.2 t ht
  exact hs k (heq.symm.trans hk)

/-- the check callback of step `n` succeeds in round `second` -/
def cbOk (env : CheckEnv) (second : Bool) (n : String) : Bool :=
  match Kind.ofName? (kindOf n) with
  | some k => decide (env.outcome (checkCbOf k) n second = CbOutcome.ok)
  | none => true

/-- some step of the pipeline sets `right_disp_map` when checked -/
def setsRightIn (env : CheckEnv) (names : List String) : Bool :=
  names.any fun n =>
    match Kind.ofName? (kindOf n) with
    | some k => env.setsRight (checkCbOf k)
    | none => false

/-- **One step of the check loop** on a machine that holds a documented check table and is in state `st`:
    the sequencing error unless the step's kind has a documented transition from `st`; then the machine
    moves, the check callback runs and its outcome decides -/
theorem checkStep_spec {tbl} (hT : CheckTableOK tbl = true) (env : CheckEnv) (second : Bool) (n : String)
    (st : St) (m : MState) (tr : Trace) (ht : m.table = tbl) (hs : m.state = st.name) :
    checkStep env second n m tr =
      match Kind.ofName? (kindOf n) with
      | none => (Res.seqErr, m, tr)
      | some k =>
        match documented st k with
        | none => (Res.seqErr, m, tr)
        | some st' =>
          match env.outcome (checkCbOf k) n second with
          | .ok => (Res.ok, { m with state := st'.name, rightDispMap := m.rightDispMap || env.setsRight (checkCbOf k) },
                    tr ++ [Event.check (checkCbOf k) n second])
          | .seqErr => (Res.seqErr, { m with state := st'.name }, tr ++ [Event.check (checkCbOf k) n second])
          | .otherErr => (Res.otherErr, { m with state := st'.name }, tr ++ [Event.check (checkCbOf k) n second]) := by
  unfold checkStep fire
  cases hk : Kind.ofName? (kindOf n) with
  | none => rw [ht, fire_check_unknown hT _ _ _ (ofName_none hk)]
  | some k =>
    rw [ht, hs, ofName_some hk, fire_check_kind hT, checkFireSpec]
    dsimp only
    cases documented st k with
    | none => rfl
    | some st' =>
      dsimp only [runCheckCbs]
      cases env.outcome (checkCbOf k) n second with
      | ok => cases env.setsRight (checkCbOf k) <;> simp
      | seqErr => rfl
      | otherErr => rfl

theorem checkLoop_path {tbl} (hT : CheckTableOK tbl = true) (env : CheckEnv) (second : Bool) :
    ∀ (names : List String) (st : St) (m : MState) (tr : Trace),
      m.table = tbl → m.state = st.name → isPath st names = true →
      (∀ n ∈ names, cbOk env second n = true) →
      checkLoop env second names m tr =
        (Res.ok,
         { m with state := (pathEnd st names).name,
                  rightDispMap := m.rightDispMap || setsRightIn env names },
         tr ++ expectedCheckRound second names) := by
  intro names
  induction names with
  | nil =>
    intro st m tr _ hs _ _
    simp [checkLoop, pathEnd_nil, setsRightIn, expectedCheckRound, ← hs]
  | cons n ns ih =>
    intro st m tr ht hs hp hok
    obtain ⟨k, st', hk, hd, hp'⟩ := isPath_cons_iff.1 hp
    have hokn := hok n (by simp)
    simp only [cbOk, hk] at hokn
    simp only [checkLoop, checkStep_spec hT env second n st m tr ht hs, hk, hd, of_decide_eq_true hokn]
    rw [ih st' _ _ (by exact ht) rfl hp' (fun x hx => hok x (by simp [hx]))]
    simp [pathEnd_cons ns hk hd, hk, setsRightIn, expectedCheckRound, Bool.or_assoc]

/-- the outcome of the check loop: `ok` exactly on a path whose callbacks all succeed; and when the callbacks all
    succeed nothing but the sequencing error can stop it -/
theorem checkLoop_fst {tbl} (hT : CheckTableOK tbl = true) (env : CheckEnv) (second : Bool) :
    ∀ (names : List String) (st : St) (m : MState) (tr : Trace),
      m.table = tbl → m.state = st.name →
      ((checkLoop env second names m tr).1 = Res.ok ↔
        (isPath st names = true ∧ ∀ n ∈ names, cbOk env second n = true)) ∧
      ((∀ n ∈ names, cbOk env second n = true) → (checkLoop env second names m tr).1 ≠ Res.otherErr) := by
  intro names
  induction names with
  | nil => intro st m tr _ _; simp [checkLoop, isPath_nil]
  | cons n ns ih =>
    intro st m tr ht hs
    simp only [checkLoop, checkStep_spec hT env second n st m tr ht hs, List.forall_mem_cons, isPath_cons]
    cases hk : Kind.ofName? (kindOf n) with
    | none => simp
    | some k =>
      dsimp only
      cases hd : documented st k with
      | none => simp
      | some st' =>
        dsimp only
        have hcb : cbOk env second n = decide (env.outcome (checkCbOf k) n second = .ok) := by simp [cbOk, hk]
        rw [hcb]
        cases env.outcome (checkCbOf k) n second with
        | ok => simpa using ih st' _ _ (by exact ht) rfl
        | seqErr => simp
        | otherErr => simp

theorem checkLoop_ok_iff {tbl} (hT : CheckTableOK tbl = true) (env : CheckEnv) (second : Bool)
    (names : List String) (st : St) (m : MState) (tr : Trace) (ht : m.table = tbl) (hs : m.state = st.name) :
    (checkLoop env second names m tr).1 = Res.ok ↔
      (isPath st names = true ∧ ∀ n ∈ names, cbOk env second n = true) :=
  (checkLoop_fst hT env second names st m tr ht hs).1

/-- A list that is not a path is rejected with the *sequencing* error (when no earlier callback
    raised something else first). -/
theorem checkLoop_not_path_seqErr {tbl} (hT : CheckTableOK tbl = true) (env : CheckEnv) (second : Bool)
    (names : List String) (st : St) (m : MState) (tr : Trace) (ht : m.table = tbl) (hs : m.state = st.name)
    (hp : isPath st names = false) (hok : ∀ n ∈ names, cbOk env second n = true) :
    (checkLoop env second names m tr).1 = Res.seqErr := by
  obtain ⟨h1, h2⟩ := checkLoop_fst hT env second names st m tr ht hs
  cases hr : (checkLoop env second names m tr).1 with
  | ok => rw [(h1.1 hr).1] at hp; cases hp
  | seqErr => rfl
  | otherErr => exact absurd hr (h2 hok)

theorem removeTable_self (tbl : List Transition) (m : MState) (h : m.table = tbl) :
    (removeTable tbl m).table = [] := by
  simp only [removeTable, h, List.filter_eq_nil_iff]
  intro t ht
  simp only [Bool.not_eq_eq_eq_not, Bool.not_true, Bool.not_eq_false, List.any_eq_true]
  exact ⟨t, ht, by simp⟩

/-- hypothesis on the environment: among the check callbacks only `validation_check_conf` sets `right_disp_map`.
    `rightWriters_documented` below states the matching fact about the write sets regenerated from the source; no
    Lean term relates the two (an environment is a parameter of the model, the write sets are data) -/
def RightOnlyValidation (env : CheckEnv) : Prop :=
  ∀ cb, env.setsRight cb = (cb == "validation_check_conf")

theorem checkCb_validation :
    Kind.all.all (fun k => (checkCbOf k == "validation_check_conf") == (k.name == Kind.validation.name)) = true := by
  decide +kernel

theorem setsRightIn_eq_hasValidation (env : CheckEnv) (hR : RightOnlyValidation env) (names : List String) :
    setsRightIn env names = hasKind .validation names := by
  rw [hasKind_eq_any, setsRightIn]
  refine congrArg names.any (funext fun n => ?_)
  cases hk : Kind.ofName? (kindOf n) with
  | none => exact (beq_eq_false_iff_ne.2 (ofName_none hk Kind.validation)).symm
  | some k =>
    rw [ofName_some hk]
    dsimp only
    rw [hR (checkCbOf k)]
    exact eq_of_beq (List.all_eq_true.1 checkCb_validation k (Kind.mem_all k))

theorem checkRound_accepts {tbl} (hT : CheckTableOK tbl = true) (env : CheckEnv) (second : Bool)
    (names : List String) (m : MState) (tr : Trace)
    (hs : m.state = "begin") (ht : m.table = []) (hp : isPath .begin names = true)
    (hok : ∀ n ∈ names, cbOk env second n = true) :
    checkRound tbl env second names m tr =
      (Res.ok, { m with rightDispMap := m.rightDispMap || setsRightIn env names },
       tr ++ expectedCheckRound second names) := by
  unfold checkRound
  have h := checkLoop_path hT env second names .begin { m with table := m.table ++ tbl } tr
    (by simp [ht]) (by simp [hs, St.name]) hp hok
  simp only [h]
  have hrm := removeTable_self tbl
    { m with table := m.table ++ tbl, state := (pathEnd St.begin names).name,
             rightDispMap := m.rightDispMap || setsRightIn env names } (by simp [ht])
  simp only [removeTable] at hrm ⊢
  simp [hrm, ← hs, ← ht]

/-- **Acceptance.** On a machine in its initial state, a pipeline that spells a path of the
    documented machine and whose steps all have valid parameters is accepted; the check callbacks
    ran once each, in the configured order (and once more, right/left exchanged, when a validation
    step is present); the machine is back in `begin` with no transition left. -/
theorem checkConf_accepts {tbl} (hT : CheckTableOK tbl = true) (env : CheckEnv)
    (hR : RightOnlyValidation env) (names : List String) (m : MState)
    (hs : m.state = "begin") (ht : m.table = []) (hp : isPath .begin names = true)
    (hok1 : ∀ n ∈ names, cbOk env false n = true)
    (hok2 : (m.rightDispMap || hasKind .validation names) = true → ∀ n ∈ names, cbOk env true n = true) :
    checkConf tbl env names m [] =
      (Res.ok, { m with rightDispMap := m.rightDispMap || hasKind .validation names },
       expectedCheckRound false names ++
         (if (m.rightDispMap || hasKind .validation names) then expectedCheckRound true names else [])) := by
  unfold checkConf
  rw [checkRound_accepts hT env false names m [] hs ht hp hok1, setsRightIn_eq_hasValidation env hR]
  simp only [List.nil_append]
  cases hr : (m.rightDispMap || hasKind .validation names) with
  | false => simp
  | true =>
    simp only [if_true]
    rw [checkRound_accepts hT env true names _ _ (by simp [hs]) (by simp [ht]) hp (hok2 hr),
      setsRightIn_eq_hasValidation env hR]
    simp

theorem checkConf_accepts_fresh {tbl} (hT : CheckTableOK tbl = true) (env : CheckEnv)
    (hR : RightOnlyValidation env) (names : List String)
    (hp : isPath .begin names = true)
    (hok1 : ∀ n ∈ names, cbOk env false n = true)
    (hok2 : hasKind .validation names = true → ∀ n ∈ names, cbOk env true n = true) :
    checkConf tbl env names {} [] =
      (Res.ok, { rightDispMap := hasKind .validation names }, expectedCheck names) := by
  have := checkConf_accepts hT env hR names {} rfl rfl hp hok1 (by simpa using hok2)
  simpa [expectedCheck] using this

/-- **An accepted list spells a path and its first-round callbacks succeed** (the second round re-checks the same
    steps with the images exchanged; the converse, with its second-round hypothesis, is `checkConf_accepts`). -/
theorem checkConf_ok_imp {tbl} (hT : CheckTableOK tbl = true) (env : CheckEnv)
    (names : List String) (m : MState) (hs : m.state = "begin") (ht : m.table = []) :
    (checkConf tbl env names m []).1 = Res.ok →
      isPath .begin names = true ∧ ∀ n ∈ names, cbOk env false n = true := by
  intro h
  apply (checkLoop_ok_iff hT env false names .begin { m with table := m.table ++ tbl } []
    (by simp [ht]) (by simp [hs, St.name])).mp
  unfold checkConf checkRound at h
  dsimp only at h
  generalize checkLoop env false names { m with table := m.table ++ tbl } [] = res at h
  obtain ⟨r, m2, tr2⟩ := res
  cases r with
  | ok => rfl
  | seqErr => cases h
  | otherErr => cases h

/-- **Rejection is the sequencing error**: a list that does not spell a path is refused with the
    sequencing error, whatever the history of the (initial-state) machine. -/
theorem checkConf_rejects_not_path {tbl} (hT : CheckTableOK tbl = true) (env : CheckEnv)
    (names : List String) (m : MState) (hs : m.state = "begin") (ht : m.table = [])
    (hp : isPath .begin names = false) (hok : ∀ n ∈ names, cbOk env false n = true) :
    (checkConf tbl env names m []).1 = Res.seqErr := by
  unfold checkConf checkRound
  have h := checkLoop_not_path_seqErr hT env false names .begin { m with table := m.table ++ tbl } []
    (by simp [ht]) (by simp [hs, St.name]) hp hok
  generalize hres : checkLoop env false names { m with table := m.table ++ tbl } [] = res at h
  obtain ⟨r, m2, tr2⟩ := res
  simp at h
  subst h
  simp [hres]

theorem emit_eq (cb n : String) (m : MState) :
    emit cb n m = sideEvents cb n m.currentScale m.rightDispMap := by
  unfold emit sideEvents; rfl

/-- the machine after a step of kind `k`, with documented destination `st'`, has fired -/
def afterStep (m : MState) (k : Kind) (st' : St) : MState :=
  match k with
  | .multiscale =>
    if m.currentScale = 0 then m
    else { m with state := "begin", currentScale := m.currentScale - 1 }
  | _ => { m with state := st'.name }

theorem afterStep_of_ne_multiscale (m : MState) {k : Kind} (st' : St) (hk : k ≠ .multiscale) :
    afterStep m k st' = { m with state := st'.name } := by
  cases k <;> first | rfl | exact absurd rfl hk

/-- at the last scale every step, `multiscale` included, only moves the machine to the documented state -/
theorem afterStep_last {m : MState} {k : Kind} {st st' : St} (hc : m.currentScale = 0) (hs : m.state = st.name)
    (hd : documented st k = some st') : afterStep m k st' = { m with state := st'.name } := by
  by_cases hk : k = .multiscale
  · -- `multiscale` is a self-loop on `disp_map` in `documented`, and at scale 0 `afterStep` returns `m` itself: the
    -- state it is said to move to is the one `m` is in
    subst hk
    cases st <;> simp [documented] at hd
    obtain ⟨s, t, r, c, ns⟩ := m
    subst hd hc hs
    rfl
  · exact afterStep_of_ne_multiscale m st' hk

theorem runStep_spec {tbl} (hT : RunTableOK tbl = true) (n : String) (m : MState) (tr : Trace)
    (st st' : St) (k : Kind) (ht : m.table = tbl) (hs : m.state = st.name)
    (hk : Kind.ofName? (kindOf n) = some k) (hd : documented st k = some st') :
    runStep n m tr = (Res.ok, afterStep m k st', tr ++ stepEvents n m.currentScale m.rightDispMap) := by
  have hkn : kindOf n = k.name := ofName_some hk
  have hfire : fire m (kindOf n) = runFireSpec st k (m.currentScale != 0) := by
    unfold fire; rw [ht, hs, hkn, fire_run_kind hT]
  unfold runStep
  rw [hfire]
  -- `runFireSpec` has one row for all kinds but two: `multiscale` fires only before the last scale and then
  -- decrements it, `matching_cost` has a `prepare` callback
  cases k with
  | multiscale =>
    by_cases h0 : m.currentScale = 0 <;>
      simp [runFireSpec, hd, h0, runCbs, emit_eq, decrementsScale, afterStep, stepEvents, hk, St.name]
  | matchingCost =>
    simp [runFireSpec, hd, runCbs, emit_eq, decrementsScale, afterStep, stepEvents, hk, runCbsOf]
  | _ =>
    simp [runFireSpec, hd, runCbs, emit_eq, decrementsScale, afterStep, stepEvents, hk, runCbsOf, Kind.name]

/-- last scale (`current_scale = 0`): every step of the path runs once, in order -/
theorem runScale_last {tbl} (hT : RunTableOK tbl = true) :
    ∀ (names : List String) (st : St) (m : MState) (tr : Trace),
      m.table = tbl → m.state = st.name → m.currentScale = 0 → isPath st names = true →
      runScale names m tr =
        (Res.ok, { m with state := (pathEnd st names).name },
         tr ++ names.flatMap (fun n => stepEvents n 0 m.rightDispMap)) := by
  intro names
  induction names with
  | nil => intro st m tr _ hs _ _; simp [runScale, pathEnd_nil, ← hs]
  | cons n ns ih =>
    intro st m tr ht hs hc hp
    obtain ⟨k, st', hk, hd, hp'⟩ := isPath_cons_iff.1 hp
    have hstep := runStep_spec hT n m tr st st' k ht hs hk hd
    rw [afterStep_last hc hs hd] at hstep
    simp only [runScale, hstep, documented_ne_begin hd, Bool.false_eq_true, if_false]
    rw [ih st' _ _ (by exact ht) rfl (by exact hc) hp']
    simp [hc, pathEnd_cons ns hk hd, List.flatMap_cons, List.append_assoc]

/-- a coarse scale (`current_scale = s + 1`): the steps up to and including the first multiscale
    step run once, then the machine is back in `begin` one scale finer -/
theorem runScale_coarse {tbl} (hT : RunTableOK tbl = true) (s : Nat) :
    ∀ (names : List String) (st : St) (m : MState) (tr : Trace),
      m.table = tbl → m.state = st.name → m.currentScale = s + 1 → isPath st names = true →
      hasKind .multiscale names = true →
      runScale names m tr =
        (Res.ok, { m with state := "begin", currentScale := s },
         tr ++ (uptoMultiscale names).flatMap (fun n => stepEvents n (s + 1) m.rightDispMap)) := by
  intro names
  induction names with
  | nil => intro st m tr _ _ _ _ hm; simp [hasKind_nil] at hm
  | cons n ns ih =>
    intro st m tr ht hs hc hp hm
    obtain ⟨k, st', hk, hd, hp'⟩ := isPath_cons_iff.1 hp
    have hstep := runStep_spec hT n m tr st st' k ht hs hk hd
    have hkn : kindOf n = k.name := ofName_some hk
    by_cases hmk : k = Kind.multiscale
    · subst hmk
      simp [runScale, hstep, afterStep, hc, uptoMultiscale, hkn]
    · have hne : (kindOf n == Kind.multiscale.name) = false := by
        rw [hkn, Kind.name_beq]; exact decide_eq_false hmk
      have hm' : hasKind .multiscale ns = true := by
        rw [hasKind_cons, hne] at hm; simpa using hm
      have hafter := afterStep_of_ne_multiscale m st' hmk
      simp only [runScale, hstep, hafter, documented_ne_begin hd]
      rw [ih st' _ _ (by simp [ht]) (by simp) (by simp [hc]) hp' hm']
      simp [uptoMultiscale, hne, hc, List.flatMap_cons, List.append_assoc]

/-- the scale loop: coarse scales first, then the full pipeline at scale 0 -/
theorem runScales_spec {tbl} (hT : RunTableOK tbl = true) (names : List String)
    (hp : isPath .begin names = true) :
    ∀ (k : Nat) (m : MState) (tr : Trace),
      m.table = tbl → m.state = "begin" → m.currentScale + 1 = k →
      (2 ≤ k → hasKind .multiscale names = true) →
      runScales names k m tr =
        (Res.ok, { m with state := (pathEnd .begin names).name, currentScale := 0 },
         tr ++ (expectedCoarse names m.rightDispMap (k - 1)
                ++ names.flatMap (fun n => stepEvents n 0 m.rightDispMap))) := by
  intro k
  induction k with
  | zero => intro m tr _ _ hc; omega
  | succ j ih =>
    intro m tr ht hs hc hms
    have hcj : m.currentScale = j := by omega
    cases j with
    | zero =>
      have h := runScale_last hT names .begin m tr ht (by simp [hs, St.name]) hcj hp
      simp [runScales, h, expectedCoarse, hcj]
    | succ i =>
      have h := runScale_coarse hT i names .begin m tr ht (by simp [hs, St.name]) hcj hp (hms (by omega))
      have hunf : runScales names (i + 1 + 1) m tr =
          (match runScale names m tr with
           | (Res.ok, m', tr') => runScales names (i + 1) m' tr'
           | r => r) := rfl
      rw [hunf, h]
      simp only []
      rw [ih _ _ (by simp [ht]) (by simp) (by simp) (fun h2 => hms (by omega))]
      simp [expectedCoarse, List.append_assoc]

theorem contains_validation_hasKind (names : List String) (h : names.contains "validation" = true) :
    hasKind .validation names = true := by
  simp only [List.contains_iff_mem] at h
  exact hasKind_iff.2 ⟨"validation", h, by decide⟩

/-- **An accepted pipeline runs as written.** On a machine in its initial state that has checked
    the pipeline (`right_disp_map` set iff a validation step is present), `pandora.run` raises no
    sequencing error, each configured step takes effect exactly once per processed scale, in the
    configured order, on the left data and — iff there is a validation step — on the right data
    immediately after; the machine is back in `begin` with no transition left. -/
theorem run_accepts {tbl} (hT : RunTableOK tbl = true) (names : List String) (n : Nat) (m : MState)
    (hs : m.state = "begin") (ht : m.table = []) (hp : isPath .begin names = true)
    (hn : 1 ≤ n) (hms : 2 ≤ n → hasKind .multiscale names = true)
    (hr : m.rightDispMap = hasKind .validation names) :
    runPipeline tbl names n m [] =
      (Res.ok, { m with numScales := n, currentScale := 0 },
       expectedRun names n (hasKind .validation names)) := by
  unfold runPipeline
  have hr' : (runPrepare tbl names n m).rightDispMap = hasKind .validation names := by
    simp only [runPrepare]
    split
    · rename_i hc; exact (contains_validation_hasKind names hc).symm
    · exact hr
  have h := runScales_spec hT names hp n (runPrepare tbl names n m) []
    (by simp [runPrepare, ht]) (by simp [runPrepare, hs]) (by simp [runPrepare]; omega) hms
  have hns : (runPrepare tbl names n m).numScales = n := by simp [runPrepare]
  simp only [hns, h, hr']
  have hrm := removeTable_self tbl
    { runPrepare tbl names n m with state := (pathEnd St.begin names).name, currentScale := 0 }
    (by simp [runPrepare, ht])
  simp only [removeTable] at hrm ⊢
  simp [hrm, expectedRun, ← hs, ← ht]
  simp [hr]

inductive Op where
  | check
  | run (numScales : Nat)
  deriving Repr, DecidableEq

def stepOp (tblC tblR : List Transition) (env : CheckEnv) (names : List String) (m : MState) :
    Op → Res × MState × Trace
  | .check => checkConf tblC env names m []
  | .run n => runPipeline tblR names n m []

def expectedOp (names : List String) : Op → Trace
  | .check => expectedCheck names
  | .run n => expectedRun names n (hasKind .validation names)

/-- the number of scales a run is asked for is what the configuration can express:
    1, or more only when the pipeline has a multiscale step -/
def Op.wf (names : List String) : Op → Prop
  | .check => True
  | .run n => 1 ≤ n ∧ (2 ≤ n → hasKind .multiscale names = true)

/-- every call of the history succeeds with the expected trace -/
def AllOk (tblC tblR : List Transition) (env : CheckEnv) (names : List String) :
    List Op → MState → Prop
  | [], _ => True
  | op :: ops, m =>
    (stepOp tblC tblR env names m op).1 = Res.ok ∧
    (stepOp tblC tblR env names m op).2.2 = expectedOp names op ∧
    AllOk tblC tblR env names ops (stepOp tblC tblR env names m op).2.1

/-- the machine between successful calls: every accepted check (`checkConf_accepts`) and every run (`run_accepts`) starts from
    this state and returns to it — which is why a second check or run of the same pipeline behaves as the first -/
def Inv (names : List String) (m : MState) : Prop :=
  m.state = "begin" ∧ m.table = [] ∧ m.rightDispMap = hasKind .validation names

theorem history_inv {tblC tblR} (hC : CheckTableOK tblC = true) (hRn : RunTableOK tblR = true)
    (env : CheckEnv) (hR : RightOnlyValidation env) (names : List String)
    (hp : isPath .begin names = true)
    (hok1 : ∀ n ∈ names, cbOk env false n = true)
    (hok2 : hasKind .validation names = true → ∀ n ∈ names, cbOk env true n = true) :
    ∀ (ops : List Op) (m : MState), Inv names m → (∀ op ∈ ops, op.wf names) →
      AllOk tblC tblR env names ops m := by
  intro ops
  induction ops with
  | nil => intro m _ _; trivial
  | cons op ops ih =>
    intro m hinv hwf
    obtain ⟨hs, ht, hr⟩ := hinv
    cases op with
    | check =>
      have h := checkConf_accepts hC env hR names m hs ht hp hok1
        (by rw [hr]; simpa using hok2)
      simp only [AllOk, stepOp, h, hr, Bool.or_self, expectedOp, expectedCheck, true_and]
      exact ih _ ⟨hs, ht, by simp⟩ (fun o ho => hwf o (by simp [ho]))
    | run n =>
      have hw : Op.wf names (.run n) := hwf _ (by simp)
      have h := run_accepts hRn names n m hs ht hp hw.1 hw.2 hr
      simp only [AllOk, stepOp, h, expectedOp, true_and]
      exact ih _ ⟨hs, ht, hr⟩ (fun o ho => hwf o (by simp [ho]))

/-- **Every history** `check p, then any sequence of check p / run p` on one fresh machine object:
    every call succeeds and produces the same trace as the first call of its kind — a second check
    or run of the same pipeline on the same machine behaves identically. -/
theorem history_identical {tblC tblR} (hC : CheckTableOK tblC = true) (hRn : RunTableOK tblR = true)
    (env : CheckEnv) (hR : RightOnlyValidation env) (names : List String)
    (hp : isPath .begin names = true)
    (hok1 : ∀ n ∈ names, cbOk env false n = true)
    (hok2 : hasKind .validation names = true → ∀ n ∈ names, cbOk env true n = true)
    (ops : List Op) (hwf : ∀ op ∈ ops, op.wf names) :
    AllOk tblC tblR env names (.check :: ops) {} := by
  have h := checkConf_accepts_fresh hC env hR names hp hok1 hok2
  simp only [AllOk, stepOp, h, expectedOp, true_and]
  exact history_inv hC hRn env hR names hp hok1 hok2 ops _ ⟨rfl, rfl, rfl⟩ hwf

theorem source_accepts_iff_path (env : CheckEnv) (names : List String) :
    (checkConf Generated.transitionsCheck env names {} []).1 = Res.ok →
      isPath .begin names = true ∧ ∀ n ∈ names, cbOk env false n = true :=
  checkConf_ok_imp checkTable_documented env names {} rfl rfl

theorem source_accepts (env : CheckEnv) (hR : RightOnlyValidation env) (names : List String)
    (hp : isPath .begin names = true)
    (hok1 : ∀ n ∈ names, cbOk env false n = true)
    (hok2 : hasKind .validation names = true → ∀ n ∈ names, cbOk env true n = true) :
    checkConf Generated.transitionsCheck env names {} [] =
      (Res.ok, { rightDispMap := hasKind .validation names }, expectedCheck names) :=
  checkConf_accepts_fresh checkTable_documented env hR names hp hok1 hok2

theorem source_rejects (env : CheckEnv) (names : List String)
    (hp : isPath .begin names = false) (hok : ∀ n ∈ names, cbOk env false n = true) :
    (checkConf Generated.transitionsCheck env names {} []).1 = Res.seqErr :=
  checkConf_rejects_not_path checkTable_documented env names {} rfl rfl hp hok

theorem source_history (env : CheckEnv) (hR : RightOnlyValidation env) (names : List String)
    (hp : isPath .begin names = true)
    (hok1 : ∀ n ∈ names, cbOk env false n = true)
    (hok2 : hasKind .validation names = true → ∀ n ∈ names, cbOk env true n = true)
    (ops : List Op) (hwf : ∀ op ∈ ops, op.wf names) :
    AllOk Generated.transitionsCheck Generated.transitionsRun env names (.check :: ops) {} :=
  history_identical checkTable_documented runTable_documented env hR names hp hok1 hok2 ops hwf

def writersOf (a : String) : List String :=
  match Generated.attrWriters.find? (fun p => p.1 == a) with
  | some p => p.2
  | none => []

def checkCallbacks : List String := Generated.transitionsCheck.flatMap (fun t => t.prepare ++ t.after)
def runCallbacks : List String := Generated.transitionsRun.flatMap (fun t => t.prepare ++ t.after)

/-- what `RightOnlyValidation` assumes of an environment, in the source: among the check callbacks only
    `validation_check_conf` assigns `right_disp_map`; no run callback assigns it (only `run_prepare` does, as modelled). -/
theorem rightWriters_documented :
    checkCallbacks.filter (fun cb => (writersOf "right_disp_map").contains cb) = ["validation_check_conf"]
    ∧ runCallbacks.filter (fun cb => (writersOf "right_disp_map").contains cb) = [] := by decide +kernel

/-- what `decrementsScale` models: among the run callbacks only `run_multiscale` assigns `current_scale`. -/
theorem scaleWriters_documented :
    runCallbacks.filter (fun cb => (writersOf "current_scale").contains cb) = ["run_multiscale"]
    ∧ checkCallbacks.filter (fun cb => (writersOf "current_scale").contains cb) = []
    ∧ runCallbacks.all (fun cb => decrementsScale cb == (writersOf "current_scale").contains cb) = true := by
  decide +kernel

/-- no method assigns `self.state` directly (only the library and `set_state` change it) -/
theorem state_not_assigned : writersOf "state" = [] := by decide +kernel

/-! ### Non-vacuity: a concrete pipeline meets the hypotheses, and the traces are what one expects -/

def exampleEnv : CheckEnv :=
  { outcome := fun _ _ _ => CbOutcome.ok, setsRight := fun cb => cb == "validation_check_conf" }

def examplePipeline : List String :=
  ["matching_cost", "aggregation", "disparity", "filter", "refinement", "validation", "filter.1", "multiscale"]

example : isPath .begin examplePipeline = true := by decide +kernel
example : hasKind .validation examplePipeline = true ∧ hasKind .multiscale examplePipeline = true := by decide +kernel
example : isPath .begin ["matching_cost", "filter"] = false := by decide +kernel
example : isPath .begin ["disparity"] = false := by decide +kernel
example : RightOnlyValidation exampleEnv := fun _ => rfl
example : (expectedRun ["matching_cost", "disparity", "multiscale", "filter"] 2 false).length = 8 := by decide +kernel
example : (checkConf Generated.transitionsCheck exampleEnv ["matching_cost", "disparity", "validation"] {} []).1 = Res.ok := by
  decide +kernel

end Pandora.C01
