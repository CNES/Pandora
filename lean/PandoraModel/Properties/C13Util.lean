/-
  C13 — arrays with explicit sizes seen as partial images (`toImg`), rectangular crops of arrays, and the bridges every
  step goes through: `toImg_eq_of_cells` (a model is identified with a step on partial images cell by cell inside the
  image, `none` outside); `CropExact R f`, the shape of every crop statement about arrays ("on the crop of any array `f`
  returns, where the cone lies in the crop or outside the image, what it returns on the whole array"), which a local,
  equivariant step has (`crop_run_eq_whole`); `crop_arr_eq_whole` (crop = whole between the output arrays of a model
  identified with a crop-exact step).
-/
import PandoraModel.Properties.C13

namespace Pandora.C13
open Pandora.Locality

/-- an `ny × nx` array seen as a partial image on the integer grid (array index = coordinate) -/
def toImg {α : Type} (ny nx : Nat) (data : Nat → Nat → α) : Img α := fun p =>
  if 0 ≤ p.1 ∧ p.1 < ny ∧ 0 ≤ p.2 ∧ p.2 < nx then some (data p.1.toNat p.2.toNat) else none

def Cone.square (R : Nat) : Cone := ⟨R, R, R, R⟩

def Cone.row (l r : Nat) : Cone := ⟨0, 0, l, r⟩

def InImage (ny nx : Nat) (q : Px) : Prop := 0 ≤ q.1 ∧ q.1 < ny ∧ 0 ≤ q.2 ∧ q.2 < nx

instance (ny nx : Nat) : DecidablePred (InImage ny nx) := fun q => by unfold InImage; infer_instance

def InRect (r0 c0 ny' nx' : Nat) (q : Px) : Prop :=
  (r0 : Int) ≤ q.1 ∧ q.1 < r0 + ny' ∧ (c0 : Int) ≤ q.2 ∧ q.2 < c0 + nx'

instance (r0 c0 ny' nx' : Nat) : DecidablePred (InRect r0 c0 ny' nx') := fun q => by
  unfold InRect; infer_instance

def cropArr {α : Type} (r0 c0 : Nat) (data : Nat → Nat → α) : Nat → Nat → α := fun r c => data (r + r0) (c + c0)

theorem toImg_some {α : Type} (ny nx : Nat) (data : Nat → Nat → α) (r c : Nat) (hr : r < ny) (hc : c < nx) :
    toImg ny nx data ((r : Int), (c : Int)) = some (data r c) := by
  unfold toImg
  have : (0 : Int) ≤ (r : Int) ∧ (r : Int) < ny ∧ (0 : Int) ≤ (c : Int) ∧ (c : Int) < nx := by omega
  simp only [this, and_self, if_true, Int.toNat_natCast]

theorem toImg_none {α : Type} (ny nx : Nat) (data : Nat → Nat → α) (q : Px) (h : ¬ InImage ny nx q) :
    toImg ny nx data q = none := by
  unfold toImg
  unfold InImage at h
  rw [if_neg h]

theorem toImg_eq_none_iff {α : Type} (ny nx : Nat) (data : Nat → Nat → α) (q : Px) :
    toImg ny nx data q = none ↔ ¬ InImage ny nx q := by
  unfold toImg InImage
  by_cases h : 0 ≤ q.1 ∧ q.1 < ny ∧ 0 ≤ q.2 ∧ q.2 < nx <;> simp [h]

theorem isSome_toImg {α : Type} (ny nx : Nat) (data : Nat → Nat → α) (q : Px) :
    (toImg ny nx data q).isSome = true ↔ InImage ny nx q := by
  rw [Option.isSome_iff_ne_none, ne_eq, toImg_eq_none_iff, Decidable.not_not]

theorem toImg_eq_some {α : Type} {ny nx : Nat} {data : Nat → Nat → α} {q : Px} {v : α}
    (h : toImg ny nx data q = some v) :
    ∃ r c : Nat, q = ((r : Int), (c : Int)) ∧ r < ny ∧ c < nx ∧ data r c = v := by
  unfold toImg at h
  split at h
  · rename_i hq
    exact ⟨q.1.toNat, q.2.toNat, by ext <;> simp only [Int.toNat_of_nonneg, hq.1, hq.2.2.1], by omega, by omega,
      Option.some.inj h⟩
  · cases h

theorem toImg_congr {α : Type} (ny nx : Nat) (a b : Nat → Nat → α) (h : ∀ r c, r < ny → c < nx → a r c = b r c) :
    toImg ny nx a = toImg ny nx b := by
  funext q
  unfold toImg
  by_cases hq : 0 ≤ q.1 ∧ q.1 < ny ∧ 0 ≤ q.2 ∧ q.2 < nx
  · rw [if_pos hq, if_pos hq, h _ _ (by omega) (by omega)]
  · rw [if_neg hq, if_neg hq]

theorem toImg_eq_of_cells {β : Type} {ny nx : Nat} {out : Nat → Nat → β} {g : Img β}
    (hin : ∀ r c : Nat, r < ny → c < nx → g ((r : Int), (c : Int)) = some (out r c))
    (hout : ∀ q, ¬ InImage ny nx q → g q = none) : toImg ny nx out = g := by
  funext q
  by_cases hq : InImage ny nx q
  · have e : q = ((q.1.toNat : Int), (q.2.toNat : Int)) := by
      unfold InImage at hq
      ext <;> simp only [Int.toNat_of_nonneg, hq.1, hq.2.2.1]
    unfold InImage at hq
    rw [e, toImg_some ny nx out _ _ (by omega) (by omega), hin _ _ (by omega) (by omega)]
  · rw [toImg_none ny nx out q hq, hout q hq]

theorem map_toImg {β γ : Type} (ny nx : Nat) (u : Nat → Nat → β) (g : β → γ) (p : Px) :
    (toImg ny nx u p).map g = toImg ny nx (fun r c => g (u r c)) p :=
  (congrFun (toImg_eq_of_cells (g := fun p => (toImg ny nx u p).map g)
    (fun r c hr hc => congrArg (Option.map g) (toImg_some ny nx u r c hr hc))
    (fun q hq => congrArg (Option.map g) (toImg_none ny nx u q hq))) p).symm

/-- **The array of a crop is the whole partial image, restricted to the crop and re-indexed.** -/
theorem toImg_crop {α : Type} (ny nx r0 c0 ny' nx' : Nat) (data : Nat → Nat → α)
    (hfit : r0 + ny' ≤ ny ∧ c0 + nx' ≤ nx) :
    toImg ny' nx' (cropArr r0 c0 data)
      = shift ((r0 : Int), (c0 : Int)) (restrict (InRect r0 c0 ny' nx') (toImg ny nx data)) := by
  apply toImg_eq_of_cells
  · intro r c hr hc
    have hS : InRect r0 c0 ny' nx' ((r : Int) + r0, (c : Int) + c0) := by
      unfold InRect
      dsimp only
      omega
    unfold shift restrict
    rw [if_pos hS, ← Int.natCast_add, ← Int.natCast_add, toImg_some ny nx data _ _ (by omega) (by omega)]
    rfl
  · intro q hq
    unfold shift restrict
    refine if_neg ?_
    unfold InRect
    unfold InImage at hq
    dsimp only
    omega

/-- `f` is crop-exact with cone `R`: on the crop of any array it returns, at every pixel whose cone (around the pixel's
    place in the whole array) lies in the crop or outside the image, what it returns on the whole array there -/
def CropExact {α β : Type} (R : Cone) (f : Img α → Img β) : Prop :=
  ∀ (ny nx r0 c0 ny' nx' : Nat) (data : Nat → Nat → α), r0 + ny' ≤ ny ∧ c0 + nx' ≤ nx → ∀ p : Px,
    (∀ q, inCone R (p.1 + r0, p.2 + c0) q → InRect r0 c0 ny' nx' q ∨ ¬ InImage ny nx q) →
    f (toImg ny' nx' (cropArr r0 c0 data)) p = f (toImg ny nx data) (p.1 + r0, p.2 + c0)

/-- **Crop run = whole run, on arrays**: a local, equivariant step is crop-exact with its cone. -/
theorem crop_run_eq_whole {α β : Type} {R : Cone} {f : Img α → Img β} (hf : Local R f) (he : Equivariant f) :
    CropExact R f := by
  intro ny nx r0 c0 ny' nx' data hfit p hcone
  rw [toImg_crop ny nx r0 c0 ny' nx' data hfit]
  apply crop_anywhere hf he
  intro q hq
  rcases hcone q hq with h | h
  · exact Or.inl h
  · exact Or.inr (toImg_none ny nx data q h)

/-- **Crop run = whole run, for the arrays of a model**: `out` (`out'`) is what the model computes on `data` (on its
    crop `data'`), both identified with the same local, equivariant step. -/
theorem crop_arr_eq_whole {α β : Type} {R : Cone} {f : Img α → Img β} (hf : CropExact R f)
    {ny nx r0 c0 ny' nx' : Nat} {data data' : Nat → Nat → α} {out out' : Nat → Nat → β}
    (hwhole : toImg ny nx out = f (toImg ny nx data)) (hcrop : toImg ny' nx' out' = f (toImg ny' nx' data'))
    (hdata : ∀ r c, r < ny' → c < nx' → data' r c = data (r + r0) (c + c0))
    (hfit : r0 + ny' ≤ ny ∧ c0 + nx' ≤ nx) (r c : Nat) (hr : r < ny') (hc : c < nx')
    (hcone : ∀ q, inCone R ((r : Int) + r0, (c : Int) + c0) q → InRect r0 c0 ny' nx' q ∨ ¬ InImage ny nx q) :
    out' r c = out (r + r0) (c + c0) := by
  have h := hf ny nx r0 c0 ny' nx' data hfit ((r : Int), (c : Int)) hcone
  rw [← toImg_congr ny' nx' data' (cropArr r0 c0 data) hdata, ← hcrop, ← hwhole, toImg_some ny' nx' out' r c hr hc] at h
  have e : (((r : Int) + (r0 : Int), (c : Int) + (c0 : Int)) : Px) = (((r + r0 : Nat) : Int), ((c + c0 : Nat) : Int)) := by
    rw [Int.natCast_add, Int.natCast_add]
  rw [e, toImg_some ny nx out (r + r0) (c + c0) (by omega) (by omega)] at h
  exact Option.some.inj h

def zipArr {α β : Type} (a : Nat → Nat → α) (b : Nat → Nat → β) : Nat → Nat → α × β := fun r c => (a r c, b r c)

/-- a cone wholly inside the image and inside the crop satisfies the premise of `crop_run_eq_whole` -/
theorem cone_in_crop_of_bounds (R : Cone) (r0 c0 ny' nx' ny nx : Nat) (p : Px)
    (h : (R.up : Int) ≤ p.1 ∧ p.1 + R.down < ny' ∧ (R.left : Int) ≤ p.2 ∧ p.2 + R.right < nx') :
    ∀ q, inCone R (p.1 + r0, p.2 + c0) q → InRect r0 c0 ny' nx' q ∨ ¬ InImage ny nx q := by
  intro q hq
  left
  unfold inCone at hq
  unfold InRect
  simp only at hq
  omega

end Pandora.C13
