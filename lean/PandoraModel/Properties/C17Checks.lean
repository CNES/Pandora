/-
  C17 — the two custom checks of `check_input_section` (`check_disparities_from_input`, the size test of an auxiliary
  image) each on its own, and the file table the examples of C17 run on.
-/
import PandoraModel.Model.InputSpec

namespace Pandora.C17
open Pandora.Config Pandora.InputSpec

theorem ite_error_eq_ok {ε α} {c : Prop} [Decidable c] {e : ε} {x : Except ε α} {u : α} :
    (if c then .error e else x) = .ok u ↔ ¬c ∧ x = .ok u := by
  split <;> simp [*]

theorem ite_error_eq_error {ε α} {c : Prop} [Decidable c] {e e' : ε} {x : Except ε α} :
    (if c then .error e else x) = .error e' ↔ (c ∧ e = e') ∨ (¬c ∧ x = .error e') := by
  split <;> simp [*]

theorem toNum_of_intOf {v : JVal} {x : Int} (h : intOf? v = some x) : v.toNum? = some (.int x) := by
  cases v <;> cases h <;> rfl

/-- the test reads `disp[0]` and `disp[1]` and nothing else -/
theorem checkDisparities_pair (files : Files) {a b : JVal} {x y : Int} (ha : intOf? a = some x)
    (hb : intOf? b = some y) (rest : List JVal) (img : JVal) :
    checkDisparitiesFromInput files (.list (a :: b :: rest)) img = .ok () ↔ x ≤ y := by
  simp [checkDisparitiesFromInput, toNum_of_intOf ha, toNum_of_intOf hb, Num.lt]

theorem checkDisparities_range (files : Files) (a b : Int) (img : JVal) :
    checkDisparitiesFromInput files (.list [.int a, .int b]) img = .ok () ↔ a ≤ b :=
  checkDisparities_pair files rfl rfl [] img

/-- on a one-element list the test itself dies with `IndexError`; the source's entry (`len(x) == 2`,
    `C17W.range_entry`) refuses such a list before the test is reached -/
theorem checkDisparities_singleton (files : Files) (a : JVal) (img : JVal) :
    checkDisparitiesFromInput files (.list [a]) img = .error .index := by
  simp [checkDisparitiesFromInput]

/-- a grid: accepted iff image and grid are readable and the grid has two bands, the size of the image and
    no pixel with min > max -/
theorem checkDisparities_grid (files : Files) (p ip : String) :
    checkDisparitiesFromInput files (.str p) (.str ip) = .ok () ↔
      ((files ip).isSome ∧ gridOk files (files ip) p = true) := by
  unfold checkDisparitiesFromInput gridOk
  cases hi : files ip with
  | none => simp [hi]
  | some im =>
    cases hg : files p with
    | none => simp [hi, hg]
    | some g =>
      simp only [hi, hg, ite_error_eq_ok, Option.isSome_some, true_and, bne_iff_ne, ne_eq, Decidable.not_not, Bool.or_eq_true,
        not_or, Bool.and_eq_true, beq_iff_eq, Bool.not_eq_true', Bool.not_eq_true, and_true, and_assoc]

theorem checkDisparities_none (files : Files) (img : JVal) :
    checkDisparitiesFromInput files .null img = .ok () := by
  simp [checkDisparitiesFromInput]

/-- an auxiliary image (`mask`, `classif`, `segm`) of a side whose image is `im`: accepted iff absent,
    `None`, or readable with the size of `im` -/
theorem checkAux_ok_iff (files : Files) (im : FileInfo) (kvs : Dict) (key : String) :
    checkAux files im (.obj kvs) key = .ok () ↔
      (match Dict.lookup kvs key with
       | none => True
       | some .null => True
       | some (.str p) => ∃ a, files p = some a ∧ a.width = im.width ∧ a.height = im.height
       | some _ => False) := by
  unfold checkAux
  cases hl : Dict.lookup kvs key with
  | none => simp [hl]
  | some v =>
    cases v <;> simp [hl]
    rename_i p
    cases files p <;> simp

def fs : Files := fun p =>
  if p = "l.tif" then some { width := 6, height := 5, count := 1 }
  else if p = "r.tif" then some { width := 6, height := 5, count := 1 }
  else if p = "small.tif" then some { width := 6, height := 4, count := 1 }
  else if p = "grid.tif" then some { width := 6, height := 5, count := 2 }
  else if p = "bad_grid.tif" then some { width := 6, height := 5, count := 2, minGtMax := true }
  else none

end Pandora.C17
