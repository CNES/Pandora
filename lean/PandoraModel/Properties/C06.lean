/-
  C06 — Refinement moves a disparity by at most half a sample, never for the worse.

  Theorems about the executable model `Model/Refinement.lean` (`vfit`, `quadratic`, `refinePixel`,
  `loopRefinement`) and its executable specification (`classify`, `clauses`, `specOK`, `specGrid`).
  Exact rational arithmetic; no bound on sizes, costs, intervals or maps.

  Method level: `method_min` (both methods, cost to be minimised) and `runMethod_sgn` (a similarity is the cost `-c`) give
  `method_refine`; `method_stop`.  Pixel level: `AtSample` (where code and statement read the cost row) → `refinePixel_outcome`
  (the loop body leaves an `Outcome`) → `Outcome.core`, `Outcome.inside` (the Boolean clauses) → `refinePixel_spec` and its
  variants.  Map level: `loop_spec`, `loop_total` through `Lemmas/MapRes.lean`.
-/
import PandoraModel.Lemmas.MapRes
import PandoraModel.Properties.Flags
import PandoraModel.Lemmas.FlagWord
import PandoraModel.Generated.Constants
import PandoraModel.Generated.RefineCC
import Mathlib.Tactic.Linarith
import Mathlib.Tactic.Ring
import Mathlib.Tactic.FieldSimp
import Mathlib.Algebra.Order.Field.Basic

namespace Pandora.C06
open Pandora.Refinement

theorem ratAbs_eq_abs (x : ℚ) : ratAbs x = |x| := by
  unfold ratAbs
  split_ifs with h
  · exact (abs_of_neg h).symm
  · exact (abs_of_nonneg (not_lt.mp h)).symm

theorem tiny_pos : (0 : ℚ) < tiny := by unfold tiny; norm_num

theorem isExtremum_iff (isMax : Bool) (a0 c1 a2 : ℚ) :
    isExtremum isMax a0 c1 a2 = true ↔ sgn isMax c1 ≤ sgn isMax a0 ∧ sgn isMax c1 ≤ sgn isMax a2 := by
  cases isMax <;> simp [isExtremum, notWorse, sgn]

theorem stop_cond_iff (isMax : Bool) (a0 c1 a2 : ℚ) :
    (sgn isMax c1 > sgn isMax a0 ∨ sgn isMax c1 > sgn isMax a2) ↔ isExtremum isMax a0 c1 a2 = false := by
  rw [← Bool.not_eq_true, isExtremum_iff, not_and_or, not_le, not_le]

theorem vfit_num (isMax : Bool) (a0 c1 a2 : ℚ) :
    vfit isMax (.num a0) c1 (.num a2) =
      if isExtremum isMax a0 c1 a2 = false then .ok ⟨0, c1, stoppedBit⟩
      else
        let a := if sgn isMax a0 > sgn isMax a2 then a0 - c1 else a2 - c1
        if |a| < tiny then .ok ⟨0, c1, 0⟩
        else .ok ⟨(a0 - a2) / (2 * a), a * ((a0 - a2) / (2 * a) - 1) + a2, 0⟩ := by
  simp only [vfit, stop_cond_iff, ratAbs_eq_abs]

theorem parab_eq (c0 c1 c2 t : ℚ) :
    parab c0 c1 c2 t = (c0 - 2 * c1 + c2) / 2 * (t * t) + (c2 - c0) / 2 * t + c1 := by
  unfold parab; ring

theorem parabDeriv_eq (c0 c1 c2 t : ℚ) :
    parabDeriv c0 c1 c2 t = (c0 - 2 * c1 + c2) * t + (c2 - c0) / 2 := by
  unfold parabDeriv; ring

theorem quadratic_num (ff isMax : Bool) (a0 c1 a2 : ℚ) :
    quadratic ff isMax (.num a0) c1 (.num a2) =
      if isExtremum isMax a0 c1 a2 = false then .ok ⟨0, c1, stoppedBit⟩
      else if a0 - 2 * c1 + a2 = 0 then (if ff then .ok ⟨0, c1, 0⟩ else .err .zeroDivision)
      else .ok ⟨clamp1 ((a0 - a2) / (2 * (a0 - 2 * c1 + a2))),
                parab a0 c1 a2 (clamp1 ((a0 - a2) / (2 * (a0 - 2 * c1 + a2)))), 0⟩ := by
  have e1 : 2 * ((a0 - 2 * c1 + a2) / 2) = a0 - 2 * c1 + a2 := by ring
  have e2 : -((a2 - a0) / 2) / (a0 - 2 * c1 + a2) = (a0 - a2) / (2 * (a0 - 2 * c1 + a2)) := by
    rw [← neg_div, neg_sub, div_div]
  simp only [quadratic, stop_cond_iff, e1, e2, parab_eq]

theorem div_two_mul_bounds (n a : ℚ) (ha : 0 < a) (h1 : -a ≤ n) (h2 : n ≤ a) : -(1/2) ≤ n / (2 * a) ∧ n / (2 * a) ≤ 1/2 := by
  constructor
  · rw [le_div_iff₀ (by linarith)]; linarith
  · rw [div_le_iff₀ (by linarith)]; linarith

/-- the slope magnitude of the symmetric V (the steeper side), cost to be minimised (`isMax = false`, as in every `*_min`
    below; the other measure by `runMethod_sgn`) -/
def vslope (a0 c1 a2 : ℚ) : ℚ := if a2 - c1 ≤ a0 - c1 then a0 - c1 else a2 - c1

theorem vslope_cases (a0 c1 a2 : ℚ) :
    (a2 ≤ a0 ∧ vslope a0 c1 a2 = a0 - c1) ∨ (a0 ≤ a2 ∧ vslope a0 c1 a2 = a2 - c1) := by
  unfold vslope
  split_ifs with h
  · exact Or.inl ⟨by linarith, rfl⟩
  · exact Or.inr ⟨by linarith, rfl⟩

theorem vfit_min (a0 c1 a2 : ℚ) (h0 : c1 ≤ a0) (h2 : c1 ≤ a2) :
    vfit false (.num a0) c1 (.num a2) =
      if vslope a0 c1 a2 < tiny then .ok ⟨0, c1, 0⟩
      else .ok ⟨(a0 - a2) / (2 * vslope a0 c1 a2),
                vslope a0 c1 a2 * ((a0 - a2) / (2 * vslope a0 c1 a2) - 1) + a2, 0⟩ := by
  have hs : (if a0 > a2 then a0 - c1 else a2 - c1) = vslope a0 c1 a2 := by
    rcases vslope_cases a0 c1 a2 with ⟨h, hm⟩ | ⟨h, hm⟩ <;> rw [hm] <;> split_ifs <;> linarith
  have hm : |vslope a0 c1 a2| = vslope a0 c1 a2 :=
    abs_of_nonneg (by rcases vslope_cases a0 c1 a2 with ⟨_, hm⟩ | ⟨_, hm⟩ <;> rw [hm] <;> linarith)
  have hext : ¬ isExtremum false a0 c1 a2 = false := by
    rw [Bool.not_eq_false, isExtremum_iff]; exact ⟨h0, h2⟩
  rw [vfit_num, if_neg hext]
  simp only [sgn, Bool.false_eq_true, ↓reduceIte, hs, hm]

def sgnOut (isMax : Bool) : Res MOut → Res MOut
  | .ok r => .ok ⟨r.shift, sgn isMax r.cost, r.flag⟩
  | .err e => .err e

theorem isExtremum_neg (a0 c1 a2 : ℚ) : isExtremum false (-a0) (-c1) (-a2) = isExtremum true a0 c1 a2 := by
  simp only [isExtremum, notWorse, Bool.false_eq_true, ↓reduceIte, neg_le_neg_iff]

theorem parab_neg (c0 c1 c2 t : ℚ) : parab (-c0) (-c1) (-c2) t = -parab c0 c1 c2 t := by
  unfold parab; ring

theorem parabDeriv_neg (c0 c1 c2 t : ℚ) : parabDeriv (-c0) (-c1) (-c2) t = -parabDeriv c0 c1 c2 t := by
  unfold parabDeriv; ring

/-- **Both measures at once**: the method on a similarity is the method on the negated costs. -/
theorem runMethod_sgn (ff : Bool) (m : Method) (isMax : Bool) (a0 c1 a2 : ℚ) :
    runMethod ff m isMax (.num a0) c1 (.num a2)
      = sgnOut isMax (runMethod ff m false (.num (sgn isMax a0)) (sgn isMax c1) (.num (sgn isMax a2))) := by
  cases isMax
  · simp only [sgn, Bool.false_eq_true, ↓reduceIte]
    cases runMethod ff m false (.num a0) c1 (.num a2) <;> rfl
  · -- `hite`, `hS`: the shape in which `simp [neg_sub_neg]` leaves the negated costs
    cases m
    · have hite : ∀ (c : Prop) [Decidable c],
          (if c then c1 - a0 else c1 - a2) = -(if c then a0 - c1 else a2 - c1) := by
        intro c _; split_ifs <;> ring
      simp only [runMethod, vfit_num, isExtremum_neg, sgn, Bool.false_eq_true, ↓reduceIte, hite, abs_neg,
        neg_sub_neg, mul_neg, ← neg_sub a0 a2, neg_div_neg_eq]
      split_ifs <;> simp only [sgnOut, sgn, ↓reduceIte, neg_neg, Res.ok.injEq, MOut.mk.injEq, true_and, and_true]
      all_goals ring
    · have hS : 2 * c1 - a0 + -a2 = -(a0 - 2 * c1 + a2) := by ring
      simp only [runMethod, quadratic_num, isExtremum_neg, sgn, ↓reduceIte, hS, neg_eq_zero,
        neg_sub_neg, mul_neg, ← neg_sub a0 a2, neg_div_neg_eq, parab_neg]
      split_ifs <;> simp only [sgnOut, sgn, ↓reduceIte, neg_neg]

theorem close_iff (a b tol : ℚ) : close a b tol = true ↔ |a - b| ≤ tol := by
  simp only [close, Bool.and_eq_true, decide_eq_true_eq, abs_le]
  constructor <;> rintro ⟨h1, h2⟩ <;> constructor <;> linarith

theorem close_zero (a b : ℚ) : close a b 0 = true ↔ a = b := by
  rw [close_iff, abs_nonpos_iff, sub_eq_zero]

theorem close_self (a tol : ℚ) (ht : 0 ≤ tol) : close a a tol = true := by
  rw [close_iff, sub_self, abs_zero]; exact ht

theorem vApexMin_iff (a0 c1 a2 x y tol : ℚ) :
    vApexMin a0 c1 a2 x y tol = true ↔
      |y + vslope a0 c1 a2 * |(-1) - x| - a0| ≤ tol ∧ |y + vslope a0 c1 a2 * |0 - x| - c1| ≤ tol
        ∧ |y + vslope a0 c1 a2 * |1 - x| - a2| ≤ tol := by
  simp only [vApexMin, vslope, Bool.and_eq_true, close_iff, ratAbs_eq_abs, and_assoc]

theorem parab_interpolates (c0 c1 c2 : ℚ) :
    parab c0 c1 c2 (-1) = c0 ∧ parab c0 c1 c2 0 = c1 ∧ parab c0 c1 c2 1 = c2 := by
  unfold parab; refine ⟨by ring, by ring, by ring⟩

/-- a stationary point of a convex parabola is its minimum: nothing on the fitted curve is better -/
theorem parab_apex_optimal (c0 c1 c2 x : ℚ) (hconv : 0 ≤ c0 - 2 * c1 + c2)
    (hx : parabDeriv c0 c1 c2 x = 0) (t : ℚ) : parab c0 c1 c2 x ≤ parab c0 c1 c2 t := by
  have e : parab c0 c1 c2 t - parab c0 c1 c2 x
      = (t - x) * parabDeriv c0 c1 c2 x + (c0 - 2 * c1 + c2) / 2 * ((t - x) * (t - x)) := by
    unfold parab parabDeriv; ring
  rw [hx, mul_zero, zero_add] at e
  have := mul_nonneg (div_nonneg hconv zero_le_two) (mul_self_nonneg (t - x))
  linarith

theorem clamp1_id (x : ℚ) (h1 : -1 ≤ x) (h2 : x ≤ 1) : clamp1 x = x := by
  unfold clamp1; rw [if_neg (by linarith), if_neg (by linarith)]

def vslopeOf (isMax : Bool) (a0 c1 a2 : ℚ) : ℚ := vslope (sgn isMax a0) (sgn isMax c1) (sgn isMax a2)

def fitOK (m : Method) (isMax : Bool) (a0 c1 a2 x y tol : ℚ) : Bool :=
  match m with
  | .vfit => vApex isMax a0 c1 a2 x y tol
  | .quadratic => parabApexPos a0 c1 a2 x tol && close (parab a0 c1 a2 x) y tol

/-- the V with the larger side `m > 0` as slope and its apex at `x = (a0 - a2) / (2 m)` passes through the three points -/
theorem vApex_exact (a0 c1 a2 m x : ℚ) (hc : (a2 ≤ a0 ∧ m = a0 - c1) ∨ (a0 ≤ a2 ∧ m = a2 - c1)) (hmp : 0 < m)
    (hmx : m * x = (a0 - a2) / 2) (hx1 : -(1/2) ≤ x) (hx2 : x ≤ 1/2) :
    m * (x - 1) + a2 ≤ c1 ∧ m * (x - 1) + a2 + m * |(-1) - x| - a0 = 0
      ∧ m * (x - 1) + a2 + m * |0 - x| - c1 = 0 ∧ m * (x - 1) + a2 + m * |1 - x| - a2 = 0 := by
  have r0 : m * (x - 1) + a2 + m * |(-1) - x| - a0 = 0 := by
    rw [abs_of_nonpos (by linarith), show m * (x - 1) + a2 + m * -(-1 - x) - a0 = 2 * (m * x) - (a0 - a2) by ring, hmx]
    ring
  have r2 : m * (x - 1) + a2 + m * |1 - x| - a2 = 0 := by
    rw [abs_of_nonneg (by linarith)]; ring
  have r1 : m * (x - 1) + a2 + m * |0 - x| - c1 = 0 := by
    rw [zero_sub, abs_neg, ← abs_of_pos hmp, ← abs_mul, abs_of_pos hmp, mul_sub, hmx]
    rcases hc with ⟨h, rfl⟩ | ⟨h, rfl⟩
    · rw [abs_of_nonneg (by linarith)]; ring
    · rw [abs_of_nonpos (by linarith)]; ring
  have := mul_nonneg hmp.le (abs_nonneg (0 - x))
  exact ⟨by linarith, r0, r1, r2⟩

/-- **Both methods on three numbers whose centre is a minimum**, the flat triple under the unguarded `quadratic` apart. -/
theorem method_min (ff : Bool) (m : Method) (a0 c1 a2 tol : ℚ) (h0 : c1 ≤ a0) (h2 : c1 ≤ a2) (htol : 0 ≤ tol)
    (hnt : m = .vfit → tiny ≤ tol ∨ vslope a0 c1 a2 = 0 ∨ tiny ≤ vslope a0 c1 a2)
    (hflat : ¬(m = .quadratic ∧ ff = false ∧ a0 = c1 ∧ a2 = c1)) :
    ∃ r, runMethod ff m false (.num a0) c1 (.num a2) = .ok r ∧ r.flag = 0 ∧ -(1/2) ≤ r.shift ∧ r.shift ≤ 1/2
      ∧ r.cost ≤ c1 ∧ fitOK m false a0 c1 a2 r.shift r.cost tol = true := by
  cases m
  · have hr := vfit_min a0 c1 a2 h0 h2
    have ht := tiny_pos
    replace hnt := hnt rfl
    -- all that is used of the slope: it is the larger side
    obtain ⟨m, hm, hc⟩ : ∃ m, vslope a0 c1 a2 = m ∧ ((a2 ≤ a0 ∧ m = a0 - c1) ∨ (a0 ≤ a2 ∧ m = a2 - c1)) :=
      ⟨_, rfl, vslope_cases a0 c1 a2⟩
    rw [hm] at hr hnt
    change ∃ r, vfit false (.num a0) c1 (.num a2) = .ok r ∧ _ ∧ _ ∧ _ ∧ _ ∧ vApexMin a0 c1 a2 r.shift r.cost tol = true
    simp only [vApexMin_iff, hm]
    split_ifs at hr with hty
    · -- a nearly flat V: the centre itself, the three points within `m ≤ tol` of the V
      have hmt : m ≤ tol := by rcases hnt with h | h | h <;> linarith
      refine ⟨_, hr, rfl, by norm_num, by norm_num, le_refl _, ?_⟩
      simp only [sub_zero, abs_neg, abs_one, abs_zero, mul_one, mul_zero, add_zero, sub_self]
      rcases hc with ⟨h, rfl⟩ | ⟨h, rfl⟩
      · rw [add_sub_cancel, sub_self, abs_zero, abs_of_nonneg (sub_nonneg.mpr h)]
        exact ⟨htol, htol, by linarith⟩
      · rw [add_sub_cancel, sub_self, abs_zero, abs_of_nonneg (sub_nonneg.mpr h)]
        exact ⟨by linarith, htol, htol⟩
    · have hmp : 0 < m := lt_of_lt_of_le ht (not_lt.mp hty)
      obtain ⟨hx1, hx2⟩ := div_two_mul_bounds (a0 - a2) m hmp (by rcases hc with ⟨h, rfl⟩ | ⟨h, rfl⟩ <;> linarith)
        (by rcases hc with ⟨h, rfl⟩ | ⟨h, rfl⟩ <;> linarith)
      obtain ⟨hy, r0, r1, r2⟩ := vApex_exact a0 c1 a2 m _ hc hmp (by field_simp) hx1 hx2
      refine ⟨_, hr, rfl, hx1, hx2, hy, ?_⟩
      rw [r0, r1, r2, abs_zero]
      exact ⟨htol, htol, htol⟩
  · have hext : ¬ isExtremum false a0 c1 a2 = false := by
      rw [Bool.not_eq_false, isExtremum_iff]; exact ⟨h0, h2⟩
    have hq := quadratic_num ff false a0 c1 a2
    rw [if_neg hext] at hq
    have hc1 := (parab_interpolates a0 c1 a2).2.1
    split_ifs at hq with hz hff
    · -- three equal costs, the repaired method: (0, cost[1], 0)
      have e0 : a0 = c1 := by linarith
      have e2 : a2 = c1 := by linarith
      refine ⟨_, hq, rfl, by norm_num, by norm_num, le_refl _, ?_⟩
      rw [fitOK, hc1, parabApexPos, parabDeriv_eq, hz, e0, e2, zero_mul, sub_self, zero_div, add_zero,
        close_self 0 tol htol, close_self c1 tol htol]
      rfl
    · exact absurd ⟨rfl, by simpa using hff, by linarith, by linarith⟩ hflat
    · have hS : 0 < a0 - 2 * c1 + a2 := lt_of_le_of_ne (by linarith) (Ne.symm hz)
      obtain ⟨hx1, hx2⟩ := div_two_mul_bounds (a0 - a2) _ hS (by linarith) (by linarith)
      rw [clamp1_id _ (by linarith) (by linarith)] at hq
      have hd : parabDeriv a0 c1 a2 ((a0 - a2) / (2 * (a0 - 2 * c1 + a2))) = 0 := by
        rw [parabDeriv_eq]; field_simp; ring
      refine ⟨_, hq, rfl, hx1, hx2, le_of_le_of_eq (parab_apex_optimal a0 c1 a2 _ hS.le hd 0) hc1, ?_⟩
      rw [fitOK, parabApexPos, hd, close_self 0 tol htol, close_self _ tol htol]
      rfl

theorem sgn_sgn (isMax : Bool) (x : ℚ) : sgn isMax (sgn isMax x) = x := by
  cases isMax <;> simp [sgn]

theorem sgn_inj {isMax : Bool} {x y : ℚ} (h : sgn isMax x = sgn isMax y) : x = y := by
  rw [← sgn_sgn isMax x, h, sgn_sgn]

theorem close_neg_left (a b tol : ℚ) : close (-a) b tol = close a (-b) tol := by
  rw [close, close, neg_sub_comm, sub_neg_eq_add, sub_neg_eq_add, add_comm b a, Bool.and_comm]

theorem fitOK_sgn (m : Method) (isMax : Bool) (a0 c1 a2 x y tol : ℚ) :
    fitOK m false (sgn isMax a0) (sgn isMax c1) (sgn isMax a2) x y tol = fitOK m isMax a0 c1 a2 x (sgn isMax y) tol := by
  cases isMax
  · rfl
  · cases m
    · simp only [fitOK, vApex, sgn, ↓reduceIte, Bool.false_eq_true, neg_neg]
    · simp only [fitOK, parabApexPos, sgn, ↓reduceIte, parab_neg, parabDeriv_neg, close_neg_left, neg_zero]

theorem quadratic_flat (isMax : Bool) (c : ℚ) : quadratic false isMax (.num c) c (.num c) = .err .zeroDivision := by
  have hext : ¬ isExtremum isMax c c c = false := by
    rw [Bool.not_eq_false, isExtremum_iff]; exact ⟨le_refl _, le_refl _⟩
  rw [quadratic_num, if_neg hext, if_pos (by ring)]
  rfl

/-- **Method level.**  On three numeric costs whose centre is an extremum, the refinement method
    either returns (shift, fitted cost, no flag) with `|shift| ≤ 1/2`, the fitted cost not worse than the
    centre and the fitted point required by the statement — or it is the unrepaired `quadratic` on three
    equal costs, which raises. -/
theorem method_refine (ff : Bool) (m : Method) (isMax : Bool) (a0 c1 a2 tol : ℚ)
    (hext : isExtremum isMax a0 c1 a2 = true) (htol : 0 ≤ tol)
    (hnt : m = .vfit → (tiny ≤ tol ∨ vslopeOf isMax a0 c1 a2 = 0 ∨ tiny ≤ vslopeOf isMax a0 c1 a2)) :
    (m = .quadratic ∧ ff = false ∧ a0 = c1 ∧ a2 = c1
      ∧ runMethod ff m isMax (.num a0) c1 (.num a2) = .err .zeroDivision) ∨
    (¬(m = .quadratic ∧ ff = false ∧ a0 = c1 ∧ a2 = c1) ∧
     ∃ r, runMethod ff m isMax (.num a0) c1 (.num a2) = .ok r ∧ r.flag = 0 ∧ -(1/2) ≤ r.shift ∧ r.shift ≤ 1/2
      ∧ (if isMax then c1 ≤ r.cost else r.cost ≤ c1) ∧ fitOK m isMax a0 c1 a2 r.shift r.cost tol = true) := by
  by_cases hflat : m = .quadratic ∧ ff = false ∧ a0 = c1 ∧ a2 = c1
  · obtain ⟨rfl, rfl, rfl, rfl⟩ := hflat
    exact Or.inl ⟨rfl, rfl, rfl, rfl, quadratic_flat isMax _⟩
  · -- the method on the costs `sgn isMax ·` (to be minimised), its fitted value taken back by `sgn isMax`
    obtain ⟨h0, h2⟩ := (isExtremum_iff isMax a0 c1 a2).mp hext
    obtain ⟨r, hr, hf, h1, h2, h3, h4⟩ := method_min ff m _ _ _ tol h0 h2 htol hnt
      fun h => hflat ⟨h.1, h.2.1, sgn_inj h.2.2.1, sgn_inj h.2.2.2⟩
    refine Or.inr ⟨hflat, ⟨r.shift, sgn isMax r.cost, r.flag⟩, by rw [runMethod_sgn, hr]; rfl, hf, h1, h2, ?_,
      (fitOK_sgn ..).symm.trans h4⟩
    cases isMax <;> simp only [sgn, Bool.false_eq_true, ↓reduceIte] at h3 ⊢ <;> linarith

/-- the apex of a V is its lowest point -/
theorem vshape_apex_optimal (m x y : ℚ) (hm : 0 ≤ m) (t : ℚ) : y ≤ y + m * |t - x| := by
  nlinarith [abs_nonneg (t - x)]

/-- a non degenerate symmetric V with its apex between the two outer points is fixed by its values there: their difference
    gives `x`, then either of them gives `y` -/
theorem vshape_apex_of_ends (m c0 c2 x y x' y' : ℚ) (hm : 0 < m)
    (hx : -1 ≤ x ∧ x ≤ 1) (hx' : -1 ≤ x' ∧ x' ≤ 1)
    (h0 : y + m * |(-1) - x| = c0) (h2 : y + m * |1 - x| = c2)
    (h0' : y' + m * |(-1) - x'| = c0) (h2' : y' + m * |1 - x'| = c2) :
    x = x' ∧ y = y' := by
  rw [abs_of_nonpos (by linarith : (-1 : ℚ) - x ≤ 0)] at h0
  rw [abs_of_nonneg (by linarith : (0 : ℚ) ≤ 1 - x)] at h2
  rw [abs_of_nonpos (by linarith : (-1 : ℚ) - x' ≤ 0)] at h0'
  rw [abs_of_nonneg (by linarith : (0 : ℚ) ≤ 1 - x')] at h2'
  obtain rfl : x = x' := mul_left_cancel₀ hm.ne' (by linarith : m * x = m * x')
  exact ⟨rfl, by linarith⟩

/-- a non degenerate symmetric V through three points has one apex only (the middle point is not needed:
    `vshape_apex_of_ends`) -/
theorem vshape_apex_unique (m c0 c1 c2 x y x' y' : ℚ) (hm : 0 < m)
    (hx : -1 ≤ x ∧ x ≤ 1) (hx' : -1 ≤ x' ∧ x' ≤ 1)
    (h0 : y + m * |(-1) - x| = c0) (_h1 : y + m * |0 - x| = c1) (h2 : y + m * |1 - x| = c2)
    (h0' : y' + m * |(-1) - x'| = c0) (h1' : y' + m * |0 - x'| = c1) (h2' : y' + m * |1 - x'| = c2) :
    x = x' ∧ y = y' :=
  vshape_apex_of_ends m c0 c2 x y x' y' hm hx hx' h0 h2 h0' h2'

/-- only the unguarded `quadratic` raises -/
theorem of_vfit_or_guarded {m : Method} {ff : Bool} {A B : Prop} (h : m = .vfit ∨ ff = true)
    (hab : A ∨ (m = .quadratic ∧ ff = false ∧ B)) : A := by
  rcases hab with a | ⟨hq, hff, -⟩
  · exact a
  · rcases h with h | h
    · rw [h] at hq; cases hq
    · rw [h] at hff; cases hff

/-- **Method level, the stop cases**: a NaN neighbour or a centre that is not an extremum gives
    shift 0, the centre cost, and bit 3. -/
theorem method_stop (ff : Bool) (m : Method) (isMax : Bool) (c0 c2 : Val) (c1 : ℚ)
    (h : c0 = .nan ∨ c2 = .nan ∨ ∃ a0 a2, c0 = .num a0 ∧ c2 = .num a2 ∧ isExtremum isMax a0 c1 a2 = false) :
    runMethod ff m isMax c0 c1 c2 = .ok ⟨0, c1, stoppedBit⟩ := by
  rcases h with rfl | rfl | ⟨a0, a2, rfl, rfl, hne⟩
  · cases m <;> simp [runMethod, vfit, quadratic]
  · cases m <;> cases c0 <;> simp [runMethod, vfit, quadratic]
  · have := (stop_cond_iff isMax a0 c1 a2).mpr hne
    cases m <;> simp only [runMethod, vfit, quadratic, this, ↓reduceIte]

theorem quadratic_raises_iff (ff : Bool) (isMax : Bool) (a0 c1 a2 : ℚ) (hext : isExtremum isMax a0 c1 a2 = true) :
    quadratic ff isMax (.num a0) c1 (.num a2) = .err .zeroDivision ↔ (ff = false ∧ a0 = c1 ∧ a2 = c1) := by
  rcases method_refine ff .quadratic isMax a0 c1 a2 0 hext (le_refl _) (by simp) with
    ⟨-, hff, e0, e2, he⟩ | ⟨hne, r, hr, -⟩
  · simp only [runMethod] at he; exact ⟨fun _ => ⟨hff, e0, e2⟩, fun _ => he⟩
  · simp only [runMethod] at hr
    constructor
    · intro h; rw [hr] at h; cases h
    · intro h; exact absurd ⟨rfl, h.1, h.2.1, h.2.2⟩ hne

theorem stops_or_extremum (isMax : Bool) (c0 c2 : Val) (c1 : ℚ) :
    (c0 = .nan ∨ c2 = .nan ∨ ∃ a0 a2, c0 = .num a0 ∧ c2 = .num a2 ∧ isExtremum isMax a0 c1 a2 = false) ∨
    ∃ a0 a2, c0 = .num a0 ∧ c2 = .num a2 ∧ isExtremum isMax a0 c1 a2 = true := by
  cases c0 with
  | nan => exact Or.inl (Or.inl rfl)
  | num a0 =>
  cases c2 with
  | nan => exact Or.inl (Or.inr (Or.inl rfl))
  | num a2 =>
  cases h : isExtremum isMax a0 c1 a2 with
  | false => exact Or.inl (Or.inr (Or.inr ⟨a0, a2, rfl, rfl, h⟩))
  | true => exact Or.inr ⟨a0, a2, rfl, rfl, h⟩

/-- **`total`, method level**: the only division is `quadratic`'s, and its divisor is zero on three equal costs only
    (`quadratic_raises_iff`) -/
theorem runMethod_total (ff : Bool) (m : Method) (isMax : Bool) (c0 c2 : Val) (c1 : ℚ) :
    (∃ r, runMethod ff m isMax c0 c1 c2 = .ok r) ∨
    (m = .quadratic ∧ ff = false ∧ runMethod ff m isMax c0 c1 c2 = .err .zeroDivision) := by
  rcases stops_or_extremum isMax c0 c2 c1 with hs | ⟨a0, a2, rfl, rfl, hext⟩
  · exact Or.inl ⟨_, method_stop ff m isMax _ _ c1 hs⟩
  · rcases method_refine ff m isMax a0 c1 a2 tiny hext tiny_pos.le (fun _ => Or.inl le_rfl) with
      ⟨hq, hff, -, -, he⟩ | ⟨-, r, hr, -⟩
    · exact Or.inr ⟨hq, hff, he⟩
    · exact Or.inl ⟨r, hr⟩

theorem vfit_shift_le_half (isMax : Bool) (c0 c2 : Val) (c1 : ℚ) (r : MOut)
    (h : vfit isMax c0 c1 c2 = .ok r) : -(1/2) ≤ r.shift ∧ r.shift ≤ 1/2 := by
  rcases stops_or_extremum isMax c0 c2 c1 with hs | ⟨a0, a2, rfl, rfl, hext⟩
  · have := method_stop false .vfit isMax _ _ c1 hs
    rw [runMethod, h] at this
    cases this
    norm_num
  · rcases method_refine false .vfit isMax a0 c1 a2 tiny hext tiny_pos.le (fun _ => Or.inl le_rfl) with
      ⟨hq, -⟩ | ⟨-, r', hr, -, h1, h2, -⟩
    · cases hq
    · rw [runMethod, h] at hr
      cases hr
      exact ⟨h1, h2⟩

theorem pyInt_of_nonneg (q : ℚ) (h : 0 ≤ q) : pyInt q = q.floor := by
  simp [pyInt, h]

theorem pyGet_inrange (l : List Val) (i : Int) (h0 : 0 ≤ i) (h1 : i < l.length) :
    pyGet l i = some (costAt l i) := by
  have hlt : i.toNat < l.length := by omega
  simp only [pyGet, costAt, h0, ↓reduceIte]
  rw [List.getElem?_eq_getElem hlt, List.getD_eq_getElem?_getD, List.getElem?_eq_getElem hlt]
  rfl

theorem pyGet_neg_one (l : List Val) (h : 0 < l.length) : ∃ v, pyGet l (-1) = some v := by
  have hlt : l.length - 1 < l.length := by omega
  refine ⟨l[l.length - 1], ?_⟩
  have : ¬ (0 : Int) ≤ -1 := by omega
  have h2 : -(-1 : Int) ≤ (l.length : Int) := by omega
  simp only [pyGet, this, ↓reduceIte, h2]
  simp [List.getElem?_eq_getElem hlt]

theorem sameExceptBit3_iff (f g : Nat) : sameExceptBit3 f g = true ↔ ∀ j, j ≠ 3 → f.testBit j = g.testBit j :=
  (FlagWord.same_outside_iff f g 3 4).trans (forall_congr' fun j => ⟨fun h h3 => h (by omega), fun h hj => h (by omega)⟩)

theorem sameExceptBit3_refl (f : Nat) : sameExceptBit3 f f = true := (sameExceptBit3_iff f f).2 fun _ _ => rfl

theorem addFlag_zero (b : Bool) (f : Nat) : addFlag b f 0 = f := by
  cases b <;> simp [addFlag]

/-- raising bit 3: by `+=` when it is clear, by `|=` always -/
theorem addFlag_stopped (b : Bool) (f : Nat) (h : b = true ∨ bitAt f 3 = 0) :
    bitAt (addFlag b f stoppedBit) 3 = 1 ∧ sameExceptBit3 (addFlag b f stoppedBit) f = true := by
  have hbit : ∀ j, (addFlag b f stoppedBit).testBit j = (f.testBit j || decide (3 = j)) := fun j => by
    cases b
    · exact C04.testBit_add_two_pow f 3 j ((FlagWord.div_mod_two_eq_zero f 3).1 (h.resolve_left Bool.false_ne_true))
    · exact C04.testBit_or_two_pow f 3 j
  exact ⟨(FlagWord.div_mod_two_eq_one _ 3).2 (by rw [hbit]; simp),
    (sameExceptBit3_iff _ f).2 fun j hj => by rw [hbit]; simp [Ne.symm hj]⟩

/-- Well-formedness of a pixel (decidable): the cost row has one cell per sample of the interval,
    a valid pixel carries a disparity of its own interval, which lies inside the global one, and the
    costs outside the pixel's interval are NaN (C02/C09). -/
def wfPix (P : Params) (x : PixIn) : Bool :=
  decide (1 ≤ P.subpix)
  && decide (((x.costs.length : Int) : Rat) = (P.dmax - P.dmin) * (P.subpix : Rat) + 1)
  && decide (P.dmin ≤ x.pmin) && decide (x.pmax ≤ P.dmax)
  && (Flags.isInvalid x.flag ||
      match x.d with
      | .num dv => decide (x.pmin ≤ dv) && decide (dv ≤ x.pmax)
      | .nan => false)
  && (List.range x.costs.length).all (fun i =>
      !(decide (P.dmin + (i : Rat) / (P.subpix : Rat) < x.pmin) || decide (x.pmax < P.dmin + (i : Rat) / (P.subpix : Rat)))
        || x.costs.getD i .nan == .nan)

def onGridPix (P : Params) (x : PixIn) : Bool :=
  Flags.isInvalid x.flag || match x.d with
    | .num dv => onGrid P dv
    | .nan => true

/-- the interval-end test of the code (`disp == d_min or disp == d_max`) agrees with "the sample is an
    end of the interval".  True on the grid (`ends_agree_of_onGrid`); off the grid it fails exactly when
    the sample is the first one. -/
def endsAgree (P : Params) (x : PixIn) : Prop :=
  Flags.isInvalid x.flag = false → ∀ dv, x.d = .num dv →
    ((dv = P.dmin ∨ dv = P.dmax) ↔ (sampleOf P dv = 0 ∨ sampleOf P dv = (x.costs.length : Int) - 1))

/-- differences between two costs of the row are 0 or at least the `1e-15` of vfit.py -/
def notTinyCosts (costs : List Val) : Bool :=
  costs.all fun a => costs.all fun b =>
    match a, b with
    | .num p, .num q => decide (p - q = 0) || decide (tiny ≤ p - q) || decide (tiny ≤ q - p)
    | _, _ => true

/-- the move of a refined pixel is at most half a sample, exactly (no tolerance) -/
def exactHalf (P : Params) (x : PixIn) (o : PixOut) : Bool :=
  match classify P x, o.d with
  | .refine d _ _ _, .num d' =>
    decide (d' - d ≤ 1 / (2 * (P.subpix : Rat))) && decide (d - d' ≤ 1 / (2 * (P.subpix : Rat)))
  | .refine _ _ _ _, .nan => false
  | _, _ => true

def coreOK (P : Params) (x : PixIn) (o : PixOut) (tol : Rat) : Bool :=
  (clauses P x o tol).all (fun c => c.2 || c.1 == "inside_interval") && exactHalf P x o

structure WfFacts (P : Params) (x : PixIn) : Prop where
  subpix_pos : 1 ≤ P.subpix
  len : ((x.costs.length : Int) : ℚ) = (P.dmax - P.dmin) * (P.subpix : ℚ) + 1
  pmin_ge : P.dmin ≤ x.pmin
  pmax_le : x.pmax ≤ P.dmax
  disp : Flags.isInvalid x.flag = false → ∃ dv, x.d = .num dv ∧ x.pmin ≤ dv ∧ dv ≤ x.pmax
  outside : ∀ i : Nat, i < x.costs.length →
    (P.dmin + (i : ℚ) / (P.subpix : ℚ) < x.pmin ∨ x.pmax < P.dmin + (i : ℚ) / (P.subpix : ℚ)) →
    x.costs.getD i .nan = .nan

theorem wfPix_iff (P : Params) (x : PixIn) : wfPix P x = true ↔ WfFacts P x := by
  have hd : (Flags.isInvalid x.flag = true ∨
      (match x.d with | .num dv => decide (x.pmin ≤ dv) && decide (dv ≤ x.pmax) | .nan => false) = true) ↔
      (Flags.isInvalid x.flag = false → ∃ dv, x.d = .num dv ∧ x.pmin ≤ dv ∧ dv ≤ x.pmax) := by
    cases Flags.isInvalid x.flag <;> cases x.d <;> simp
  have ho : ∀ i : Nat, ((!(decide (P.dmin + (i : ℚ) / (P.subpix : ℚ) < x.pmin)
        || decide (x.pmax < P.dmin + (i : ℚ) / (P.subpix : ℚ))) || x.costs.getD i .nan == .nan) = true) ↔
      ((P.dmin + (i : ℚ) / (P.subpix : ℚ) < x.pmin ∨ x.pmax < P.dmin + (i : ℚ) / (P.subpix : ℚ)) →
        x.costs.getD i .nan = .nan) := fun i => by
    rw [Bool.or_eq_true, Bool.not_eq_true', Bool.or_eq_false_iff, decide_eq_false_iff_not, decide_eq_false_iff_not,
      beq_iff_eq, ← not_or, ← imp_iff_not_or]
  simp only [wfPix, Bool.and_eq_true, decide_eq_true_eq, Bool.or_eq_true, List.all_eq_true, List.mem_range, ho]
  exact ⟨fun ⟨⟨⟨⟨⟨h1, h2⟩, h3⟩, h4⟩, h5⟩, h6⟩ => ⟨h1, h2, h3, h4, hd.mp h5, h6⟩,
    fun W => ⟨⟨⟨⟨⟨W.subpix_pos, W.len⟩, W.pmin_ge⟩, W.pmax_le⟩, hd.mpr W.disp⟩, W.outside⟩⟩

theorem WfFacts.subpix_cast_pos {P : Params} {x : PixIn} (W : WfFacts P x) : (0 : ℚ) < (P.subpix : ℚ) :=
  Nat.cast_pos.mpr W.subpix_pos

theorem WfFacts.last_cast {P : Params} {x : PixIn} (W : WfFacts P x) :
    (((x.costs.length : Int) - 1 : Int) : ℚ) = (P.dmax - P.dmin) * (P.subpix : ℚ) := by
  rw [Int.cast_sub, W.len, Int.cast_one, add_sub_cancel_right]

theorem sample_facts (P : Params) (x : PixIn) (W : WfFacts P x) (dv : ℚ) (h1 : P.dmin ≤ dv) (h2 : dv ≤ P.dmax) :
    pyInt ((dv - P.dmin) * (P.subpix : ℚ)) = sampleOf P dv ∧ 0 ≤ sampleOf P dv
      ∧ sampleOf P dv ≤ (x.costs.length : Int) - 1
      ∧ (dv ≠ P.dmax → sampleOf P dv ≤ (x.costs.length : Int) - 2) := by
  have hs := W.subpix_cast_pos
  have hq0 : 0 ≤ (dv - P.dmin) * (P.subpix : ℚ) := mul_nonneg (sub_nonneg.mpr h1) hs.le
  have hn := W.last_cast
  refine ⟨pyInt_of_nonneg _ hq0, Rat.le_floor_iff.mpr (by exact_mod_cast hq0), ?_, ?_⟩
  · have h3 : (((dv - P.dmin) * (P.subpix : ℚ)).floor : ℚ) ≤ (((x.costs.length : Int) - 1 : Int) : ℚ) :=
      (Rat.floor_le _).trans (hn ▸ mul_le_mul_of_nonneg_right (sub_le_sub_right h2 _) hs.le)
    exact_mod_cast h3
  · intro hne
    have hq2 : (dv - P.dmin) * (P.subpix : ℚ) < (((x.costs.length : Int) - 1 : Int) : ℚ) :=
      hn ▸ mul_lt_mul_of_pos_right (sub_lt_sub_right (lt_of_le_of_ne h2 hne) _) hs
    have := Rat.floor_lt_iff.mpr hq2
    unfold sampleOf; omega

theorem costAt_mem (l : List Val) (i : Int) (a : ℚ) (h : costAt l i = .num a) : Val.num a ∈ l := by
  unfold costAt at h
  split at h
  · rw [List.getD_eq_getElem?_getD] at h
    cases hg : l[i.toNat]? with
    | none => rw [hg] at h; cases h
    | some v =>
      rw [hg] at h
      simp at h
      subst h
      exact List.mem_of_getElem? hg
  · cases h

theorem notTiny_gap (costs : List Val) (h : notTinyCosts costs = true) (p q : ℚ)
    (mp : Val.num p ∈ costs) (mq : Val.num q ∈ costs) (hqp : q ≤ p) : p - q = 0 ∨ tiny ≤ p - q := by
  simp only [notTinyCosts, List.all_eq_true] at h
  have := h _ mp _ mq
  simp only [Bool.or_eq_true, decide_eq_true_eq] at this
  rcases this with (h | h) | h
  · exact Or.inl h
  · exact Or.inr h
  · exact absurd h (not_le.mpr (lt_of_le_of_lt (sub_nonpos.mpr hqp) tiny_pos))

theorem notTiny_slope (costs : List Val) (h : notTinyCosts costs = true) (isMax : Bool) (a0 c1 a2 : ℚ)
    (m0 : Val.num a0 ∈ costs) (m1 : Val.num c1 ∈ costs) (m2 : Val.num a2 ∈ costs)
    (hext : isExtremum isMax a0 c1 a2 = true) :
    vslopeOf isMax a0 c1 a2 = 0 ∨ tiny ≤ vslopeOf isMax a0 c1 a2 := by
  obtain ⟨h0, h2⟩ := (isExtremum_iff isMax a0 c1 a2).mp hext
  cases isMax
  · show vslope a0 c1 a2 = 0 ∨ tiny ≤ vslope a0 c1 a2
    rcases vslope_cases a0 c1 a2 with ⟨-, e⟩ | ⟨-, e⟩ <;> rw [e]
    · exact notTiny_gap costs h a0 c1 m0 m1 h0
    · exact notTiny_gap costs h a2 c1 m2 m1 h2
  · show vslope (-a0) (-c1) (-a2) = 0 ∨ tiny ≤ vslope (-a0) (-c1) (-a2)
    rcases vslope_cases (-a0) (-c1) (-a2) with ⟨-, e⟩ | ⟨-, e⟩ <;> rw [e, neg_sub_neg]
    · exact notTiny_gap costs h c1 a0 m1 m0 (neg_le_neg_iff.mp h0)
    · exact notTiny_gap costs h c1 a2 m1 m2 (neg_le_neg_iff.mp h2)

theorem refinePixel_invalid (P : Params) (x : PixIn) (h : Flags.isInvalid x.flag = true) :
    refinePixel P x = .ok ⟨.nan, x.d, x.flag⟩ := by
  simp only [refinePixel, h, ↓reduceIte]

theorem classify_invalid (P : Params) (x : PixIn) (h : Flags.isInvalid x.flag = true) : classify P x = .invalid := by
  simp only [classify, h, ↓reduceIte]

/-- a valid pixel whose disparity `dv` designates the sample `s` of its cost row, for the code (`pyInt`) as for the
    statement (`sampleOf`) -/
structure AtSample (P : Params) (x : PixIn) (dv : ℚ) (s : Int) : Prop where
  valid : Flags.isInvalid x.flag = false
  disp : x.d = .num dv
  code : pyInt ((dv - P.dmin) * (P.subpix : ℚ)) = s
  stmt : sampleOf P dv = s
  lo : 0 ≤ s
  hi : s < x.costs.length

namespace AtSample
variable {P : Params} {x : PixIn} {dv : ℚ} {s : Int}

theorem inRange (A : AtSample P x dv s) : ¬(s < 0 ∨ (x.costs.length : Int) ≤ s) := by
  have := A.lo; have := A.hi; omega

/-- `classify` at such a pixel, in the terms in which `refinePixel_cases` gives the loop body -/
theorem classify_eq (A : AtSample P x dv s) : classify P x =
    match costAt x.costs s with
    | .nan => .centreNan
    | .num c1 =>
      if s = 0 ∨ s = (x.costs.length : Int) - 1 then .atIntervalEnd
      else match costAt x.costs (s - 1), costAt x.costs (s + 1) with
        | .num c0, .num c2 => if isExtremum P.isMax c0 c1 c2 then .refine dv c0 c1 c2 else .notExtremum
        | _, _ => .neighbourNan := by
  simp only [classify, A.valid, A.disp, A.stmt, A.inRange, Bool.false_eq_true, ↓reduceIte]
  rfl

/-- the test that lets the method run excludes the last sample, in both forms of the test -/
theorem notAtEnd_le (A : AtSample P x dv s) (hs2 : dv ≠ P.dmax → s ≤ (x.costs.length : Int) - 2)
    (hne : notAtEnd P x.costs.length dv s = true) : s ≤ (x.costs.length : Int) - 2 := by
  have hhi := A.hi
  unfold notAtEnd at hne
  cases hfe : P.variant.fixEnds
  · simp only [hfe, Bool.false_eq_true, ↓reduceIte, Bool.and_eq_true, bne_iff_ne, ne_eq] at hne
    exact hs2 hne.2
  · simp only [hfe, ↓reduceIte, Bool.and_eq_true, bne_iff_ne, ne_eq] at hne
    omega

/-- **The loop body at a valid pixel**, in the model's own terms: no cost at the sample; stopped by the interval-end test; or
    the method on the sample's cost and its neighbours — the right one a cell of the row, the left one too, except at sample 0
    (reached off the grid only), where numba's index -1 reads the last cell. -/
theorem refinePixel_cases (A : AtSample P x dv s) (hs2 : dv ≠ P.dmax → s ≤ (x.costs.length : Int) - 2) :
    (costAt x.costs s = .nan ∧ refinePixel P x = .ok ⟨.nan, x.d, x.flag⟩) ∨
    ∃ c1, costAt x.costs s = .num c1 ∧
      ((notAtEnd P x.costs.length dv s = false
          ∧ refinePixel P x = .ok ⟨.num c1, x.d, addFlag P.variant.fixOr x.flag stoppedBit⟩) ∨
       (notAtEnd P x.costs.length dv s = true ∧ ∃ v0, (s ≠ 0 → v0 = costAt x.costs (s - 1)) ∧
          refinePixel P x = match runMethod P.variant.fixFlat P.method P.isMax v0 c1 (costAt x.costs (s + 1)) with
            | .ok r => .ok ⟨.num r.cost, .num (dv + r.shift / (P.subpix : ℚ)), addFlag P.variant.fixOr x.flag r.flag⟩
            | .err e => .err e)) := by
  have hc := pyGet_inrange x.costs s A.lo A.hi
  cases hc1 : costAt x.costs s with
  | nan =>
    refine Or.inl ⟨rfl, ?_⟩
    simp only [refinePixel, A.valid, A.disp, A.code, hc, hc1, Bool.false_eq_true, ↓reduceIte]
  | num c1 =>
  refine Or.inr ⟨c1, rfl, ?_⟩
  cases hne : notAtEnd P x.costs.length dv s with
  | false =>
    refine Or.inl ⟨rfl, ?_⟩
    simp only [refinePixel, A.valid, A.disp, A.code, hc, hc1, hne, Bool.false_eq_true, ↓reduceIte]
  | true =>
    have hlo := A.lo
    have h2 := A.notAtEnd_le hs2 hne
    have hg2 := pyGet_inrange x.costs (s + 1) (by omega) (by omega)
    obtain ⟨v0, hv0, hg0⟩ : ∃ v, (s ≠ 0 → v = costAt x.costs (s - 1)) ∧ pyGet x.costs (s - 1) = some v := by
      by_cases h0 : s = 0
      · subst h0
        obtain ⟨v, hv⟩ := pyGet_neg_one x.costs (by omega)
        exact ⟨v, fun h => absurd rfl h, hv⟩
      · exact ⟨_, fun _ => rfl, pyGet_inrange _ _ (by omega) (by omega)⟩
    refine Or.inr ⟨rfl, v0, hv0, ?_⟩
    simp only [refinePixel, A.valid, A.disp, A.code, hc, hc1, hne, hg0, hg2, Bool.false_eq_true, ↓reduceIte]
    rfl

end AtSample

theorem WfFacts.atSample {P : Params} {x : PixIn} (W : WfFacts P x) (hinv : Flags.isInvalid x.flag = false) :
    ∃ dv, AtSample P x dv (sampleOf P dv) ∧ (dv ≠ P.dmax → sampleOf P dv ≤ (x.costs.length : Int) - 2) := by
  obtain ⟨dv, hd, hp1, hp2⟩ := W.disp hinv
  obtain ⟨hpy, hs0, hs1, hs2⟩ := sample_facts P x W dv (W.pmin_ge.trans hp1) (hp2.trans W.pmax_le)
  exact ⟨dv, ⟨hinv, hd, hpy, rfl, hs0, by omega⟩, hs2⟩

theorem notAtEnd_iff (P : Params) (n : Nat) (dv : ℚ) (s : Int)
    (h : P.variant.fixEnds = true ∨ ((dv = P.dmin ∨ dv = P.dmax) ↔ (s = 0 ∨ s = (n : Int) - 1))) :
    notAtEnd P n dv s = true ↔ ¬(s = 0 ∨ s = (n : Int) - 1) := by
  unfold notAtEnd
  cases hfe : P.variant.fixEnds
  · rw [← (h.resolve_left (by simp [hfe]))]
    simp only [Bool.false_eq_true, ↓reduceIte, Bool.and_eq_true, bne_iff_ne, ne_eq, not_or]
  · simp only [↓reduceIte, Bool.and_eq_true, bne_iff_ne, ne_eq, not_or]

/-- **What the step may leave at a pixel**, class by class: the pixel as it was; the same disparity with bit 3 raised and no
    other bit changed; or, at a valid disparity `d` whose sample has numeric neighbours `a0`, `a2` and an extremum `c1`, the
    method's answer `r`: at most half a sample away, its cost not worse than `c1`, the fitted point of the statement. -/
inductive Outcome (P : Params) (x : PixIn) (tol : ℚ) : PixOut → Prop
  | untouched (c : Val) (h : classify P x = .invalid ∨ classify P x = .centreNan) : Outcome P x tol ⟨c, x.d, x.flag⟩
  | stopped (c : Val) (f : Nat)
      (h : classify P x = .atIntervalEnd ∨ classify P x = .neighbourNan ∨ classify P x = .notExtremum)
      (hb : bitAt f 3 = 1) (hs : sameExceptBit3 f x.flag = true) : Outcome P x tol ⟨c, x.d, f⟩
  | refined {d a0 c1 a2 : ℚ} (hv : Flags.isInvalid x.flag = false) (hd : x.d = .num d)
      (hcls : classify P x = .refine d a0 c1 a2)
      (hc0 : costAt x.costs (sampleOf P d - 1) = .num a0) (hc2 : costAt x.costs (sampleOf P d + 1) = .num a2)
      (r : MOut) (h1 : -(1/2) ≤ r.shift) (h2 : r.shift ≤ 1/2) (h3 : if P.isMax then c1 ≤ r.cost else r.cost ≤ c1)
      (h4 : fitOK P.method P.isMax a0 c1 a2 r.shift r.cost tol = true) :
      Outcome P x tol ⟨.num r.cost, .num (d + r.shift / (P.subpix : ℚ)), x.flag⟩

theorem coreOK_refine_iff {P : Params} {x : PixIn} {d a0 c1 a2 : ℚ} (hcls : classify P x = .refine d a0 c1 a2)
    (y d' : ℚ) (f : Nat) (tol : ℚ) :
    coreOK P x ⟨.num y, .num d', f⟩ tol = true ↔
      f = x.flag ∧ sameExceptBit3 f x.flag = true
      ∧ (d' - d ≤ 1 / (2 * (P.subpix : ℚ)) + tol ∧ d - d' ≤ 1 / (2 * (P.subpix : ℚ)) + tol)
      ∧ fitOK P.method P.isMax a0 c1 a2 ((d' - d) * (P.subpix : ℚ)) y tol = true
      ∧ (if P.isMax then decide (c1 ≤ y + tol) else decide (y ≤ c1 + tol)) = true
      ∧ (d' - d ≤ 1 / (2 * (P.subpix : ℚ)) ∧ d - d' ≤ 1 / (2 * (P.subpix : ℚ))) := by
  cases hm : P.method <;>
    simp only [coreOK, exactHalf, clauses, hcls, valNum?, hm, fitOK, List.all_cons, List.all_nil, String.reduceBEq,
      Bool.or_false, Bool.or_true, Bool.and_true, Bool.and_eq_true, decide_eq_true_eq, beq_iff_eq, and_self_left, and_assoc]

/-- such an output satisfies every clause except `inside_interval`, and the exact half-sample bound -/
theorem Outcome.core {P : Params} {x : PixIn} {tol : ℚ} {o : PixOut} (h : Outcome P x tol o)
    (hsp : (0 : ℚ) < (P.subpix : ℚ)) (htol : 0 ≤ tol) : coreOK P x o tol = true := by
  cases h with
  | untouched c h => rcases h with h | h <;> simp [coreOK, exactHalf, clauses, h]
  | stopped c f h hb hs => rcases h with h | h | h <;> simp [coreOK, exactHalf, clauses, h, hb, hs]
  | @refined d a0 c1 a2 _ _ hcls _ _ r h1 h2 h3 h4 =>
    -- the move `t = shift / subpix` is at most half a sample, and `t * subpix` is the method's shift
    obtain ⟨t, ht, ht1, ht2⟩ : ∃ t, r.shift / (P.subpix : ℚ) = t ∧ t ≤ 1 / (2 * (P.subpix : ℚ))
        ∧ -t ≤ 1 / (2 * (P.subpix : ℚ)) :=
      ⟨_, rfl, by rw [← div_div]; exact div_le_div_of_nonneg_right h2 hsp.le,
        by rw [← neg_div, ← div_div]; exact div_le_div_of_nonneg_right (by linarith) hsp.le⟩
    have hts : t * (P.subpix : ℚ) = r.shift := by rw [← ht, div_mul_cancel₀ _ hsp.ne']
    have hworse : (if P.isMax = true then decide (c1 ≤ r.cost + tol) else decide (r.cost ≤ c1 + tol)) = true := by
      cases hM : P.isMax <;> simp only [hM, Bool.false_eq_true, ↓reduceIte, decide_eq_true_eq] at h3 ⊢ <;> linarith
    rw [ht, coreOK_refine_iff hcls, add_sub_cancel_left, sub_add_cancel_left, hts]
    exact ⟨rfl, sameExceptBit3_refl _, ⟨by linarith, by linarith⟩, h4, hworse, ht1, ht2⟩

/-- **Pixel level**: on a well-formed pixel the loop body leaves an `Outcome`, or is the unguarded `quadratic` on three
    equal costs.  The two provisos are needed by the code as it is and vanish with the repairs: the interval-end test must
    agree with the sample index (`fixEnds` makes it so), bit 3 must be clear (`fixOr` makes it irrelevant). -/
theorem refinePixel_outcome (P : Params) (x : PixIn) (tol : ℚ) (hwf : wfPix P x = true)
    (hends : P.variant.fixEnds = true ∨ endsAgree P x) (hbit : P.variant.fixOr = true ∨ bitAt x.flag 3 = 0)
    (htol : 0 ≤ tol) (hnt : P.method = .vfit → tiny ≤ tol ∨ notTinyCosts x.costs = true) :
    (∃ o, refinePixel P x = .ok o ∧ Outcome P x tol o) ∨
    (P.method = .quadratic ∧ P.variant.fixFlat = false ∧ refinePixel P x = .err .zeroDivision
      ∧ ∃ d c, classify P x = .refine d c c c) := by
  have W := (wfPix_iff P x).mp hwf
  cases hinv : Flags.isInvalid x.flag with
  | true => exact Or.inl ⟨_, refinePixel_invalid P x hinv, .untouched _ (Or.inl (classify_invalid P x hinv))⟩
  | false =>
  obtain ⟨dv, A, hs2⟩ := W.atSample hinv
  have hna := notAtEnd_iff P x.costs.length dv (sampleOf P dv) (hends.imp id fun h => h hinv dv A.disp)
  obtain ⟨hb1, hb2⟩ := addFlag_stopped P.variant.fixOr x.flag hbit
  have hcl := A.classify_eq
  rcases A.refinePixel_cases hs2 with ⟨hc1, hr⟩ | ⟨c1, hc1, ⟨hne, hr⟩ | ⟨hne, v0, hv0, hr⟩⟩
  · rw [hc1] at hcl
    exact Or.inl ⟨_, hr, .untouched _ (Or.inr hcl)⟩
  · have hend := not_not.mp fun h => Bool.false_ne_true (hne.symm.trans (hna.mpr h))
    rw [hc1] at hcl
    exact Or.inl ⟨_, hr, .stopped _ _ (Or.inl (hcl.trans (if_pos hend))) hb1 hb2⟩
  · have hend := hna.mp hne
    rw [hc1] at hcl
    replace hcl := hcl.trans (if_neg hend)
    rw [hv0 fun h => hend (Or.inl h)] at hr
    -- the method's own dichotomy on the two neighbours; `classify` is read at each case
    rcases stops_or_extremum P.isMax (costAt x.costs (sampleOf P dv - 1)) (costAt x.costs (sampleOf P dv + 1)) c1 with
      hstop | ⟨a0, a2, hc0, hc2, hext⟩
    · -- the method stops: the pixel is left as at an end of the interval
      simp only [method_stop _ _ _ _ _ _ hstop, zero_div, add_zero, ← A.disp] at hr
      refine Or.inl ⟨_, hr, .stopped _ _ (Or.inr ?_) hb1 hb2⟩
      rcases hstop with hc0 | hc2 | ⟨a0, a2, hc0, hc2, hext⟩
      · rw [hc0] at hcl; exact Or.inl hcl
      · rw [hc2] at hcl
        cases hc0 : costAt x.costs (sampleOf P dv - 1) with
        | nan => rw [hc0] at hcl; exact Or.inl hcl
        | num a0 => rw [hc0] at hcl; exact Or.inl hcl
      · rw [hc0, hc2] at hcl; simp only [hext, Bool.false_eq_true, ↓reduceIte] at hcl; exact Or.inr hcl
    · -- the centre is an extremum of three numbers: refined (or `quadratic` raises on a flat triple)
      rw [hc0, hc2] at hr hcl
      simp only [hext, ↓reduceIte] at hcl
      have hnt' : P.method = .vfit →
          (tiny ≤ tol ∨ vslopeOf P.isMax a0 c1 a2 = 0 ∨ tiny ≤ vslopeOf P.isMax a0 c1 a2) := fun hm =>
        (hnt hm).imp_right fun h => notTiny_slope x.costs h P.isMax a0 c1 a2 (costAt_mem _ _ _ hc0)
          (costAt_mem _ _ _ hc1) (costAt_mem _ _ _ hc2) hext
      rcases method_refine P.variant.fixFlat P.method P.isMax a0 c1 a2 tol hext htol hnt' with
        ⟨hq, hff, e0, e2, he⟩ | ⟨-, r, hm, hf, hr1, hr2, hr3, hr4⟩
      · simp only [he] at hr
        exact Or.inr ⟨hq, hff, hr, dv, c1, by rw [hcl, e0, e2]⟩
      · simp only [hm, hf, addFlag_zero] at hr
        exact Or.inl ⟨_, hr, .refined hinv A.disp hcl hc0 hc2 r hr1 hr2 hr3 hr4⟩

/-- **Pixel level, everything except `inside_interval`.** -/
theorem refinePixel_core (P : Params) (x : PixIn) (tol : ℚ) (hwf : wfPix P x = true)
    (hends : P.variant.fixEnds = true ∨ endsAgree P x) (hbit : P.variant.fixOr = true ∨ bitAt x.flag 3 = 0)
    (htol : 0 ≤ tol) (hnt : P.method = .vfit → tiny ≤ tol ∨ notTinyCosts x.costs = true) :
    (∃ o, refinePixel P x = .ok o ∧ coreOK P x o tol = true) ∨
    (P.method = .quadratic ∧ P.variant.fixFlat = false ∧ refinePixel P x = .err .zeroDivision
      ∧ ∃ d c, classify P x = .refine d c c c) :=
  (refinePixel_outcome P x tol hwf hends hbit htol hnt).imp_left fun ⟨o, ho, h⟩ =>
    ⟨o, ho, h.core ((wfPix_iff P x).mp hwf).subpix_cast_pos htol⟩

theorem onGrid_floor (q : ℚ) (h : q.den = 1) : ((q.floor : Int) : ℚ) = q := by
  have : q.floor = q.num := by simp [Rat.floor, h]
  rw [this]
  exact (Rat.den_eq_one_iff q).mp h

theorem onGridPix_of {P : Params} {x : PixIn}
    (h : Flags.isInvalid x.flag = false → ∃ dv, x.d = .num dv ∧ onGrid P dv = true) : onGridPix P x = true := by
  unfold onGridPix
  cases hv : Flags.isInvalid x.flag with
  | true => rfl
  | false =>
    obtain ⟨dv, hd, hg⟩ := h hv
    rw [hd]; exact hg

theorem sampleOf_onGridPix {P : Params} {x : PixIn} {d : ℚ} (hg : onGridPix P x = true)
    (hv : Flags.isInvalid x.flag = false) (hd : x.d = .num d) :
    ((sampleOf P d : Int) : ℚ) = (d - P.dmin) * (P.subpix : ℚ) :=
  onGrid_floor _ (by simpa [onGridPix, hv, hd, onGrid] using hg)

theorem WfFacts.ends {P : Params} {x : PixIn} (W : WfFacts P x) (dv : ℚ) :
    (dv = P.dmin ↔ (dv - P.dmin) * (P.subpix : ℚ) = ((0 : Int) : ℚ)) ∧
    (dv = P.dmax ↔ (dv - P.dmin) * (P.subpix : ℚ) = (((x.costs.length : Int) - 1 : Int) : ℚ)) := by
  have hs := W.subpix_cast_pos.ne'
  rw [Int.cast_zero, mul_eq_zero, sub_eq_zero, or_iff_left hs, W.last_cast, mul_left_inj' hs, sub_left_inj]
  exact ⟨Iff.rfl, Iff.rfl⟩

theorem ends_agree_of_onGrid (P : Params) (x : PixIn) (hwf : wfPix P x = true) (hg : onGridPix P x = true) :
    endsAgree P x := by
  intro hinv dv hd
  have hq := sampleOf_onGridPix hg hinv hd
  have e := ((wfPix_iff P x).mp hwf).ends dv
  rw [← hq, Int.cast_inj, Int.cast_inj] at e
  exact or_congr e.1 e.2

/-- off the grid (after a filter) the two tests still agree unless the disparity designates the
    first sample — the situation of finding C06-F3 -/
theorem ends_agree_offGrid (P : Params) (x : PixIn) (hwf : wfPix P x = true)
    (hoff : ∀ dv, x.d = .num dv → onGrid P dv = false ∧ sampleOf P dv ≠ 0) : endsAgree P x := by
  have W := (wfPix_iff P x).mp hwf
  intro hinv dv hd
  obtain ⟨hng, hs0⟩ := hoff dv hd
  obtain ⟨dv', A, hs2⟩ := W.atSample hinv
  obtain rfl : dv' = dv := Val.num.inj (A.disp.symm.trans hd)
  have hden : ∀ k : Int, (dv' - P.dmin) * (P.subpix : ℚ) ≠ (k : ℚ) := by
    intro k hk
    have : onGrid P dv' = true := by simp [onGrid, hk]
    rw [this] at hng; cases hng
  have hne1 : dv' ≠ P.dmin := fun h => hden 0 ((W.ends dv').1.mp h)
  have hne2 : dv' ≠ P.dmax := fun h => hden _ ((W.ends dv').2.mp h)
  have := hs2 hne2
  exact ⟨fun h => (h.elim hne1 hne2).elim, fun h => h.elim (fun h => absurd h hs0) (by omega)⟩

def insideOK (P : Params) (x : PixIn) (o : PixOut) (tol : Rat) : Bool :=
  (clauses P x o tol).all (fun c => c.1 != "inside_interval" || c.2)

theorem WfFacts.num_inside {P : Params} {x : PixIn} (W : WfFacts P x) (i : Int) (a : ℚ)
    (h : costAt x.costs i = .num a) :
    x.pmin ≤ P.dmin + (i : ℚ) / (P.subpix : ℚ) ∧ P.dmin + (i : ℚ) / (P.subpix : ℚ) ≤ x.pmax := by
  unfold costAt at h
  split_ifs at h with h0
  have hc : ((i.toNat : ℕ) : ℚ) = (i : ℚ) := by rw [← Int.cast_natCast, Int.toNat_of_nonneg h0]
  have hlt : i.toNat < x.costs.length := by
    by_contra hge
    rw [List.getD_eq_getElem?_getD, List.getElem?_eq_none (not_lt.mp hge)] at h
    cases h
  by_contra hcon
  rw [not_and_or, not_le, not_le, ← hc] at hcon
  rw [W.outside i.toNat hlt hcon] at h
  cases h

/-- **On the grid a refined disparity stays inside the pixel's own interval**: the two neighbours of its sample hold
    numbers, hence are samples of that interval (the costs outside it being NaN), one sample away from `d` on either
    side, and the move is at most half a sample. -/
theorem WfFacts.refined_inside {P : Params} {x : PixIn} (W : WfFacts P x) {d a0 a2 t : ℚ} (hg : onGridPix P x = true)
    (hv : Flags.isInvalid x.flag = false) (hd : x.d = .num d)
    (hc0 : costAt x.costs (sampleOf P d - 1) = .num a0) (hc2 : costAt x.costs (sampleOf P d + 1) = .num a2)
    (h1 : -(1/2) ≤ t) (h2 : t ≤ 1/2) :
    x.pmin ≤ d + t / (P.subpix : ℚ) ∧ d + t / (P.subpix : ℚ) ≤ x.pmax := by
  have hsp := W.subpix_cast_pos
  have hq := sampleOf_onGridPix hg hv hd
  obtain ⟨h0, -⟩ := W.num_inside _ _ hc0
  obtain ⟨-, h2'⟩ := W.num_inside _ _ hc2
  rw [Int.cast_sub, Int.cast_one, hq, sub_div, mul_div_cancel_right₀ _ hsp.ne'] at h0
  rw [Int.cast_add, Int.cast_one, hq, add_div, mul_div_cancel_right₀ _ hsp.ne'] at h2'
  have ha : -(1 / (P.subpix : ℚ)) ≤ t / (P.subpix : ℚ) := by
    rw [← neg_div]; exact div_le_div_of_nonneg_right (by linarith) hsp.le
  have hb : t / (P.subpix : ℚ) ≤ 1 / (P.subpix : ℚ) := div_le_div_of_nonneg_right (by linarith) hsp.le
  constructor <;> linarith

theorem insideOK_refine_iff {P : Params} {x : PixIn} {d a0 c1 a2 : ℚ} (hcls : classify P x = .refine d a0 c1 a2)
    (y d' : ℚ) (f : Nat) (tol : ℚ) :
    insideOK P x ⟨.num y, .num d', f⟩ tol = true ↔ P.dmin ≤ d' ∧ d' ≤ P.dmax ∧ x.pmin ≤ d' ∧ d' ≤ x.pmax := by
  cases hm : P.method <;>
    simp only [insideOK, clauses, hcls, valNum?, hm, List.all_cons, List.all_nil, String.reduceBNe, Bool.true_or,
      Bool.false_or, Bool.and_true, Bool.and_eq_true, decide_eq_true_eq, true_and, and_assoc]

theorem Outcome.inside {P : Params} {x : PixIn} {tol : ℚ} {o : PixOut} (h : Outcome P x tol o) (W : WfFacts P x)
    (hg : onGridPix P x = true) : insideOK P x o tol = true := by
  cases h with
  | untouched c h => rcases h with h | h <;> simp [insideOK, clauses, h]
  | stopped c f h _ _ => rcases h with h | h | h <;> simp [insideOK, clauses, h]
  | @refined d a0 c1 a2 hv hd hcls hc0 hc2 r h1 h2 _ _ =>
    obtain ⟨hC, hD⟩ := W.refined_inside hg hv hd hc0 hc2 h1 h2
    exact (insideOK_refine_iff hcls _ _ _ _).mpr ⟨W.pmin_ge.trans hC, hD.trans W.pmax_le, hC, hD⟩

theorem spec_of_core_inside (P : Params) (x : PixIn) (o : PixOut) (tol : ℚ)
    (h1 : coreOK P x o tol = true) (h2 : insideOK P x o tol = true) : specOK P x o tol = true := by
  simp only [coreOK, insideOK, specOK, Bool.and_eq_true, List.all_eq_true, Bool.or_eq_true, bne_iff_ne, ne_eq,
    beq_iff_eq] at *
  intro c hc
  rcases h1.1 c hc with h | h
  · exact h
  · rcases h2 c hc with h' | h'
    · exact absurd h h'
    · exact h'

/-- what is assumed of a pixel for the full statement: well-formed, its disparity is a sample (as
    winner-takes-all leaves it), bit 3 not yet raised (not needed once flags are or-ed) -/
def pixHyp (P : Params) (x : PixIn) : Bool :=
  wfPix P x && onGridPix P x && (P.variant.fixOr || bitAt x.flag 3 == 0)

theorem pixHyp_iff {P : Params} {x : PixIn} : pixHyp P x = true ↔
    wfPix P x = true ∧ onGridPix P x = true ∧ (P.variant.fixOr = true ∨ bitAt x.flag 3 = 0) := by
  simp only [pixHyp, Bool.and_eq_true, Bool.or_eq_true, beq_iff_eq, and_assoc]

/--
  **C06, one pixel.**  For every well-formed pixel whose disparity is a sample of the interval and whose bit 3 is clear,
  `refinePixel` either returns an output satisfying every clause `specOK` evaluates, or the method is the unguarded
  `quadratic`, the pixel is to be refined on three equal costs, and the step raises (finding C06-F2).
  `tol`: 0 gives the exact statement, then the costs must not differ by less than the 1e-15 guard of vfit.py.
  Without `bitAt x.flag 3 = 0` and the right disjunct the statement is false at `variant := {}` (counterexamples below)
  and true with the three repairs (`refinePixel_spec_repaired`).
-/
theorem refinePixel_spec (P : Params) (x : PixIn) (tol : ℚ) (hp : pixHyp P x = true) (htol : 0 ≤ tol)
    (hnt : P.method = .vfit → tiny ≤ tol ∨ notTinyCosts x.costs = true) :
    (∃ o, refinePixel P x = .ok o ∧ specOK P x o tol = true) ∨
    (P.method = .quadratic ∧ P.variant.fixFlat = false ∧ refinePixel P x = .err .zeroDivision
      ∧ ∃ d c, classify P x = .refine d c c c) := by
  obtain ⟨hwf, hg, hbit⟩ := pixHyp_iff.mp hp
  have W := (wfPix_iff P x).mp hwf
  exact (refinePixel_outcome P x tol hwf (Or.inr (ends_agree_of_onGrid P x hwf hg)) hbit htol hnt).imp_left
    fun ⟨o, ho, h⟩ => ⟨o, ho, spec_of_core_inside P x o tol (h.core W.subpix_cast_pos htol) (h.inside W hg)⟩

/-- **C06 for `vfit`**: no exception, every clause. -/
theorem vfit_pixel_spec (P : Params) (x : PixIn) (tol : ℚ) (hm : P.method = .vfit) (hp : pixHyp P x = true)
    (htol : 0 ≤ tol) (hnt : tiny ≤ tol ∨ notTinyCosts x.costs = true) :
    ∃ o, refinePixel P x = .ok o ∧ specOK P x o tol = true :=
  of_vfit_or_guarded (Or.inl hm) (refinePixel_spec P x tol hp htol fun _ => hnt)

/-- **C06 with the three repairs**: both methods, any flag word, no exception. -/
theorem refinePixel_spec_repaired (P : Params) (x : PixIn) (tol : ℚ)
    (hV : P.variant = { fixFlat := true, fixOr := true, fixEnds := true })
    (hwf : wfPix P x = true) (hg : onGridPix P x = true) (htol : 0 ≤ tol)
    (hnt : P.method = .vfit → tiny ≤ tol ∨ notTinyCosts x.costs = true) :
    ∃ o, refinePixel P x = .ok o ∧ specOK P x o tol = true :=
  of_vfit_or_guarded (Or.inr (by rw [hV])) (refinePixel_spec P x tol (pixHyp_iff.mpr ⟨hwf, hg, Or.inl (by rw [hV])⟩) htol hnt)

/-- **Off the grid** (a disparity as a filter leaves it), as long as it does not designate the first
    sample: every clause except `inside_interval` (findings C06-F3 and C06-F5 are exactly the two
    exceptions). -/
theorem refinePixel_spec_offGrid (P : Params) (x : PixIn) (tol : ℚ) (hwf : wfPix P x = true)
    (hoff : ∀ dv, x.d = .num dv → onGrid P dv = false ∧ sampleOf P dv ≠ 0)
    (hbit : P.variant.fixOr = true ∨ bitAt x.flag 3 = 0) (htol : 0 ≤ tol)
    (hnt : P.method = .vfit → tiny ≤ tol ∨ notTinyCosts x.costs = true) :
    (∃ o, refinePixel P x = .ok o ∧ coreOK P x o tol = true) ∨
    (P.method = .quadratic ∧ P.variant.fixFlat = false ∧ refinePixel P x = .err .zeroDivision
      ∧ ∃ d c, classify P x = .refine d c c c) :=
  refinePixel_core P x tol hwf (Or.inr (ends_agree_offGrid P x hwf hoff)) hbit htol hnt

/-- **Off the grid, repaired step**: with the interval-end test made on the sample index the proviso
    about the first sample disappears: every well-formed pixel, every clause except `inside_interval`
    (finding C06-F5 is not repaired by the proposed fixes). -/
theorem refinePixel_core_repaired (P : Params) (x : PixIn) (tol : ℚ)
    (hV : P.variant = { fixFlat := true, fixOr := true, fixEnds := true })
    (hwf : wfPix P x = true) (htol : 0 ≤ tol)
    (hnt : P.method = .vfit → tiny ≤ tol ∨ notTinyCosts x.costs = true) :
    ∃ o, refinePixel P x = .ok o ∧ coreOK P x o tol = true :=
  of_vfit_or_guarded (Or.inr (by rw [hV])) (refinePixel_core P x tol hwf (Or.inl (by rw [hV])) (Or.inl (by rw [hV])) htol hnt)

/-- **`total`, one pixel**: on every well-formed pixel (any cost curve, flag word, variant, disparity on or off the grid) the
    loop body returns, the unguarded `quadratic` dividing by zero apart; no index leaves the cost row (the wrap-around read of
    index -1 is legal). -/
theorem refinePixel_total (P : Params) (x : PixIn) (hwf : wfPix P x = true) :
    (∃ o, refinePixel P x = .ok o) ∨
    (P.method = .quadratic ∧ P.variant.fixFlat = false ∧ refinePixel P x = .err .zeroDivision) := by
  have W := (wfPix_iff P x).mp hwf
  cases hinv : Flags.isInvalid x.flag with
  | true => exact Or.inl ⟨_, refinePixel_invalid P x hinv⟩
  | false =>
  obtain ⟨dv, A, hs2⟩ := W.atSample hinv
  rcases A.refinePixel_cases hs2 with ⟨-, hr⟩ | ⟨c1, -, ⟨-, hr⟩ | ⟨-, v0, -, hr⟩⟩
  · exact Or.inl ⟨_, hr⟩
  · exact Or.inl ⟨_, hr⟩
  · rcases runMethod_total P.variant.fixFlat P.method P.isMax v0 (costAt x.costs (sampleOf P dv + 1)) c1 with
      ⟨r, hm⟩ | ⟨hq, hff, hm⟩
    · exact Or.inl ⟨_, by rw [hr, hm]⟩
    · exact Or.inr ⟨hq, hff, by rw [hr, hm]⟩

theorem all2_mono {α β : Type} (p q : α → β → Bool) (h : ∀ a b, p a b = true → q a b = true) :
    ∀ l r, all2 p l r = true → all2 q l r = true := by
  intro l
  induction l with
  | nil =>
    intro r hr
    cases r with
    | nil => rfl
    | cons b r => simp [all2] at hr
  | cons a l ih =>
    intro r hr
    cases r with
    | nil => simp [all2] at hr
    | cons b r =>
      simp only [all2, Bool.and_eq_true] at hr ⊢
      exact ⟨h a b hr.1, ih r hr.2⟩

/-- three equal costs to be refined (the situation in which `quadratic` raises) -/
def flatRefine (P : Params) (x : PixIn) : Bool :=
  match classify P x with
  | .refine _ a b c => a == b && b == c
  | _ => false

/--
  **C06, the whole map.**  `loop_refinement` on a map of any size whose pixels are well-formed, carry
  sample disparities and have bit 3 clear — and, for the unrepaired `quadratic`, with no pixel to be
  refined on three equal costs — returns, and its output satisfies the specification at every pixel.
-/
theorem loop_spec (P : Params) (g : List (List PixIn)) (tol : ℚ)
    (hp : ∀ row ∈ g, ∀ x ∈ row, pixHyp P x = true)
    (hflat : P.method = .quadratic → P.variant.fixFlat = false → ∀ row ∈ g, ∀ x ∈ row, flatRefine P x = false)
    (htol : 0 ≤ tol)
    (hnt : P.method = .vfit → tiny ≤ tol ∨ ∀ row ∈ g, ∀ x ∈ row, notTinyCosts x.costs = true) :
    ∃ o, loopRefinement P g = .ok o ∧ specGrid P g o tol = true := by
  have hpix : ∀ row ∈ g, ∀ x ∈ row, ∃ o, refinePixel P x = .ok o ∧ specOK P x o tol = true := by
    intro row hrow x hx
    rcases refinePixel_spec P x tol (hp row hrow x hx) htol (fun hm => (hnt hm).imp_right fun h => h row hrow x hx) with
      h | ⟨hq, hff, -, d, c, hcls⟩
    · exact h
    · have := hflat hq hff row hrow x hx
      simp [flatRefine, hcls] at this
  obtain ⟨o, ho⟩ := (mapRes_isOk_iff (mapRes (refinePixel P)) g).mpr fun row hrow =>
    (mapRes_isOk_iff _ row).mpr fun x hx => (hpix row hrow x hx).imp fun _ h => h.1
  refine ⟨o, ho, all2_of_map_eq _ _ g o (fun row hrow r hr => all2_of_map_eq _ _ row r (fun x hx y hy => ?_)
    ((mapRes_eq_ok_iff _ _ _).mp hr)) ((mapRes_eq_ok_iff _ _ _).mp ho)⟩
  obtain ⟨o', ho', hs'⟩ := hpix row hrow x hx
  rw [hy] at ho'
  cases ho'
  exact hs'

/-- **C06, the whole map, with the three repairs.** -/
theorem loop_spec_repaired (P : Params) (g : List (List PixIn)) (tol : ℚ)
    (hV : P.variant = { fixFlat := true, fixOr := true, fixEnds := true })
    (hp : ∀ row ∈ g, ∀ x ∈ row, wfPix P x = true ∧ onGridPix P x = true)
    (htol : 0 ≤ tol)
    (hnt : P.method = .vfit → tiny ≤ tol ∨ ∀ row ∈ g, ∀ x ∈ row, notTinyCosts x.costs = true) :
    ∃ o, loopRefinement P g = .ok o ∧ specGrid P g o tol = true := by
  apply loop_spec P g tol _ _ htol hnt
  · intro row hrow x hx
    obtain ⟨h1, h2⟩ := hp row hrow x hx
    exact pixHyp_iff.mpr ⟨h1, h2, Or.inl (by rw [hV])⟩
  · intro _ hff; rw [hV] at hff; cases hff

/-- **`total` for the whole map**, with `vfit` or the guarded `quadratic` (well-formed pixels, on or off the grid). -/
theorem loop_total (P : Params) (g : List (List PixIn)) (hm : P.method = .vfit ∨ P.variant.fixFlat = true)
    (hwf : ∀ row ∈ g, ∀ x ∈ row, wfPix P x = true) : ∃ o, loopRefinement P g = .ok o := by
  exact (mapRes_isOk_iff _ g).mpr fun row hrow => (mapRes_isOk_iff _ row).mpr fun x hx =>
    of_vfit_or_guarded hm (refinePixel_total P x (hwf row hrow x hx))

/-- the two constants the model uses are the ones `pandora/constants.py` defines -/
theorem flags_tied :
    stoppedBit = Generated.Constants.PANDORA_MSK_PIXEL_STOPPED_INTERPOLATION
    ∧ Flags.pixelInvalid = Generated.Constants.PANDORA_MSK_PIXEL_INVALID := by
  obtain ⟨-, -, -, hs, -, -, -, -, -, -, -, -, hi⟩ := FlagsProps.constants_documented
  exact ⟨hs.symm, hi.symm⟩

theorem stoppedBit_is_bit3 : stoppedBit = 2 ^ 3 := by decide

def exP (m : Method) (isMax : Bool) : Params := { method := m, isMax := isMax, subpix := 2, dmin := -1, dmax := 1 }
def exPix (costs : List Val) (d : Rat) (flag : Nat) : PixIn :=
  { costs := costs, d := .num d, flag := flag, pmin := -1, pmax := 1 }

/-- non-vacuity: a refined pixel (vfit, min), a stopped one, a refined one (quadratic, min) with an information bit set
    satisfy the hypotheses; for the refined ones the concrete output is given -/
example : pixHyp (exP .vfit false) (exPix [.num 5, .num 4, .num 1, .num 2, .num 7] 0 4) = true
    ∧ classify (exP .vfit false) (exPix [.num 5, .num 4, .num 1, .num 2, .num 7] 0 4) = .refine 0 4 1 2
    ∧ notTinyCosts [.num 5, .num 4, .num 1, .num 2, .num 7] = true
    ∧ refinePixel (exP .vfit false) (exPix [.num 5, .num 4, .num 1, .num 2, .num 7] 0 4)
        = .ok ⟨.num (0 : Rat), .num ((1 : Rat) / 6), 4⟩ := by decide +kernel

example : pixHyp (exP .quadratic true) (exPix [.num 1, .nan, .num 3, .num 2, .num 0] 0 0) = true
    ∧ classify (exP .quadratic true) (exPix [.num 1, .nan, .num 3, .num 2, .num 0] 0 0) = .neighbourNan
    ∧ flatRefine (exP .quadratic true) (exPix [.num 1, .nan, .num 3, .num 2, .num 0] 0 0) = false := by
  decide +kernel

example : pixHyp (exP .quadratic false) (exPix [.num 6, .num 3, .num 1, .num 2, .num 0] 0 2048) = true
    ∧ flatRefine (exP .quadratic false) (exPix [.num 6, .num 3, .num 1, .num 2, .num 0] 0 2048) = false
    ∧ refinePixel (exP .quadratic false) (exPix [.num 6, .num 3, .num 1, .num 2, .num 0] 0 2048)
        = .ok ⟨.num ((23 : Rat) / 24), .num ((1 : Rat) / 12), 2048⟩ := by
  decide +kernel

/-- **C06-F2** (clause `total` is false of the unguarded `quadratic`, `fixFlat := false`): `quadratic` on three equal costs raises, on a
    pixel that satisfies every hypothesis of `refinePixel_spec`. -/
theorem quadratic_flat_counterexample :
    pixHyp (exP .quadratic false) (exPix [.num 3, .num 1, .num 1, .num 1, .num 3] 0 0) = true
    ∧ refinePixel (exP .quadratic false) (exPix [.num 3, .num 1, .num 1, .num 1, .num 3] 0 0) = .err .zeroDivision := by
  decide +kernel

/-- **C06-F4** (clauses `stopped_iff`, `only_bit3`): bit 3 already raised, the pixel stops again, `+=`
    turns 8 into 16: bit 3 cleared, bit 4 raised. -/
theorem bit3_twice_counterexample :
    wfPix (exP .vfit false) (exPix [.num 1, .num 4, .num 5, .num 2, .num 7] (-1) 8) = true
    ∧ onGridPix (exP .vfit false) (exPix [.num 1, .num 4, .num 5, .num 2, .num 7] (-1) 8) = true
    ∧ refinePixel (exP .vfit false) (exPix [.num 1, .num 4, .num 5, .num 2, .num 7] (-1) 8)
        = .ok ⟨.num 1, .num (-1), 16⟩
    ∧ failing (exP .vfit false) (exPix [.num 1, .num 4, .num 5, .num 2, .num 7] (-1) 8) ⟨.num 1, .num (-1), 16⟩ 0
        = ["stopped_iff", "only_bit3"] := by
  decide +kernel

/-- **C06-F3** (clause `stopped_iff`): a disparity strictly between the first two samples designates
    sample 0 — an end of the interval — but is refined, with the cost of `dmax` (index -1 wraps around) as
    its left neighbour. -/
theorem offgrid_wraparound_counterexample :
    wfPix (exP .vfit false) (exPix [.num 1, .num 8, .num 3, .num 5, .num 4] (-7/8) 0) = true
    ∧ classify (exP .vfit false) (exPix [.num 1, .num 8, .num 3, .num 5, .num 4] (-7/8) 0) = .atIntervalEnd
    ∧ refinePixel (exP .vfit false) (exPix [.num 1, .num 8, .num 3, .num 5, .num 4] (-7/8) 0)
        = .ok ⟨.num (-1), .num (-7/8 + (-2/7) / 2), 0⟩
    ∧ failing (exP .vfit false) (exPix [.num 1, .num 8, .num 3, .num 5, .num 4] (-7/8) 0)
        ⟨.num (-1), .num (-7/8 + (-2/7) / 2), 0⟩ 0 = ["stopped_iff"] := by
  decide +kernel

/-- **C06-F5** (clause `inside_interval`): a disparity a quarter of a sample below `dmax`, centre and
    right neighbour tied: moved by half a sample, past the end of the interval. -/
theorem offgrid_past_end_counterexample :
    wfPix (exP .vfit false) (exPix [.num 9, .num 9, .num 5, .num 1, .num 1] (7/8) 0) = true
    ∧ refinePixel (exP .vfit false) (exPix [.num 9, .num 9, .num 5, .num 1, .num 1] (7/8) 0)
        = .ok ⟨.num (-1), .num (7/8 + (1/2) / 2), 0⟩
    ∧ failing (exP .vfit false) (exPix [.num 9, .num 9, .num 5, .num 1, .num 1] (7/8) 0)
        ⟨.num (-1), .num (7/8 + (1/2) / 2), 0⟩ 0 = ["inside_interval"] := by
  decide +kernel

def exPfixed (m : Method) : Params :=
  { variant := { fixFlat := true, fixOr := true, fixEnds := true }, method := m, isMax := false, subpix := 2, dmin := -1, dmax := 1 }

/-- the repaired model on the inputs of the four counterexamples: the flat triple is left in place
    without a flag, bit 3 stays bit 3, the off-grid pixel at sample 0 is stopped; the off-grid pixel next
    to `dmax` still leaves the interval (C06-F5 is not repaired by the proposed fixes) -/
theorem repaired_on_counterexamples :
    refinePixel (exPfixed .quadratic) (exPix [.num 3, .num 1, .num 1, .num 1, .num 3] 0 0) = .ok ⟨.num 1, .num 0, 0⟩
    ∧ refinePixel (exPfixed .vfit) (exPix [.num 1, .num 4, .num 5, .num 2, .num 7] (-1) 8) = .ok ⟨.num 1, .num (-1), 8⟩
    ∧ refinePixel (exPfixed .vfit) (exPix [.num 1, .num 8, .num 3, .num 5, .num 4] (-7/8) 0) = .ok ⟨.num 1, .num (-7/8), 8⟩
    ∧ failing (exPfixed .vfit) (exPix [.num 9, .num 9, .num 5, .num 1, .num 1] (7/8) 0)
        ⟨.num (-1), .num (7/8 + (1/2) / 2), 0⟩ 0 = ["inside_interval"] := by
  decide +kernel

/-! ## The source as it is (`Generated/RefineCC.lean`, regenerated from the source text on every run) -/

/-- the literals of vfit.py / quadratic.py are the ones the model uses: the `1e-15` guard, the clamp to [-1, 1] -/
theorem source_literals :
    tiny = mkRat (Generated.RefineCC.vfitGuardNum : Int) Generated.RefineCC.vfitGuardDen
    ∧ (∀ x : Rat, clamp1 x =
        if x < mkRat Generated.RefineCC.clampLo Generated.RefineCC.clampLoDen
        then mkRat Generated.RefineCC.clampLo Generated.RefineCC.clampLoDen
        else if mkRat Generated.RefineCC.clampHi Generated.RefineCC.clampHiDen < x
        then mkRat Generated.RefineCC.clampHi Generated.RefineCC.clampHiDen else x) := by
  constructor
  · decide +kernel
  · intro x
    have e1 : mkRat Generated.RefineCC.clampLo Generated.RefineCC.clampLoDen = -1 := by decide +kernel
    have e2 : mkRat Generated.RefineCC.clampHi Generated.RefineCC.clampHiDen = 1 := by decide +kernel
    rw [e1, e2]; rfl

/-- which repairs the source carries, read from its text (`+=` or `|=`, the form of the interval-end test,
    the `alpha == 0` guard) -/
def sourceVariant : Variant :=
  { fixFlat := Generated.RefineCC.quadraticFlatGuard, fixOr := Generated.RefineCC.flagUpdateIsOr,
    fixEnds := Generated.RefineCC.endTestOnIndex }

/-- **C06 for the source as it is**: `refinePixel_spec` at the variant regenerated from the source.  `_hP` is not used:
    the statement holds at every variant, the right disjunct being empty where `fixFlat` is set. -/
theorem source_pixel_spec (P : Params) (x : PixIn) (tol : ℚ) (_hP : P.variant = sourceVariant)
    (hp : pixHyp P x = true) (htol : 0 ≤ tol)
    (hnt : P.method = .vfit → tiny ≤ tol ∨ notTinyCosts x.costs = true) :
    (∃ o, refinePixel P x = .ok o ∧ specOK P x o tol = true) ∨
    (P.method = .quadratic ∧ P.variant.fixFlat = false ∧ refinePixel P x = .err .zeroDivision
      ∧ ∃ d c, classify P x = .refine d c c c) :=
  refinePixel_spec P x tol hp htol hnt

end Pandora.C06
