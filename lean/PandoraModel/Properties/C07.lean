/-
  C07 — Cross-checking flags exactly the left-right inconsistent pixels, nothing else.

  Facts about the executable model `Model/CrossCheck.lean` (`rint`, `comp`, `ccPixel`, `check`, `validationRun`) that
  hold for any map size, any disparities (rational or NaN), any flag words, any threshold, any interval: rounding,
  the flag word, what the mismatch search decides, what happens to every pixel, how the map is assembled from
  the pixels.  The specification theorems (both readings of `round`) are in `Properties/C07HalfEven.lean`.
-/
import PandoraModel.Model.PipelineRun
import PandoraModel.Model.CrossCheck
import PandoraModel.Properties.Flags
import PandoraModel.Lemmas.FlagWord
import PandoraModel.Generated.Constants
import PandoraModel.Generated.RefineCC
import Mathlib.Tactic.Linarith
import Mathlib.Tactic.Ring
import Mathlib.Algebra.Order.Field.Basic

namespace Pandora.C07
open Pandora.CrossCheck

theorem floor_frac (x : ℚ) : 0 ≤ x - (x.floor : ℚ) ∧ x - (x.floor : ℚ) < 1 := by
  have h1 := Rat.floor_le x
  have h2 := Rat.lt_floor_add_one x
  push_cast at h2
  constructor <;> linarith

theorem floor_unique (x : ℚ) (n : Int) (h0 : (n : ℚ) ≤ x) (h1 : x < (n : ℚ) + 1) : x.floor = n :=
  le_antisymm (Int.lt_add_one_iff.mp (Rat.floor_lt_iff.mpr (by push_cast; exact h1))) (Rat.le_floor_iff.mpr h0)

theorem abs_sub_le_half_iff (x : ℚ) (n : Int) :
    |x - (n : ℚ)| ≤ 1 / 2 ↔
      (n = x.floor ∧ x - (x.floor : ℚ) ≤ 1 / 2) ∨ (n = x.floor + 1 ∧ 1 / 2 ≤ x - (x.floor : ℚ)) := by
  obtain ⟨h0, h1⟩ := floor_frac x
  rw [abs_le]
  constructor
  · rintro ⟨ha, hb⟩
    have hlo : x.floor - 1 < n := by exact_mod_cast (by linarith only [h0, hb] : ((x.floor : ℚ) - 1 < n))
    have hhi : n < x.floor + 2 := by exact_mod_cast (by linarith only [h1, ha] : ((n : ℚ) < x.floor + 2))
    obtain rfl | rfl : n = x.floor ∨ n = x.floor + 1 := by omega
    · exact Or.inl ⟨rfl, hb⟩
    · refine Or.inr ⟨rfl, ?_⟩
      push_cast at ha
      linarith only [ha]
  · rintro (⟨rfl, h⟩ | ⟨rfl, h⟩)
    · exact ⟨by linarith only [h0], h⟩
    · push_cast
      constructor <;> linarith only [h, h1]

theorem abs_sub_eq_half_iff (x : ℚ) (n : Int) :
    |x - (n : ℚ)| = 1 / 2 ↔ (n = x.floor ∨ n = x.floor + 1) ∧ x - (x.floor : ℚ) = 1 / 2 := by
  obtain ⟨h0, h1⟩ := floor_frac x
  have hf : |x - (x.floor : ℚ)| = x - x.floor := abs_of_nonneg h0
  have hf1 : |x - ((x.floor + 1 : Int) : ℚ)| = 1 - (x - x.floor) := by
    rw [abs_of_nonpos (by push_cast; linarith only [h1])]; push_cast; ring
  constructor
  · intro h
    rcases (abs_sub_le_half_iff x n).mp h.le with ⟨rfl, -⟩ | ⟨rfl, -⟩
    · exact ⟨Or.inl rfl, hf ▸ h⟩
    · exact ⟨Or.inr rfl, by rw [hf1] at h; linarith only [h]⟩
  · rintro ⟨rfl | rfl, h⟩
    · rw [hf, h]
    · rw [hf1, h]; norm_num

theorem mem_nearestInts (x : ℚ) (n : Int) : n ∈ nearestInts x ↔ |x - (n : ℚ)| ≤ 1 / 2 := by
  rw [abs_sub_le_half_iff]
  unfold nearestInts
  simp only
  split
  · rename_i h1
    rw [List.mem_singleton]
    exact ⟨fun h => Or.inl ⟨h, h1.le⟩, fun h => h.elim And.left fun h => absurd h.2 (not_le.mpr h1)⟩
  · rename_i h1
    split
    · rename_i h2
      rw [List.mem_singleton]
      exact ⟨fun h => Or.inr ⟨h, h2.le⟩, fun h => h.elim (fun h => absurd h.2 (not_le.mpr h2)) And.left⟩
    · rename_i h2
      simp only [List.mem_cons, List.not_mem_nil, or_false]
      exact ⟨Or.imp (fun h => ⟨h, not_lt.mp h2⟩) (fun h => ⟨h, not_lt.mp h1⟩), Or.imp And.left And.left⟩

/-- numpy's `rint` is the nearest integer, the even one on an exact half — and the only integer of that kind -/
theorem rint_eq_iff (x : ℚ) (n : Int) :
    rint x = n ↔ |x - (n : ℚ)| ≤ 1 / 2 ∧ (|x - (n : ℚ)| = 1 / 2 → n % 2 = 0) := by
  rw [abs_sub_le_half_iff, abs_sub_eq_half_iff]
  unfold rint
  simp only
  generalize x - (x.floor : ℚ) = r
  split
  · rename_i h1
    constructor
    · rintro rfl
      exact ⟨Or.inl ⟨rfl, h1.le⟩, fun h => absurd h.2 h1.ne⟩
    · rintro ⟨⟨rfl, -⟩ | ⟨-, h⟩, -⟩
      · rfl
      · exact absurd h1 (not_lt.mpr h)
  · rename_i h1
    split
    · rename_i h2
      constructor
      · rintro rfl
        exact ⟨Or.inr ⟨rfl, h2.le⟩, fun h => absurd h.2 h2.ne'⟩
      · rintro ⟨⟨-, h⟩ | ⟨rfl, -⟩, -⟩
        · exact absurd h2 (not_lt.mpr h)
        · rfl
    · -- an exact half: both neighbours are nearest, parity decides
      rename_i h2
      have hr : r = 1 / 2 := le_antisymm (not_lt.mp h2) (not_lt.mp h1)
      constructor
      · intro h
        refine ⟨?_, fun _ => ?_⟩
        · split at h
          · exact Or.inl ⟨h.symm, hr.le⟩
          · exact Or.inr ⟨h.symm, hr.ge⟩
        · split at h <;> omega
      · rintro ⟨hn, he⟩
        have := he ⟨hn.imp And.left And.left, hr⟩
        rcases hn with ⟨rfl, -⟩ | ⟨rfl, -⟩ <;> split <;> omega

theorem rint_nearest (x : ℚ) : |x - (rint x : ℚ)| ≤ 1 / 2 := ((rint_eq_iff x _).mp rfl).1

theorem rint_mem_nearest (x : ℚ) : rint x ∈ nearestInts x := (mem_nearestInts x _).mpr (rint_nearest x)

/-- **the specification's round-half-to-even is the model's `np.rint`** -/
theorem rintEven_eq_rint (x : ℚ) : rintEven x = rint x := by
  obtain ⟨h0, h1⟩ := floor_frac x
  unfold rintEven rint
  simp only
  by_cases hlt : x - (x.floor : ℚ) < 1 / 2
  · -- below the half: `⌊x + 1/2⌋ = ⌊x⌋`, and `x + 1/2` is not an integer
    have hf : (x + 1 / 2).floor = x.floor := floor_unique _ _ (by linarith only [h0]) (by linarith only [hlt])
    rw [hf, if_pos hlt, if_neg]
    rintro ⟨he, -⟩
    linarith only [he, h0]
  · rw [if_neg hlt]
    have hf : (x + 1 / 2).floor = x.floor + 1 :=
      floor_unique _ _ (by push_cast; linarith only [hlt]) (by push_cast; linarith only [h1])
    rw [hf]
    by_cases hgt : 1 / 2 < x - (x.floor : ℚ)
    · rw [if_pos hgt, if_neg]
      rintro ⟨he, -⟩
      push_cast at he
      linarith only [he, hgt]
    · rw [if_neg hgt]
      have hint : ((x.floor + 1 : Int) : ℚ) = x + 1 / 2 := by push_cast; linarith only [hlt, hgt]
      by_cases hev : x.floor % 2 = 0
      · rw [if_pos hev, if_pos ⟨hint, by omega⟩]
        omega
      · rw [if_neg hev, if_neg]
        rintro ⟨-, hodd⟩
        omega

theorem rintEven_eq_iff (x : ℚ) (n : Int) :
    rintEven x = n ↔ |x - (n : ℚ)| ≤ 1 / 2 ∧ (|x - (n : ℚ)| = 1 / 2 → n % 2 = 0) :=
  rintEven_eq_rint x ▸ rint_eq_iff x n

theorem rintEven_unique (x : ℚ) (n : Int) (hn : |x - (n : ℚ)| ≤ 1 / 2)
    (he : |x - (n : ℚ)| = 1 / 2 → n % 2 = 0) : n = rintEven x :=
  ((rintEven_eq_iff x n).mpr ⟨hn, he⟩).symm

theorem valid_bits_clear (flag : Nat) (h : Flags.isInvalid flag = false) :
    bitAt flag 8 = 0 ∧ bitAt flag 9 = 0 :=
  ⟨(FlagWord.div_mod_two_eq_zero flag 8).2 (FlagWord.testBit_of_not_isInvalid h rfl),
    (FlagWord.div_mod_two_eq_zero flag 9).2 (FlagWord.testBit_of_not_isInvalid h rfl)⟩

theorem sameExcept89_iff (f g : Nat) : sameExcept89 f g = true ↔ ∀ j, j ≠ 8 → j ≠ 9 → f.testBit j = g.testBit j :=
  (FlagWord.same_outside_iff f g 8 10).trans (forall_congr' fun j => ⟨fun h h8 h9 => h (by omega), fun h hj => h (by omega) (by omega)⟩)

/-- a word with exactly bit `i` (8 or 9) raised, in the specification's terms -/
theorem raised_89 {flag f i : Nat} (hi : i = 8 ∨ i = 9) (hbit : ∀ j, f.testBit j = (flag.testBit j || decide (i = j)))
    (h8 : flag.testBit 8 = false) (h9 : flag.testBit 9 = false) :
    bitAt f 9 = i - 8 ∧ bitAt f 8 = 9 - i ∧ sameExcept89 f flag = true := by
  refine ⟨?_, ?_, (sameExcept89_iff f flag).2 fun j j8 j9 => by rw [hbit]; rcases hi with rfl | rfl <;> simp [Ne.symm j8, Ne.symm j9]⟩
  · show f / 2 ^ 9 % 2 = _
    rw [FlagWord.div_mod_two, hbit, h9]; rcases hi with rfl | rfl <;> rfl
  · show f / 2 ^ 8 % 2 = _
    rw [FlagWord.div_mod_two, hbit, h8]; rcases hi with rfl | rfl <;> rfl

/-- `+= OCCLUSION; += MISMATCH * k; -= OCCLUSION * k` on a word whose bits 8 and 9 are clear raises bit `8 + k` -/
theorem flag_arith (flag k : Nat) (h8 : bitAt flag 8 = 0) (h9 : bitAt flag 9 = 0) (hk : k = 0 ∨ k = 1) :
    let f := flag + Flags.occlusion + Flags.mismatch * k - Flags.occlusion * k
    bitAt f 9 = k ∧ bitAt f 8 = 1 - k ∧ sameExcept89 f flag = true := by
  have t8 := (FlagWord.div_mod_two_eq_zero flag 8).1 h8
  have t9 := (FlagWord.div_mod_two_eq_zero flag 9).1 h9
  rcases hk with rfl | rfl
  · exact raised_89 (Or.inl rfl) (fun j => C04.testBit_add_two_pow flag 8 j t8) t8 t9
  · have : flag + Flags.occlusion + Flags.mismatch * 1 - Flags.occlusion * 1 = flag + 2 ^ 9 := by
      show _ + 256 + 512 * 1 - 256 * 1 = _; omega
    intro f
    exact raised_89 (Or.inr rfl) (fun j => (congrArg (·.testBit j) this).trans (C04.testBit_add_two_pow flag 9 j t9)) t8 t9

theorem comp_cases (ncol : Nat) (dR : List Val) (c : Nat) (range : List Int) :
    comp ncol dR c range = 0 ∨ comp ncol dR c range = 1 := by
  unfold comp
  simp only
  split
  · right; rfl
  · omega

theorem comp_eq_one_iff (ncol : Nat) (dR : List Val) (c : Nat) (range : List Int) :
    comp ncol dR c range = 1 ↔ ∃ d ∈ range, matchAt ncol dR c d = true := by
  unfold comp
  simp only
  have hpos : 0 < (range.filter (matchAt ncol dR c)).length ↔ ∃ d ∈ range, matchAt ncol dR c d = true := by
    rw [List.length_pos_iff_exists_mem]
    simp only [List.mem_filter]
  constructor
  · intro h
    apply hpos.mp
    split at h <;> omega
  · intro h
    have := hpos.mpr h
    split <;> omega

theorem dispRightAt_eq_cell (ncol : Nat) (dR : List Val) (idx : Int) (h : dR.length = ncol) :
    dispRightAt ncol dR idx = cell dR idx := by
  simp only [dispRightAt, cell, h]

/-- **the search of the code decides the half-even witness exactly**: `matchAt` is the half-even test -/
theorem comp_eq_one_iff_witnessEven (P : Params) (ncol : Nat) (dR : List Val) (c : Nat) (h : dR.length = ncol) :
    comp ncol dR c (arange P.dmin P.dmax) = 1 ↔ witnessEven P dR c = true := by
  have hm : witnessEven P dR c = (arange P.dmin P.dmax).any (matchAt ncol dR c) := by
    unfold witnessEven
    congr 1
    funext d
    simp only [matchAt, dispRightAt_eq_cell _ _ _ h, rintEven_eq_rint]
  rw [comp_eq_one_iff, hm, List.any_eq_true]

theorem cellTest_mono (o : Option Val) (p q : ℚ → Bool) (h : ∀ v, p v = true → q v = true) :
    (match o with | some (.num v) => p v | _ => false) = true →
      (match o with | some (.num v) => q v | _ => false) = true := by
  rcases o with _ | _ | v
  · exact id
  · exact id
  · exact h v

/-- strict ⇒ half-even ⇒ loose: a single nearest integer is the one `rint` returns, and `rint` returns a nearest one -/
theorem witnessEven_of_strict (P : Params) (dR : List Val) (c : Nat) (h : witness true P dR c = true) :
    witnessEven P dR c = true := by
  simp only [witness, witnessEven, List.any_eq_true, if_true] at *
  obtain ⟨d, hd, hm⟩ := h
  refine ⟨d, hd, cellTest_mono _ _ _ (fun v hv => ?_) hm⟩
  rw [beq_iff_eq] at hv ⊢
  rw [rintEven_eq_rint]
  exact List.mem_singleton.mp (hv ▸ rint_mem_nearest v)

theorem witness_loose_of_even (P : Params) (dR : List Val) (c : Nat) (h : witnessEven P dR c = true) :
    witness false P dR c = true := by
  simp only [witness, witnessEven, List.any_eq_true, Bool.false_eq_true, if_false] at *
  obtain ⟨d, hd, hm⟩ := h
  refine ⟨d, hd, cellTest_mono _ _ _ (fun v hv => ?_) hm⟩
  rw [beq_iff_eq, rintEven_eq_rint] at hv
  rw [List.contains_eq_mem, decide_eq_true_eq, ← hv]
  exact rint_mem_nearest v

theorem mem_arange (lo hi d : Int) : d ∈ arange lo hi ↔ lo ≤ d ∧ d ≤ hi := by
  simp only [arange, List.mem_map, List.mem_range]
  constructor
  · rintro ⟨k, hk, rfl⟩; omega
  · rintro ⟨h1, h2⟩
    exact ⟨(d - lo).toNat, by omega, by omega⟩

theorem cell_inrange (g : List Val) (i : Int) (h0 : 0 ≤ i) (h1 : i < (g.length : Int)) :
    cell g i = some (g.getD i.toNat .nan) := by
  simp [cell, h0, h1]

/-- the "outside the right image" branch of the code can never be taken (root cause of C07-F1) -/
theorem outside_never (ncol : Nat) (q : Option Int) : outsideRightAsWritten ncol q = false := by
  cases q with
  | none => rfl
  | some q =>
    simp only [outsideRightAsWritten, Bool.and_eq_false_iff, decide_eq_false_iff_not]
    omega

variable (V : Variant)

/-- clause `invalid_not_reexamined`: a pixel that enters the step invalid leaves it with the same flag word (and no
    confidence value): `disparity_checking` only looks at `valid_pixel` -/
theorem ccPixel_invalid (P : Params) (ncol : Nat) (dL dR : List Val) (c flag : Nat)
    (h : Flags.isInvalid flag = true) : ccPixel V P ncol dL dR c flag = ⟨flag, .nan⟩ := by
  simp [ccPixel, h]

/-- **C07-F1, in general**: a valid pixel whose correspondent is not in the right image (or has none)
    comes out exactly as it went in — it is never flagged. -/
theorem ccPixel_outside_unflagged (P : Params) (ncol : Nat) (dL dR : List Val) (c flag : Nat)
    (hv : Flags.isInvalid flag = false) (hout : insideRight ncol (colRight c (dL.getD c .nan)) = false) :
    ccPixel .asIs P ncol dL dR c flag = ⟨flag, .nan⟩ := by
  simp only [ccPixel, ccOutside, hv, Bool.false_eq_true, ↓reduceIte, hout, outside_never]

theorem ccPixel_cases (P : Params) (ncol : Nat) (dL dR : List Val) (c flag : Nat) :
    (Flags.isInvalid flag = true ∧ ccPixel V P ncol dL dR c flag = ⟨flag, .nan⟩)
    ∨ (Flags.isInvalid flag = false ∧ ∃ qi, colRight c (dL.getD c .nan) = some qi ∧ insideRight ncol (some qi) = true
        ∧ ccPixel V P ncol dL dR c flag = ccInside P ncol dL dR c flag qi)
    ∨ (Flags.isInvalid flag = false ∧ insideRight ncol (colRight c (dL.getD c .nan)) = false
        ∧ ccPixel V P ncol dL dR c flag = ccOutside V P ncol dR c flag (colRight c (dL.getD c .nan))) := by
  unfold ccPixel
  cases hv : Flags.isInvalid flag
  · rw [if_neg Bool.false_ne_true]
    cases hq : colRight c (dL.getD c .nan) with
    | none => exact Or.inr (Or.inr ⟨rfl, rfl, rfl⟩)
    | some qi =>
      cases hi : insideRight ncol (some qi)
      · exact Or.inr (Or.inr ⟨rfl, rfl, by simp only [hi, Bool.false_eq_true, if_false]⟩)
      · exact Or.inr (Or.inl ⟨rfl, qi, rfl, hi, by simp only [hi, if_true]⟩)
  · exact Or.inl ⟨rfl, if_pos rfl⟩

/-- the step leaves the flag word alone or does `+= OCCLUSION; += MISMATCH * k; -= OCCLUSION * k` with `k ≤ 1` -/
theorem ccPixel_flag_cases (P : Params) (ncol : Nat) (dL dR : List Val) (c flag : Nat) :
    (ccPixel V P ncol dL dR c flag).flag = flag
    ∨ ∃ k, (k = 0 ∨ k = 1)
        ∧ (ccPixel V P ncol dL dR c flag).flag = flag + Flags.occlusion + Flags.mismatch * k - Flags.occlusion * k := by
  have hk := comp_cases ncol dR c (arange P.dmin P.dmax)
  rcases ccPixel_cases V P ncol dL dR c flag with ⟨-, e⟩ | ⟨-, qi, -, -, e⟩ | ⟨-, -, e⟩ <;> rw [e]
  · exact Or.inl rfl
  · unfold ccInside
    simp only
    split
    · exact Or.inr ⟨_, hk, rfl⟩
    · exact Or.inl rfl
  · cases V
    · exact Or.inl (by simp only [ccOutside, outside_never, Bool.false_eq_true, if_false])
    · exact Or.inr ⟨0, Or.inl rfl, rfl⟩
    · exact Or.inr ⟨_, hk, rfl⟩

/-- **never both, no other bit**: on a previously valid pixel the step sets at most one of bits 8
    and 9 and touches no other bit — for every input -/
theorem ccPixel_never_both (P : Params) (ncol : Nat) (dL dR : List Val) (c flag : Nat)
    (hv : Flags.isInvalid flag = false) :
    ¬(bitAt (ccPixel V P ncol dL dR c flag).flag 8 = 1 ∧ bitAt (ccPixel V P ncol dL dR c flag).flag 9 = 1)
    ∧ sameExcept89 (ccPixel V P ncol dL dR c flag).flag flag = true := by
  obtain ⟨h8, h9⟩ := valid_bits_clear flag hv
  rcases ccPixel_flag_cases V P ncol dL dR c flag with h | ⟨k, hk, h⟩ <;> rw [h]
  · refine ⟨fun hb => ?_, by simp only [sameExcept89, beq_self_eq_true, Bool.and_self]⟩
    rw [h8] at hb
    exact absurd hb.1 (by decide)
  · obtain ⟨b9, b8, hs⟩ := flag_arith flag k h8 h9 hk
    refine ⟨fun hb => ?_, hs⟩
    rw [b8, b9] at hb
    omega

theorem zipWith3_getElem? {α β γ δ : Type} (f : α → β → γ → δ) :
    ∀ (as : List α) (bs : List β) (cs : List γ) (i : Nat) (a : α) (b : β) (c : γ),
      as[i]? = some a → bs[i]? = some b → cs[i]? = some c → (zipWith3 f as bs cs)[i]? = some (f a b c)
  | [], _, _, _, _, _, _, ha, _, _ => nomatch ha
  | _ :: _, [], _, _, _, _, _, _, hb, _ => nomatch hb
  | _ :: _, _ :: _, [], _, _, _, _, _, _, hc => nomatch hc
  | x :: xs, y :: ys, z :: zs, 0, a, b, c, ha, hb, hc => by
    rw [List.getElem?_cons_zero, Option.some.injEq] at ha hb hc
    rw [← ha, ← hb, ← hc]
    rfl
  | x :: xs, y :: ys, z :: zs, i + 1, a, b, c, ha, hb, hc =>
    zipWith3_getElem? f xs ys zs i a b c ha hb hc

/-- every output cell is the per-pixel function of row `r` (then `mask_border`) -/
theorem check_pix (P : Params) (A B : Dataset) (r c : Nat) (dL dR : List Val) (mL : List Nat)
    (hA : A.disp[r]? = some dL) (hB : B.disp[r]? = some dR) (hM : A.mask[r]? = some mL) (hc : c < dL.length) :
    outPix (check V P A B) r c =
      ⟨if P.offset > 0 ∧ isBorder P.offset A.disp.length dL.length r c = true then Flags.leftNodataOrBorder
        else (ccPixel V P dL.length dL dR c (mL.getD c 0)).flag,
       (ccPixel V P dL.length dL dR c (mL.getD c 0)).conf⟩ := by
  have hrow := zipWith3_getElem? (ccRow V P) A.disp B.disp A.mask r dL dR mL hA hB hM
  have hlen : (ccRow V P dL dR mL).length = dL.length := by simp [ccRow]
  have hcell : (ccRow V P dL dR mL)[c]? = some (ccPixel V P dL.length dL dR c (mL.getD c 0)) := by
    simp [ccRow, hc]
  simp only [outPix, check, List.getD_eq_getElem?_getD, List.getElem?_mapIdx, List.getElem?_map, hrow, hcell,
    Option.map_some, Option.getD_some, hlen]

/-- the cross-checking writes flags and a confidence map, never a disparity (DESIGN.md: `cc_disparity_unchanged`) -/
theorem check_disp_unchanged (P : Params) (A B : Dataset) : (check V P A B).disp = A.disp := rfl

/-- the validity mask of the dataset checked *against* plays no role -/
theorem check_other_mask_irrelevant (P : Params) (A B : Dataset) (m : Grid Nat) :
    check V P A B = check V P A { disp := B.disp, mask := m } := rfl

/-- **right_same_rule**: `validation_run` checks the right map against the left one by the very same
    function, and — the first check not having modified the left disparities — against the *original*
    left map. -/
theorem validationRun_right_same_rule (PL PR : Params) (L R : Dataset) :
    (validationRun V PL PR L R).1 = check V PL L R ∧ (validationRun V PL PR L R).2 = check V PR R L := by
  constructor
  · rfl
  · simp only [validationRun]
    rfl


/-- the constants the model uses are the ones `pandora/constants.py` defines -/
theorem flags_tied :
    Flags.occlusion = Generated.Constants.PANDORA_MSK_PIXEL_OCCLUSION
    ∧ Flags.mismatch = Generated.Constants.PANDORA_MSK_PIXEL_MISMATCH
    ∧ Flags.leftNodataOrBorder = Generated.Constants.PANDORA_MSK_PIXEL_LEFT_NODATA_OR_BORDER
    ∧ Flags.pixelInvalid = Generated.Constants.PANDORA_MSK_PIXEL_INVALID := by
  obtain ⟨h1, -, -, -, -, -, -, -, h9, h10, -, -, h13⟩ := FlagsProps.constants_documented
  exact ⟨h9.symm, h10.symm, h1.symm, h13.symm⟩

def exParams : Params := { threshold := 1, dmin := -2, dmax := 3, offset := 0 }
def exA : Dataset := { disp := [[.num 0, .num 1, .num (-1), .num (1/2), .num 0]], mask := [[0, 0, 4, 0, 2]] }
def exB : Dataset := { disp := [[.num 1, .num 3, .num 2, .num 0, .num 0]], mask := [[0, 0, 0, 0, 0]] }

/-- non-vacuity: a map whose valid pixels all have their correspondent in the image (`CorrespondentsInside` of
    `Properties/C07HalfEven.lean`), with a kept pixel, a mismatch, an occlusion, a kept tie and an invalid pixel -/
example : (check .asIs exParams exA exB).mask = [[0, 512, 4 + 256, 0, 2]]
    ∧ (check .asIs exParams exA exB).conf = [[.fin 1, .fin 3, .fin 2, .fin (1/2), .nan]]
    ∧ ((List.range 5).all fun c =>
        insideRight 5 (colRight c ((exA.disp.getD 0 []).getD c .nan))) = true := by
  decide +kernel

/-- **C07-F1** (clauses `kept_iff_consistent`, `mismatch_iff_witness` false of the variant `asIs`): `dL = 3` at the
    last of four columns: the correspondent (column 6) is outside the right image and the pixel stays
    unflagged, although `round(dR(p + d)) = -d` for `d = -2`.  The repaired model flags it mismatch; the
    `|` repair flags it occlusion. -/
theorem cc_outside_counterexample :
    (check .asIs exParams { disp := [[.num 0, .num 0, .num 0, .num 3]], mask := [[0, 0, 0, 0]] }
        { disp := [[.num 2, .num 2, .num 2, .num 2]], mask := [[0, 0, 0, 0]] }).mask = [[256, 256, 512, 0]]
    ∧ failingPix exParams false [.num 0, .num 0, .num 0, .num 3] [.num 2, .num 2, .num 2, .num 2] 3 0 ⟨0, .nan⟩
        = ["kept_iff_consistent", "mismatch_iff_witness"]
    ∧ (check .ruleFix exParams { disp := [[.num 0, .num 0, .num 0, .num 3]], mask := [[0, 0, 0, 0]] }
        { disp := [[.num 2, .num 2, .num 2, .num 2]], mask := [[0, 0, 0, 0]] }).mask = [[256, 256, 512, 512]]
    ∧ (check .orFix exParams { disp := [[.num 0, .num 0, .num 0, .num 3]], mask := [[0, 0, 0, 0]] }
        { disp := [[.num 2, .num 2, .num 2, .num 2]], mask := [[0, 0, 0, 0]] }).mask = [[256, 256, 512, 256]] := by
  decide +kernel


/-- which repair of C07-F1 the source carries, read from its text (`Generated/RefineCC.lean`, regenerated on every run) -/
def sourceVariant : Variant :=
  if Generated.RefineCC.outsideSearched then .ruleFix
  else if Generated.RefineCC.outsideIsOr then .orFix else .asIs

end Pandora.C07
