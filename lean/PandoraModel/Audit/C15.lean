import PandoraModel.Properties.C15
import PandoraModel.Properties.C01
import PandoraModel.Properties.C15Grids
import PandoraModel.Properties.C15Kernels
import PandoraModel.Properties.C15KernelsGlue
open Pandora.C15
#print axioms levelSizes_length
#print axioms levelSizes_last
#print axioms ceilDiv_le
#print axioms zoom_covers
#print axioms boundAfter_eq
#print axioms coarsest_interval
#print axioms user_interval_at_scale
#print axioms finest_interval
#print axioms zoomIndex_lt
#print axioms parent_near
#print axioms mcScales_block
#print axioms scales_executed
#print axioms coarse_blocks_stop_at_multiscale
#print axioms Pandora.C01.run_accepts
#print axioms Pandora.C01.runTable_documented
#print axioms nanMin_eq
#print axioms nanMax_eq
#print axioms nums_window
#print axioms zoomIndex_one
#print axioms upsampleCrop_tab
#print axioms coarseCell_spec
#print axioms nextLevelGrids_eq_spec
#print axioms nextLevelGrids_eq_spec_one
#print axioms ratTrunc_mono
#print axioms specInterval_user
#print axioms specInterval_contains_parent
#print axioms specInterval_min_le_max
#print axioms fine_interval_contains_parent
#print axioms fine_interval_user
#print axioms fine_interval_min_le_max
#print axioms coarseRangesBlocked_eq
#print axioms coarseRangesBlocked_block_independent
#print axioms nextLevelGridsBlocked_eq
#print axioms source_multiscaleRange_offsets
#print axioms source_multiscaleRange_spec
#print axioms source_nextLevel_spec
#print axioms nan_valid_parent_differs
#print axioms Pandora.C15Kernels.blockedSt2_eq
#print axioms Pandora.C15Kernels.blockedSt2_next
#print axioms Pandora.C15Kernels.maskInvalidDisparities_generated
#print axioms Pandora.C15Kernels.band_cell
#print axioms Pandora.C15Kernels.disparityRange_arrs
#print axioms Pandora.C15Kernels.disparityRange_generated
#print axioms Pandora.C15Kernels.generatedNextLevel_eq
#print axioms Pandora.C15Kernels.generated_nextLevel_eq_spec
#print axioms Pandora.C15Kernels.generated_fine_interval_contains_parent
#print axioms Pandora.C15Kernels.generated_fine_interval_user
#print axioms Pandora.C15Kernels.generated_fine_interval_min_le_max
#print axioms Pandora.C15Kernels.prepareBound_generated
#print axioms Pandora.C15Kernels.prepareBound_raises_iff
#print axioms Pandora.C15Kernels.mcPrepare_generated
#print axioms Pandora.C15Kernels.boundAfter_generated
#print axioms Pandora.C15Kernels.prepareRight_generated
#print axioms Pandora.C15Kernels.cvMaskedCrop_eq
#print axioms Pandora.C15Kernels.nextGrids_eq_cropMul
#print axioms Pandora.C15Kernels.generatedNextLevelFull_eq
#print axioms Pandora.C15Kernels.generatedNextLevelFull_eq_spec
#print axioms Pandora.C15Kernels.runMultiscale_wiring
#print axioms Pandora.C15Kernels.msUser_generated
#print axioms Pandora.C15Kernels.pyramidSizes_generated
#print axioms Pandora.C15Kernels.convertLevel_eq
#print axioms Pandora.C15Kernels.convertPyramid_frame
#print axioms Pandora.C15Kernels.readMultiscaleParams_generated
#print axioms Pandora.C15Kernels.paramsObject_pinned
