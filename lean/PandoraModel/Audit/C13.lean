import PandoraModel.Properties.C13
import PandoraModel.Properties.C13Steps
import PandoraModel.Properties.C13Util
import PandoraModel.Properties.C13Median
import PandoraModel.Properties.C13Bilateral
import PandoraModel.Properties.C13Refinement
import PandoraModel.Properties.C13CrossCheck
import PandoraModel.Properties.C13MatchingCost
import PandoraModel.Properties.C13Pipeline
import PandoraModel.Properties.C13Cbca
import PandoraModel.Properties.C13Wiring
import PandoraModel.Properties.C13Flags
import PandoraModel.Properties.C13Run
import PandoraModel.Properties.C13Flip
import PandoraModel.Properties.C13FlipMc
import PandoraModel.Properties.C13FlipPipeline
import PandoraModel.Properties.C13FlipBilateral
import PandoraModel.Properties.C13FlipFlags
import PandoraModel.Properties.C13RunFlip
import PandoraModel.Properties.C13CbcaClip
import PandoraModel.Properties.C13CbcaStep
import PandoraModel.Properties.C13PipelineCbca
import PandoraModel.Properties.C13CbcaFlip
import PandoraModel.Properties.C13RunCbca
import PandoraModel.Properties.C13RunCbcaExample
import PandoraModel.Properties.C13RunCbcaFlip
import PandoraModel.Properties.C13RunBool
import PandoraModel.Properties.C13RunMemo
open Pandora.C13
#print axioms Local.comp
#print axioms Local.pair
#print axioms pointwise_local
#print axioms stencil_local
#print axioms stencil_equivariant
#print axioms Equivariant.comp
#print axioms crop_eq_whole
#print axioms crop_anywhere
#print axioms stencil_vflip
#print axioms toDisp_is_wtaStep
#print axioms wtaStep_local
#print axioms wta_crop_eq_whole
#print axioms stencil_local_of_bounds
#print axioms toImg_crop
#print axioms crop_run_eq_whole
#print axioms toImg_eq_of_cells
#print axioms crop_arr_eq_whole
#print axioms medianStep_local
#print axioms medianStep_equivariant
#print axioms medianFilterDisparity_is_medianStep
#print axioms median_crop_eq_whole
#print axioms refineStep_local
#print axioms refineStep_equivariant
#print axioms loopRefinement_ok_iff
#print axioms loopRefinement_is_refineStep
#print axioms refine_crop_eq_whole
#print axioms ccPixel_eq_rel
#print axioms ccPixelRel_congr
#print axioms ccStep_local
#print axioms ccCone_offset_zero
#print axioms ccStep_equivariant
#print axioms check_is_ccStep
#print axioms cc_crop_eq_whole
#print axioms valueSpec_iso
#print axioms specCell_eq_core
#print axioms coreCell_iso
#print axioms mcCellStep_iso
#print axioms mcCellStep_local
#print axioms mcCellStep_equivariant
#print axioms specCell_is_mcCellStep
#print axioms costVolume_is_mcCellStep
#print axioms mc_crop_eq_whole
#print axioms costVolume_crop_eq_whole
#print axioms mcConeK_le
#print axioms mcRowStep_local
#print axioms mcRowStep_equivariant
#print axioms costVolume_is_mcRowStep
#print axioms costStage_local
#print axioms filterStage_local
#print axioms filterStage_equivariant
#print axioms ccStage_local
#print axioms ccStage_equivariant
#print axioms pipeline_crop_eq_whole
#print axioms filter_crop_eq_whole
#print axioms pipeCone_documented
#print axioms rightDisp_local
#print axioms rightDisp_equivariant
#print axioms bilateralKernel_congr
#print axioms bilateralStep_local
#print axioms bilateralStep_equivariant
#print axioms bilateralFilterDisparity_is_bilateralStep
#print axioms bilateral_crop_eq_whole
#print axioms filtStage_local_of_cost
#print axioms filtStage_local
#print axioms filtStage_equivariant
#print axioms bilateralStage_local
#print axioms ccOn_local
#print axioms ccOn_equivariant
#print axioms aggOut_eq_aggSpec
#print axioms region_transport
#print axioms armCoded_transport
#print axioms crossSupport_le_bound
#print axioms crossSupport_horizontal_transport
#print axioms crossSupport_vertical_transport
#print axioms median3_transport
#print axioms SubImg.median3_eq
#print axioms SubImg.crossOf_eq
#print axioms SubImg.crossOf_h
#print axioms SubImg.crossOf_v
#print axioms cbca_crop_eq_whole
#print axioms ccStep_congr
#print axioms ccOnT_eq_ccOn
#print axioms ccOnT_local
#print axioms ccOnT_equivariant
#print axioms pipeConeT_documented
#print axioms mc_wta_crop_eq_whole
#print axioms atOrigin_equivariant
#print axioms atOrigin_local
#print axioms flagWord0_congr
#print axioms flagStep_local
#print axioms flagStep_equivariant
#print axioms flagCone_le_costCone
#print axioms border0_eq
#print axioms inIdx0_eq
#print axioms rInv0_eq
#print axioms nodataNear0_eq
#print axioms specCell_isNan
#print axioms rowStep_at
#print axioms allNan_eq
#print axioms modelMask_eq_flagWord0
#print axioms modelMask_is_flagStep
#print axioms composedMask_is_flagStep
#print axioms flags_crop_eq_whole
#print axioms refineCone_flags
#print axioms pipeline_crop_eq_whole_flags
#print axioms pipeline_crop_eq_whole_flags_both
#print axioms filter_crop_eq_whole_flags
#print axioms pipeConeT_documented_flags
#print axioms wtaStage_local_of_cost
#print axioms refineStage_local_of_cost
#print axioms filterStage_local_of_cost
#print axioms ccStage_local_of_cost
#print axioms rightDisp_local_of_cost
#print axioms pipeline_crop_eq_whole_of_cost
#print axioms filter_crop_eq_whole_of_cost
#print axioms pipeConeOf_documented
#print axioms gridImg_tabulate
#print axioms loopRefinement_tabulate
#print axioms costStage_run
#print axioms flags_run
#print axioms leftDataset_rect
#print axioms fullRun_is_ccStage
#print axioms run_crop_eq_whole
#print axioms leftRun_crop_eq_whole
#print axioms runCone_documented
#print axioms leftInInterval_of_B
#print axioms vflip_vflip
#print axioms rectDom_toImg
#print axioms RectDom.corners
#print axioms toImg_flipArr
#print axioms flip_run_eq
#print axioms wtaStep_vflip
#print axioms refineStep_vflip
#print axioms ccStep_vflip
#print axioms nanmedian_perm
#print axioms medianStep_vflip
#print axioms sumZ_reverse
#print axioms allZ_reverse
#print axioms windowsIn_vflip
#print axioms mcCellStep_vflip
#print axioms mcRowStep_vflip
#print axioms mcRow_flip_run
#print axioms noAgg_vflip
#print axioms costStage_commutes
#print axioms costStage_vflip
#print axioms filterStage_commutes
#print axioms filtStage_commutes
#print axioms rightDisp_commutes
#print axioms filterStage_vflip
#print axioms filtStage_vflip
#print axioms ccOn_commutes
#print axioms ccStage_vflip
#print axioms rightDisp_vflip
#print axioms pipeline_flip
#print axioms filter_flip
#print axioms pipeline_flip_lr
#print axioms bilateralKernel_flipRows
#print axioms bilateralStep_vflip
#print axioms bilateralStage_vflip
#print axioms flagStep_vflip
#print axioms pipeFlags_vflip
#print axioms flags_flip_run
#print axioms pipeline_flip_flags
#print axioms pipeline_flip_flags_both
#print axioms filter_flip_flags
#print axioms run_flip
#print axioms aggregate_eq_specAgg
#print axioms arms_crop_eq_whole
#print axioms rightCol_eq
#print axioms side_status
#print axioms region_transport_arms
#print axioms region_none
#print axioms aggSpec_crop_eq_whole
#print axioms specAgg_crop_eq_whole
#print axioms cbca_crop_eq_whole_clipped
#print axioms specAgg_cv_congr
#print axioms cbcaAt_congr
#print axioms cbcaStep_local
#print axioms cbcaStep_congr
#print axioms cbcaStep_equivariant
#print axioms cropOf_mkInp
#print axioms window_specAgg
#print axioms aggregate_is_cbcaStep
#print axioms cbca_crop_run_eq_whole
#print axioms pipeline_cbca_crop_eq_whole
#print axioms filter_cbca_crop_eq_whole
#print axioms costStage_cbca_local
#print axioms cbcaCostCone_documented
#print axioms cbcaCone_le
#print axioms cbcaStep_costs_outside_irrelevant
#print axioms pipeline_cbca_flags_crop_eq_whole
#print axioms filter_cbca_flags_crop_eq_whole
#print axioms cbcaCostCone_le_costCone
#print axioms cbcaPipeCone_documented
#print axioms mcStage_run
#print axioms wtaStage_runR
#print axioms afterRefineR_is_refineStage
#print axioms afterFilterR_is_filterStage
#print axioms afterFilterR_swap_is_rightDisp
#print axioms fullRunR_is_ccStage
#print axioms RunOf.cell
#print axioms runR_crop_eq_whole
#print axioms runR_flip
#print axioms cbca_nanmedian_eq
#print axioms cbca_nanmedian_perm
#print axioms median3_flip
#print axioms filteredL_flip
#print axioms filteredR_flip
#print axioms crossSupport_flip
#print axioms crossL_flip
#print axioms crossR_flip
#print axioms Pandora.C11.sumRange_reverse
#print axioms Pandora.C11.sumRangeN_reverse
#print axioms region_flip
#print axioms aggSpec_flip
#print axioms specAgg_flip
#print axioms nanOutside_flip
#print axioms aggregate_flip
#print axioms cbcaAt_negView
#print axioms cbcaStep_vflip
#print axioms aggregate_flip_run
#print axioms pipeline_flip_cbca
#print axioms filter_flip_cbca
#print axioms pipeline_flip_flags_cbca
#print axioms pipeline_flip_flags_both_cbca
#print axioms filter_flip_flags_cbca
#print axioms cbcaStep_strip
#print axioms disp_in_interval
#print axioms costRows_cbca
#print axioms rightCol_isSome_of_rightInside
#print axioms nanOutsideOK_of_mc
#print axioms runCbca_crop_eq_whole
#print axioms runCbca_flip
#print axioms runOK_of_B
#print axioms cropRun_of_B
#print axioms docCone_bounds
#print axioms cone_of_B
#print axioms run_crop_eq_whole_of_B
#print axioms afterTail_tailOf
#print axioms extRunR_left_flag
#print axioms refine_readsInside
#print axioms median_readsInside
#print axioms bilateral_readsInside
#print axioms afterTailMemo_eqIn
#print axioms extRunMemo_eq
#print axioms tailOf_readsInside
#print axioms crossSupport_congr
#print axioms aggregate_eq_aggregateWith
#print axioms refineGridR_cbca
