import PandoraModel.Properties.C02
import PandoraModel.Properties.C02Zncc
import PandoraModel.Properties.C02Kernels
import PandoraModel.Properties.C02Census
import PandoraModel.Properties.C02KernelsMc
import PandoraModel.Properties.C02KernelsMcCost
import PandoraModel.Properties.C02KernelsMcArr
import PandoraModel.Properties.C02KernelsMasked
import PandoraModel.Properties.C02KernelsMaskedComp
#print axioms Pandora.C02.popcount_source_eq_model
#print axioms Pandora.C02.typeMeasure_source_eq_model
#print axioms Pandora.C02.cmax_source_eq_model
#print axioms Pandora.C02.costVolume_eq_specWith_of_raw
#print axioms Pandora.C02.rawOK_code
#print axioms Pandora.C02.costVolume_cell
#print axioms Pandora.C02.codeValue_eq_valueSpec
#print axioms Pandora.C02.costVolume_eq_spec_at
#print axioms Pandora.C02.popcount_correct
#print axioms Pandora.C02.nan_iff_not_computable
#print axioms Pandora.C02.costVolume_eq_spec
#print axioms Pandora.C02.cost_le_cmaxExact
#print axioms Pandora.C02.cmax_bound_up
#print axioms Pandora.C02.cmax_bound_partial
#print axioms Pandora.C02.cmax_bound_census
#print axioms Pandora.C02.cmax_bound_zncc
#print axioms Pandora.C02.cmax_bound_counterexample
#print axioms Pandora.MC.pointInterval_closed
#print axioms Pandora.MC.shiftRight_px
#print axioms Pandora.MC.meanRaster_eq
#print axioms Pandora.MC.rawSadSsd_eq
#print axioms Pandora.MC.rawZncc_eq
#print axioms Pandora.MC.rawCensus_eq
#print axioms Pandora.MC.census_hamming
#print axioms Pandora.MC.valueCensusBits_eq
#print axioms Pandora.MC.cause_computable_iff
#print axioms Pandora.MC.cvMaskedStep_eq
#print axioms Pandora.MC.costVolume_eq_step
-- zncc algebra (Properties/C02Zncc.lean): E[XY]−E[X]E[Y] = E[(X−EX)(Y−EY)], Cauchy–Schwarz, |zncc|² ≤ 1
#print axioms Pandora.C02.cov_eq_centred
#print axioms Pandora.C02.var_eq_centred
#print axioms Pandora.C02.var_nonneg
#print axioms Pandora.C02.var_eq_zero_iff
#print axioms Pandora.C02.boxSum_cauchy_schwarz
#print axioms Pandora.C02.cov_sq_le_var_mul_var
#print axioms Pandora.C02.corr_sq_le_one
#print axioms Pandora.C02.valueSpec_zncc_eq_centred
#print axioms Pandora.C02.zncc_costVolume_cellOK
#print axioms Pandora.C02.zncc_sq_le_one
-- point_interval regenerated from the Python source by translator/pyexpr.py (Properties/C02Kernels.lean)
#print axioms Pandora.C02Kernels.pointInterval_eq
#print axioms Pandora.C02Kernels.pointInterval_eq_rat
#print axioms Pandora.C02Kernels.pointInterval_eq_nonempty
#print axioms Pandora.C02Kernels.pointInterval_mem_p
#print axioms Pandora.C02Kernels.pointInterval_q_of_p
#print axioms Pandora.C02Kernels.dspIndex_eq
#print axioms Pandora.C02Kernels.dspIndex_toNat
#print axioms Pandora.C02Census.bitCount_eq_rec
#print axioms Pandora.C02Census.popcount32b_generated_eq_model
#print axioms Pandora.C02Census.popcount32b_correct
#print axioms Pandora.C02Census.popcount32b_correct_25
#print axioms Pandora.C02Census.popcount32b_correct_9
#print axioms Pandora.C02Census.popcount32b_le
#print axioms Pandora.C02Census.popcount32b_no_wrap
#print axioms Pandora.C02Census.bitCount_xor_eq_hamming
#print axioms Pandora.C02Census.census_cost_eq_hamming
#print axioms Pandora.MC.Popcount.popcount32b_eq_bitCountRec
#print axioms Pandora.MC.Popcount.popcount32b_packLE
#print axioms Pandora.C02KernelsMc.iRight_core
#print axioms Pandora.C02KernelsMc.iRightCensus_eq
#print axioms Pandora.C02KernelsMc.iRightSadSsd_eq
#print axioms Pandora.C02KernelsMc.iRightZncc_eq
#print axioms Pandora.C02KernelsMc.iRight_lt
#print axioms Pandora.C02KernelsMc.pStd_mem
#print axioms Pandora.C02KernelsMc.qStd_eq
#print axioms Pandora.C02KernelsMc.std_lengths
#print axioms Pandora.C02KernelsMc.shapes_eq_model
#print axioms Pandora.C02KernelsMcCost.adCostBand3_eq
#print axioms Pandora.C02KernelsMcCost.adCostBand2_eq
#print axioms Pandora.C02KernelsMcCost.adCostMono_eq
#print axioms Pandora.C02KernelsMcCost.sdCostBand3_eq
#print axioms Pandora.C02KernelsMcCost.sdCostBand2_eq
#print axioms Pandora.C02KernelsMcCost.sdCostMono_eq
#print axioms Pandora.C02KernelsMcCost.cost_operands_eq_model
#print axioms Pandora.C02KernelsMcCost.pixelWise_eq_generated
#print axioms Pandora.C02KernelsMcCost.pixelWiseAggregation_eq
#print axioms Pandora.C02KernelsMcCost.aggOutShape_enlarged
#print axioms Pandora.C02KernelsMcCost.reNan_eq
#print axioms Pandora.C02KernelsMcCost.rawSadSsd_eq_generated
#print axioms Pandora.C02KernelsMcCost.censusCost_eq
#print axioms Pandora.C02KernelsMcCost.census_operands_eq_model
#print axioms Pandora.C02KernelsMcCost.censusCost_eq_hamming
#print axioms Pandora.C02KernelsMcCost.censusCost_window3
#print axioms Pandora.C02KernelsMcCost.censusCost_window5
#print axioms Pandora.C02KernelsMcCost.rawCensus_eq_generated
#print axioms Pandora.C02KernelsMcCost.znccCov_eq
#print axioms Pandora.C02KernelsMcCost.divideStandardCell_eq
#print axioms Pandora.C02KernelsMcCost.divideStandard_partition
#print axioms Pandora.C02KernelsMcCost.divideStandard_eq_model
#print axioms Pandora.C02KernelsMcCost.stdRadicand_eq_model
#print axioms Pandora.C02KernelsMcCost.rawZncc_cell_eq_generated
#print axioms Pandora.C02KernelsMcCost.meanRaster_nonneg
#print axioms Pandora.C02KernelsMcArr.censusTransform_eq
#print axioms Pandora.C02KernelsMcArr.censusShape_eq
#print axioms Pandora.C02KernelsMcArr.census_generated_window3
#print axioms Pandora.C02KernelsMcArr.census_generated_window5
#print axioms Pandora.C02KernelsMcArr.meanRasterPx_eq_model
#print axioms Pandora.C02KernelsMcArr.meanRasterPx_eq_mean
#print axioms Pandora.C02KernelsMcArr.stdRadicandPx_eq_model
#print axioms Pandora.C02KernelsMcArr.shiftedCols_eq
#print axioms Pandora.C02KernelsMcArr.shift_eq_model

-- ==== block of ext-c04 (translator/gen_kernels_cv_masked.py): the per-cell NaN decisions of cv_masked / masks_dilatation
#print axioms Pandora.C02KernelsMasked.gridOutside_iff
#print axioms Pandora.C02KernelsMasked.gridOutside_eq
#print axioms Pandora.C02KernelsMasked.intervalMask_isNan
#print axioms Pandora.C02KernelsMasked.costVolume_nan_of_gridOutside
#print axioms Pandora.C02KernelsMasked.intervalMask_of_not_gridOutside
#print axioms Pandora.C02KernelsMasked.iMaskRight_eq
#print axioms Pandora.C02KernelsMasked.cvMaskedStep_isNan
#print axioms Pandora.C02KernelsMasked.cvMaskedStep_other
#print axioms Pandora.C02KernelsMasked.leftDilInput_eq
#print axioms Pandora.C02KernelsMasked.rightDilInput_eq
#print axioms Pandora.C02KernelsMasked.leftMaskNan_eq
#print axioms Pandora.C02KernelsMasked.rightMaskNan_eq
#print axioms Pandora.C02KernelsMasked.genStep_eq
#print axioms Pandora.C02KernelsMasked.cvMaskedFold_generated_eq
#print axioms Pandora.C02KernelsMasked.genCvMaskedNan_eq
#print axioms Pandora.C02KernelsMasked.generated_nan_iff_not_computable
