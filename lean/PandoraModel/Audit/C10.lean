import PandoraModel.Properties.C10
import PandoraModel.Properties.C10C12
import PandoraModel.Properties.C10Kernels
import PandoraModel.Properties.C10KernelsIntervals
open Pandora.C10 Pandora.Filter Pandora.Blocks
#print axioms blocked_eq_direct
#print axioms sorted_isKth
#print axioms median_isMedian
#print axioms nanmedian_isMedian
#print axioms isMedian_mem_between
#print axioms isMedian_between
#print axioms medianFilter_eq_direct
#print axioms medianFilter_block_independent
#print axioms median_cell
#print axioms medianFilterDisparity_spec
#print axioms medianBand_spec
#print axioms source_median_spec
#print axioms kernel_eq_weightedMean
#print axioms weightedMean_between
#print axioms bilateralFilter_eq_direct
#print axioms bilateralFilter_block_independent
#print axioms bilateralFilterDisparity_spec
#print axioms source_bilateral_window
#print axioms source_bilateral_spec
#print axioms invalidMask_documented
#print axioms regularize_flagSpec
#print axioms regularize_other_bits
#print axioms regularize_validity
#print axioms regularize_idempotent
-- C10 ∘ C12: median_for_intervals with C12's regularisation model as the producer of the bands and of the mask
#print axioms Pandora.C10C12.graphRegularization_frame
#print axioms Pandora.C10C12.regularization_frame
#print axioms Pandora.C10C12.intervals_noreg
#print axioms Pandora.C10C12.intervals_bands_median
#print axioms Pandora.C10C12.intervals_regMask
#print axioms Pandora.C10C12.intervals_flags
#print axioms Pandora.C10C12.intervals_flagSpec
#print axioms Pandora.C10C12.intervals_bit11_iff
#print axioms Pandora.IntervalRuns.borders_length
#print axioms Pandora.IntervalRuns.cover_runs_scan
#print axioms Pandora.IntervalRuns.cover_runs
#print axioms Pandora.IntervalRuns.inSegments_iff
#print axioms Pandora.C10C12.intervals_bit11_lowConfidence
#print axioms Pandora.C10C12.intervals_other_bits
#print axioms Pandora.C10C12.intervals_validity
#print axioms Pandora.C10C12.intervals_border
#print axioms Pandora.C10C12.intervals_frame
#print axioms Pandora.C10C12.changed_implies_flagged
#print axioms Pandora.C10C12.changed_implies_bit11
#print axioms Pandora.C10C12.intervals_widen
#print axioms Pandora.C10C12.intervals_twice_flags
#print axioms Pandora.C10C12.flagged_unchanged_example
-- T15: the numpy glue of the median filter regenerated from the source (translator/pyarr.py) = the model
#print axioms Pandora.C10Kernels.blockedSt_eq
#print axioms Pandora.C10Kernels.medianFilter_generated
#print axioms Pandora.C10Kernels.filterDisparityMedian_generated
#print axioms Pandora.C10Kernels.filterDisparityMedian_spec
#print axioms Pandora.C10Kernels.medianFilter_generated_spec
#print axioms Pandora.C10Kernels.bilateralKernel_generated
#print axioms Pandora.C10Kernels.filterBilateral_generated
#print axioms Pandora.C10Kernels.filterDisparityBilateral_generated
#print axioms Pandora.C10Kernels.filterDisparityBilateral_spec
-- T15: the glue of median_for_intervals regenerated from the source = the composed model (C10 o C12)
#print axioms Pandora.C10KernelsIntervals.medianForIntervals_arrs
#print axioms Pandora.C10KernelsIntervals.medianForIntervals_generated
#print axioms Pandora.C10KernelsIntervals.medianForIntervals_generated_spec
#print axioms Pandora.C10KernelsIntervals.medianForIntervals_generated_bands
