import PandoraModel.Properties.C09
import PandoraModel.Properties.C09Pipeline
#print axioms Pandora.C09.specCell_indep
#print axioms Pandora.C09.specCellWith_indep
#print axioms Pandora.C09.cost_indep
#print axioms Pandora.C09.outside_pixel_interval_nan
#print axioms Pandora.C09.slice_of_larger
#print axioms Pandora.C09.grid_inside_same
#print axioms Pandora.C09.stored_interval
#print axioms Pandora.C09.wta_in_pixel_interval
#print axioms Pandora.C09.pixel_interval_in_global
#print axioms Pandora.C09P.boundedByB_iff
#print axioms Pandora.C09P.oneFlag_iff
#print axioms Pandora.C09P.BoundedValid.of_bdd
#print axioms Pandora.C09P.refineReadyPix_eq
#print axioms Pandora.C09P.flagsCover_of_B
#print axioms Pandora.C09P.minOf_mem
#print axioms Pandora.C09P.maxOf_mem
#print axioms Pandora.C09P.window_between_bdd
#print axioms Pandora.C09P.wfWeightsAt_of_weightsOK
#print axioms Pandora.C09P.medianStep_bounded
#print axioms Pandora.C09P.bilateralStep_bounded
#print axioms Pandora.C09P.crossCheck_disp
#print axioms Pandora.C09P.crossCheck_flag
#print axioms Pandora.C09P.crossCheckStep_bounded
#print axioms Pandora.C09P.crossCheckStep_oneFlag
#print axioms Pandora.C09P.crossCheckStep_borderClean
#print axioms Pandora.C09P.interpolate_bounded
#print axioms Pandora.C09P.interpolate_oneFlag
#print axioms Pandora.C09P.validationStep_inv
#print axioms Pandora.C09P.pixKept_of_outcome
#print axioms Pandora.C09P.refineStep_pixel
#print axioms Pandora.C09P.refineStep_bounded
#print axioms Pandora.C09P.refineStep_bounded_global
#print axioms Pandora.C09P.refineStep_oneFlag
#print axioms Pandora.C09P.wtaMap_in_pixel_interval
#print axioms Pandora.C09P.wtaMap_in_global_interval
#print axioms Pandora.C09P.wtaMap_refineReady
#print axioms Pandora.C09P.runStep_inv
#print axioms Pandora.C09P.runSteps_inv
#print axioms Pandora.C09P.final_in_global_interval_partial
#print axioms Pandora.C09P.legal_of_noRefine
#print axioms Pandora.C09P.legal_refine_first
#print axioms Pandora.C09P.after_disparity_in_pixel_interval
#print axioms Pandora.C09P.after_refinement_in_pixel_interval
#print axioms Pandora.C09P.single_scale_final_in_global_partial
#print axioms Pandora.C09P.single_scale_refine_first
#print axioms Pandora.C09P.single_scale_no_refinement
#print axioms Pandora.C09P.tail_accepted
#print axioms Pandora.C09P.tail_complete
#print axioms Pandora.C09P.source_fill_ok
#print axioms Pandora.C09P.Counterexample.filter_then_refine_counterexample
#print axioms Pandora.C09P.Example.legal
