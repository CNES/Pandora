import PandoraModel.Properties.C17
import PandoraModel.Properties.C17Whole
import PandoraModel.Properties.C17Doc
open Pandora.C17
#print axioms datasetClauses_all
#print axioms checkFeatures_ok_iff
#print axioms checkDataset_ok_iff
#print axioms checkFeatures_error_class
#print axioms checkDatasets_ok_iff_parts
#print axioms checkDatasets_ok_iff_wellFormed
#print axioms base_sides_equal
#print axioms img_entry
#print axioms aux_entry
#print axioms nodata_entry_partial
#print axioms integer_disp_entry
#print axioms none_disp_entry
#print axioms grid_disp_entry
#print axioms checkDisparities_range
#print axioms checkDisparities_singleton
#print axioms checkDisparities_grid
#print axioms checkDisparities_none
#print axioms checkAux_ok_iff
#print axioms nodata_nan_list_counterexample
#print axioms disp_list_counterexample
-- whole-function theorems (Properties/C17Whole.lean, Lemmas/ConfigMerge.lean)
#print axioms Pandora.Merge.updateConf_inv
#print axioms Pandora.Merge.updateConf_intro
#print axioms Pandora.Merge.updateConf_replace
#print axioms Pandora.C17W.checkInputSection_eq
#print axioms Pandora.C17W.generated_input_schemas
#print axioms Pandora.C17W.listOf_type_type
#print axioms Pandora.C17W.img_entry
#print axioms Pandora.C17W.nodata_entry
#print axioms Pandora.C17W.aux_entry
#print axioms Pandora.C17W.none_entry
#print axioms Pandora.C17W.grid_entry
#print axioms Pandora.C17W.range_entry
#print axioms Pandora.C17W.side_accepts_iff
#print axioms Pandora.C17W.validate_eq
#print axioms Pandora.C17W.core_iff
#print axioms Pandora.C17W.validateInput_ok_iff
#print axioms Pandora.C17W.checkInputSection_ok_iff
#print axioms Pandora.C17W.checkInputSection_completed
#print axioms Pandora.C17W.checkInputSection_idempotent
#print axioms Pandora.C17W.accepted_of_documented
#print axioms Pandora.C17W.refused_of_documented_reject
#print axioms Pandora.C17W.checkInputSection_agrees
#print axioms Pandora.C17W.generated_strictMerge
#print axioms Pandora.C17W.checkInputSection_no_input
#print axioms Pandora.C17W.checkInputSection_not_dict
#print axioms Pandora.C17W.empty_dict_counterexample
#print axioms Pandora.C17W.magic_filename_counterexample
