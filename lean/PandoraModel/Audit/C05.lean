import PandoraModel.Properties.C05
import PandoraModel.Properties.C05Whole
import PandoraModel.Properties.C05Conf
open Pandora.C05
#print axioms runActions_lookup
#print axioms runActions_keys
#print axioms runActions_idem
#print axioms classCheck_ok_iff
#print axioms classCheck_user_values_kept
#print axioms classCheck_user_positions_kept
#print axioms classCheck_defaults_added
#print axioms classCheck_idempotent
#print axioms runAction_eq
#print axioms generated_classFacts
#print axioms generated_wf
#print axioms generated_defaults_documented
#print axioms documented_methods_registered
#print axioms method_entry_accepts_names
#print axioms shape_stepOne
#print axioms shapes_agree
#print axioms rows_are_shapes
#print axioms step_rows
#print axioms parameters_policed
#print axioms rows_count
#print axioms nan_in_list_counterexample
#print axioms band_multichar_counterexample
#print axioms reused_machine_counterexample
#print axioms Pandora.Merge.dict_accepts_iff
#print axioms Pandora.Merge.lookup_eq_find
#print axioms Pandora.Merge.wfDict_iff
#print axioms Pandora.Merge.fixedDict_iff
#print axioms guard_respected
#print axioms runActions_succeeds
#print axioms generated_step_facts
#print axioms generated_accept_facts
#print axioms step_refused_of_documented_reject
#print axioms step_accepted_of_documented_accept
#print axioms input_defaults_documented
#print axioms construct_swap
#print axioms dict_ext
#print axioms updateConf_leaves
#print axioms Pandora.Merge.updateConf_inv
#print axioms Pandora.Merge.updateConf_intro
#print axioms Pandora.Merge.updateConf_fresh
#print axioms Pandora.Merge.updateVal_self
#print axioms Pandora.Merge.updateConf_replace
#print axioms Pandora.C05W.stepCallback_ok_iff
#print axioms Pandora.C05W.stepCallback_iff
#print axioms Pandora.C05W.checkLoop_iff
#print axioms Pandora.C05W.stepOut_swap
#print axioms Pandora.C05W.machineCheck_iff
#print axioms Pandora.C05W.machineCheck_fresh
#print axioms Pandora.C05W.machineCheck_ok_iff
#print axioms Pandora.C05W.pipelineOut_isSome
#print axioms Pandora.C05W.generated_defaults_fixed
#print axioms Pandora.C05W.classCheck_eq
#print axioms Pandora.C05W.construct_facts
#print axioms Pandora.C05W.construct_idem
#print axioms Pandora.C05W.merge_back
#print axioms Pandora.C05W.checkPipelineSection_eq
#print axioms Pandora.C05W.checkPipelineSection_iff
#print axioms Pandora.C05W.checkPipelineSection_step
#print axioms Pandora.C05W.pipelineOut_checked
#print axioms Pandora.C05W.checkPipelineSection_user_kept
#print axioms Pandora.C05W.checkPipelineSection_completed
#print axioms Pandora.C05W.checkPipelineSection_idempotent
#print axioms Pandora.C05W.checkPipelineSection_ok_iff
#print axioms Pandora.C05W.checkPipelineSection_resultOk
#print axioms Pandora.C05W.checkPipelineSection_no_pipeline
#print axioms Pandora.C05W.checkPipelineSection_not_dict
#print axioms Pandora.C05C.checkConf_ok_iff
#print axioms Pandora.C05C.checkConf_idempotent
