import PandoraModel.Properties.C08
import PandoraModel.Properties.C08C07
open Pandora.C08
#print axioms swapName_invol
#print axioms exec_swap
#print axioms exec_comm
#print axioms execs_comm
#print axioms symParts_equivariant
#print axioms symBlock_equivariant
#print axioms symCallback_equivariant
#print axioms wiring_symmetric
#print axioms wiring_callbacks
#print axioms prepare_mirrors_interval
#print axioms wiring_facts
#print axioms validation_cc_equivariant
#print axioms validation_equivariant
#print axioms runSeq_equivariant
#print axioms mirror
#print axioms right_eq_mirror_left
#print axioms initStore_mirror
#print axioms crossCheckFacts_of_model
#print axioms mirror_with_crossCheck_model
