import PandoraModel.Properties.C07
import PandoraModel.Properties.C07HalfEven
import PandoraModel.Properties.C07Kernels
open Pandora.C07
#print axioms flags_tied
#print axioms source_check_spec
#print axioms mem_nearestInts
#print axioms rint_eq_iff
#print axioms rint_mem_nearest
#print axioms rint_nearest
#print axioms outside_never
#print axioms valid_bits_clear
#print axioms flag_arith
#print axioms comp_eq_one_iff
#print axioms mem_arange
#print axioms ccPixel_invalid
#print axioms ccPixel_outside_unflagged
#print axioms ccPixel_never_both
#print axioms check_pix
#print axioms check_disp_unchanged
#print axioms check_other_mask_irrelevant
#print axioms validationRun_right_same_rule
#print axioms ccPixel_specEven
#print axioms ccPixel_spec
#print axioms check_specEven
#print axioms check_spec
#print axioms check_spec_ruleFix
#print axioms cc_outside_counterexample
#print axioms rintEven_eq_rint
#print axioms rintEven_eq_iff
#print axioms rintEven_unique
#print axioms correspondentEven_eq_colRight
#print axioms witnessEven_of_strict
#print axioms witness_loose_of_even
#print axioms comp_eq_one_iff_witnessEven
#print axioms flagged_clausesEven
#print axioms ccInside_clausesEven
#print axioms source_check_specEven
#print axioms source_is_ruleFix
#print axioms source_check_specEven_full
#print axioms clausesValidEven_fails_of_fails
#print axioms clausesValid_allOK_of_even
#print axioms clausesPix_of_even
#print axioms failingPix_nil_of_even
#print axioms clausesPixEven_eq_of_no_tie
#print axioms tie_readings_differ
#print axioms tie_correspondent_differs
#print axioms Pandora.C07Kernels.gather_where
#print axioms Pandora.PyVecIdx.gatherOk_where
#print axioms Pandora.PyVecIdx.getD_scatterSet_map
#print axioms Pandora.C07Kernels.scatterSet_range
#print axioms Pandora.C07Kernels.scatterSet_where
#print axioms Pandora.PyVec.select_map
#print axioms Pandora.C07Kernels.generated_eq_on_table
#print axioms Pandora.C07Kernels.crossCheckRow_consistency_eq
#print axioms Pandora.C07Kernels.crossCheckRow_flags_eq
#print axioms Pandora.C07Kernels.crossCheckRow_witness_eq
#print axioms Pandora.C07Kernels.crossCheckRow_generated_eq
#print axioms Pandora.C07Kernels.generated_row_clauses
#print axioms Pandora.C07Kernels.generated_never_both
#print axioms Pandora.C07Kernels.generated_invalid_untouched
