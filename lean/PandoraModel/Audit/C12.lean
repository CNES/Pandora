import PandoraModel.Properties.C12
import PandoraModel.Properties.C12Kernels
import PandoraModel.Properties.C12KernelsBounds
import PandoraModel.Properties.C12KernelsSampled
import PandoraModel.Properties.C12KernelsRiskSampled
import PandoraModel.Properties.C12Names
import PandoraModel.Properties.C12KernelsRegul
import PandoraModel.Properties.C12KernelsGraphReg
import PandoraModel.Properties.C12KernelsBorders
open Pandora.C12
-- tie to the source
#print axioms stems_from_source
#print axioms prefix_from_source
#print axioms indicator_rule_from_source
-- ambiguity
#print axioms Pandora.C12.tile_eq
#print axioms twoDimEtas_eq
#print axioms pixelCmp_eq
#print axioms pixelAmbiguity_spec
#print axioms map_columns
#print axioms pixelSampled_spec
#print axioms ambiguity_def
#print axioms normalize_unit
#print axioms ambiguity_normalised_range
#print axioms normalize_constant_nan
#print axioms ambiguity_normalised_counterexample
#print axioms ambiguity_max_counterexample
#print axioms arange_wf
#print axioms ambCount_neg
#print axioms max_measure_fix_correct
-- risk
#print axioms card_le_span
#print axioms pixelRisk_spec
#print axioms risk_order_spec
#print axioms pixelRisk_order_of_nonneg
#print axioms pixelRisk_order
#print axioms pixelRisk_nan_iff
#print axioms risk_def
#print axioms risk_order
-- interval bounds
#print axioms possibility_eq
#print axioms boundIdx_cases
#print axioms pixelBounds_def
#print axioms pixelBounds_bracket
#print axioms wtaIdxFrom_value
#print axioms wtaIdx_best
#print axioms wtaIdx_none_iff
#print axioms bounds_def
#print axioms bounds_bracket_wta
-- regularisation
#print axioms foldl_setRange_cell
#print axioms graphRegularization_cell
#print axioms graphRegularization_widens
#print axioms intervalRegularization_widens
-- bands
#print axioms runStep_frame
#print axioms runSteps_frame
#print axioms existing_bands_prefix
#print axioms later_disparity_same
#print axioms indicatorOf_eq_suffix
#print axioms indicatorOf_no_dot
#print axioms names_as_specified
#print axioms indicator_two_dots_counterexample
-- std_intensity
#print axioms windowSums_tabulate
#print axioms windowSums_eq
#print axioms varRaster_eq
#print axioms stdBandSq_eq
#print axioms stdBandSq_spec
-- the kernels regenerated from the Python source (translator/pyvec.py, Generated/KernelsConf.lean) = the hand model
#print axioms Pandora.C12Kernels.tile_eq
#print axioms Pandora.C12Kernels.twoDim_embed
#print axioms Pandora.C12Kernels.computeAmbiguity_generated_eq
#print axioms Pandora.C12Kernels.computeRisk_generated_eq
-- compute_interval_bounds regenerated = the hand model, for every argsort returning a permutation (Properties/C12KernelsBounds.lean)
#print axioms Pandora.C12Kernels.iminL_eq_of
#print axioms Pandora.C12Kernels.imaxL_eq_of
#print axioms Pandora.C12Kernels.iminL_perm
#print axioms Pandora.C12Kernels.imaxL_perm
#print axioms Pandora.C12Kernels.filter_perm_selIdx
#print axioms Pandora.C12Kernels.computeIntervalBounds_generated_run
#print axioms Pandora.C12Kernels.computeIntervalBounds_generated_eq_of_le
#print axioms Pandora.C12Kernels.computeIntervalBounds_generated_eq
#print axioms Pandora.C12Kernels.computeIntervalBounds_generated_empty
#print axioms Pandora.C12Kernels.computeIntervalBounds_generated_shapeError_iff
#print axioms Pandora.C12Kernels.computeIntervalBounds_generated_no_shapeError
#print axioms Pandora.C12Kernels.computeIntervalBounds_generated_all_nan
#print axioms Pandora.C12Kernels.computeIntervalBounds_generated_finite
#print axioms Pandora.C12Kernels.bounds_def_generated
#print axioms Pandora.C12Kernels.bounds_bracket_wta_generated
-- compute_ambiguity_and_sampled_ambiguity regenerated = (pixelAmbiguity, pixelSampled) (Properties/C12KernelsSampled.lean)
#print axioms Pandora.C12Kernels.computeAmbiguitySampled_generated_eq
-- the naming glue read from the source, evaluated (Properties/C12Names.lean): indicator = suffix, names = specification, every step name
#print axioms Pandora.C12Names.evalRule_golden
#print axioms Pandora.C12Names.pySplit_none_eq
#print axioms Pandora.C12Names.indicatorOneCut_eq
#print axioms Pandora.C12Names.indicator_generated_eq_spec
#print axioms Pandora.C12Names.indicator_unrepaired_eq_model
#print axioms Pandora.C12Names.stems_lookup
#print axioms Pandora.C12Names.names_generated_eq_spec
-- the connection scan of create_connected_graph regenerated = Confidence.connectionGraph (Properties/C12KernelsRegul.lean)
#print axioms Pandora.C12KernelsRegul.connAct_of
#print axioms Pandora.C12KernelsRegul.scan_eq
#print axioms Pandora.C12KernelsRegul.connRow_eq
#print axioms Pandora.C12KernelsRegul.connectionGraph_generated_eq
#print axioms Pandora.C12KernelsRegul.closure_step_eq
#print axioms Pandora.C12KernelsRegul.closeRow_core
#print axioms Pandora.C12KernelsRegul.createConnectedGraph_generated_eq
#print axioms Pandora.C12KernelsRegul.intervalRegularization_over_generated
-- compute_risk_and_sampled_risk regenerated = (pixelRisk, pixelSampledRisk) (Properties/C12KernelsRiskSampled.lean)
#print axioms Pandora.C12Kernels.pixelRisk_eq_mean
#print axioms Pandora.C12Kernels.computeRiskSampled_generated_eq
-- the aggregation loop of graph_regularization regenerated = Confidence.graphRegularization (Properties/C12KernelsGraphReg.lean)
#print axioms Pandora.C12KernelsRegul.agg_eq
#print axioms Pandora.C12KernelsRegul.setSlice_eq
#print axioms Pandora.C12KernelsRegul.graphRegularization_generated_eq
#print axioms Pandora.C12KernelsRegul.intervalRegularization_all_generated
#print axioms Pandora.C12KernelsRegul.quantile1_widens_generated
-- the segment extraction and the whole interval_regularization regenerated = the hand model (Properties/C12KernelsBorders.lean)
#print axioms Pandora.C12KernelsRegul.whereEq_left
#print axioms Pandora.C12KernelsRegul.whereEq_right
#print axioms Pandora.C12KernelsRegul.regulBorders_generated_eq
#print axioms Pandora.C12KernelsRegul.length_borders
#print axioms Pandora.C12KernelsRegul.intervalRegularization_generated_eq
#print axioms Pandora.C12KernelsRegul.quantile1_widens_whole_generated
