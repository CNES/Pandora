import PandoraModel.Properties.C06
import PandoraModel.Properties.C06Kernels
import PandoraModel.Properties.C06KernelsLoop
open Pandora.C06
#print axioms flags_tied
#print axioms source_literals
#print axioms source_pixel_spec
#print axioms vfit_shift_le_half
#print axioms runMethod_sgn
#print axioms method_min
#print axioms method_refine
#print axioms method_stop
#print axioms quadratic_raises_iff
#print axioms parab_interpolates
#print axioms parab_apex_optimal
#print axioms vshape_apex_optimal
#print axioms vshape_apex_of_ends
#print axioms vshape_apex_unique
#print axioms ends_agree_of_onGrid
#print axioms ends_agree_offGrid
#print axioms refinePixel_outcome
#print axioms refinePixel_core
#print axioms refinePixel_spec
#print axioms vfit_pixel_spec
#print axioms refinePixel_spec_offGrid
#print axioms refinePixel_total
#print axioms Pandora.Refinement.mapRes_eq_ok_iff
#print axioms loop_spec
#print axioms loop_total
#print axioms refinePixel_spec_repaired
#print axioms refinePixel_core_repaired
#print axioms loop_spec_repaired
#print axioms addFlag_stopped
#print axioms quadratic_flat_counterexample
#print axioms bit3_twice_counterexample
#print axioms offgrid_wraparound_counterexample
#print axioms offgrid_past_end_counterexample
#print axioms repaired_on_counterexamples
-- the kernels regenerated from the Python source (Generated/Kernels.lean) are the hand model's methods
#print axioms Pandora.C06Kernels.vfitMethod_eq
#print axioms Pandora.C06Kernels.quadraticMethod_eq
#print axioms Pandora.C06Kernels.kernelMethod_eq
#print axioms Pandora.C06Kernels.runMethod_eq_kernel
#print axioms Pandora.C06Kernels.kernel_method_stop
#print axioms Pandora.C06Kernels.kernel_method_refine
#print axioms Pandora.C06Kernels.vfitMethod_shift_le_half
#print axioms Pandora.C06Kernels.quadraticMethod_raises_iff
#print axioms Pandora.C06Kernels.kernelMethod_total
#print axioms Pandora.C06Kernels.refineGuard_eq
#print axioms Pandora.C06Kernels.refinePixelK_eq
#print axioms Pandora.C06Kernels.loopRefinementK_eq
#print axioms Pandora.C06Kernels.kernel_pixel_spec
#print axioms Pandora.C06Kernels.vfitMethod_nan_centre
#print axioms Pandora.C06Kernels.quadraticMethod_nan_centre
#print axioms Pandora.C06KernelsLoop.loopRefinementPx_eq
#print axioms Pandora.C06KernelsLoop.loopRefinementGen_eq
#print axioms Pandora.C06KernelsLoop.generated_pixel_spec
#print axioms Pandora.C06KernelsLoop.loopRefinementPx_invalid
#print axioms Pandora.C06KernelsLoop.loopApproxRefinementPx_invalid
#print axioms Pandora.C06KernelsLoop.wiring_subpixel
#print axioms Pandora.C06KernelsLoop.wiring_approximate
#print axioms Pandora.C06KernelsLoop.loopApproxRefinementPx_eq
#print axioms Pandora.C06KernelsLoop.approxPixel_spec_partial
#print axioms Pandora.C06KernelsLoop.generated_approx_pixel_spec_partial
#print axioms Pandora.C06KernelsLoop.pyGet2_costAt2
