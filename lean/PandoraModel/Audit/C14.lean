import PandoraModel.Properties.C14
import PandoraModel.Properties.C14Kernels
import PandoraModel.Properties.C14KernelsStep
open Pandora.C14 Pandora.Interp
-- tie to the source (tables regenerated on every run): directions, flag updates with the raising operator,
-- constants, and the variant (guards present)
#print axioms source_dirs
#print axioms source_flag_ops
#print axioms source_constants
#print axioms source_guarded
-- kernels of the code against the notions of the specification
#print axioms sub_add_eq_replaceBit
#print axioms raise_sub_eq_replaceBit
#print axioms ray_leaves_mc
#print axioms ray_leaves_sgm
#print axioms scanMc_nan_eq
#print axioms scanMc_zero_eq
#print axioms findValidNeighbors_eq
#print axioms occlMcCore_eq
#print axioms occlusionSum3x3_ne_zero
#print axioms median_between
#print axioms secondLowestAbs_spec
-- the property: every guarded text of the kernels (+= or |=), instantiated at the variant read from the source
#print axioms outcome
#print axioms pixel_ok
#print axioms spec_holds
#print axioms spec_holds_source
#print axioms unflagged_untouched_of_clean
#print axioms unflagged_untouched
#print axioms filled_bits
#print axioms border_bit0_only_mccnn
#print axioms border_bit0_only
-- the same statement is false of the earlier texts of the kernels (repaired findings; inputs in corpus/C14)
#print axioms mccnn_mismatch_nan_counterexample
#print axioms mccnn_mismatch_zero_counterexample
#print axioms sgm_mismatch_nan_counterexample
#print axioms sgm_occlusion_nan_counterexample
#print axioms stale_filled_bit_add_counterexample
#print axioms stale_filled_bit_or_ok
-- the kernels regenerated from the Python source (Generated/KernelsInterp.lean, T14) are the hand model
#print axioms Pandora.C14Kernels.forLoop_scanAcc
#print axioms Pandora.C14Kernels.findValidNeighborsAt_generated_eq
#print axioms Pandora.C14Kernels.findValidNeighbors_generated_eq_table
#print axioms Pandora.C14Kernels.findValidNeighbors_generated_eq
#print axioms Pandora.C14Kernels.occlusionSgm_generated_eq
#print axioms Pandora.C14Kernels.sumBand2_eq
#print axioms Pandora.C14Kernels.mismatchSgm_generated_eq
#print axioms Pandora.C14Kernels.rowMask_eq
#print axioms Pandora.C14Kernels.occlusionMcCnn_generated_eq
#print axioms Pandora.C14Kernels.truncRat_half
#print axioms Pandora.C14Kernels.forLoop_scanLoop
#print axioms Pandora.C14Kernels.mcDirs_half
#print axioms Pandora.C14Kernels.mismatchMcCnn_generated_eq
#print axioms Pandora.C14Kernels.nodataSgm_generated_eq
-- T15: the whole interpolated_disparity step (both classes) regenerated as an array program calling the regenerated kernels
#print axioms Pandora.C14KernelsStep.mismMcPixel_congr
#print axioms Pandora.C14KernelsStep.occlSgmPixel_congr
#print axioms Pandora.C14KernelsStep.runKernel_agree
#print axioms Pandora.C14KernelsStep.mccnn_step_generated
#print axioms Pandora.C14KernelsStep.sgm_step_generated
#print axioms Pandora.C14KernelsStep.attrs_source
#print axioms Pandora.C14KernelsStep.spec_congr
#print axioms Pandora.C14KernelsStep.mccnn_step_spec
#print axioms Pandora.C14KernelsStep.sgm_step_spec
