import PandoraModel.Properties.C11
import PandoraModel.Properties.C11Kernels
import PandoraModel.Properties.C11KernelsSteps
import PandoraModel.Properties.C11KernelsGlue
open Pandora.C11
#print axioms armCoded_eq_armRef
#print axioms crossSupport_eq_crossRef
#print axioms armRef_ok
#print axioms armOk_iff
#print axioms arms_counterexample_distance_one
#print axioms s1At_diff
#print axioms step2_eq_rowsum
#print axioms step4_eq_colsum
#print axioms mem_region
#print axioms nodup_region
#print axioms step4_eq_regionsum
#print axioms sum4_eq_card
#print axioms aggOut_isNan
#print axioms aggOut_spec
#print axioms crossSupport_in_image
#print axioms aggregate_spec_coded
#print axioms cbca_spec
#print axioms cbca_spec_source
#print axioms nan_stays
#print axioms no_new_nan
#print axioms plane_independent
#print axioms median3_isNan
#print axioms filteredL_isNan
#print axioms filteredR_isNan
-- the cross-support kernel regenerated from the Python source (Generated/KernelsCbca.lean, T14) is the hand model
-- (same list as Audit/C11Kernels.lean)
#print axioms Pandora.C11Kernels.forLoop_arm
#print axioms Pandora.C11Kernels.jump_eq
#print axioms Pandora.C11Kernels.crossSupport_generated_eq
#print axioms Pandora.C11Kernels.crossSupport_generated_eq_source
#print axioms Pandora.C11Kernels.crossSupport_generated_spec
#print axioms Pandora.C11Kernels.crossSupport_generated_total
-- the integral-image kernels regenerated from the Python source (Generated/KernelsCbcaSteps.lean, T14 array-state kernels)
-- are the hand model
#print axioms Pandora.PyLoops.forLoop_inv
#print axioms Pandora.C11KernelsSteps.cbcaStep1_generated_eq
#print axioms Pandora.C11KernelsSteps.cbcaStep3_generated_eq
#print axioms Pandora.C11KernelsSteps.cbcaStep2_generated_eq
#print axioms Pandora.C11KernelsSteps.cbcaStep4_generated_eq
#print axioms Pandora.C11KernelsSteps.cbcaSteps_generated_chain
-- the numpy glue of cost_volume_aggregation / computes_cross_supports regenerated from the Python source
-- (Generated/KernelsCbcaGlue.lean) is the hand model
#print axioms Pandora.C11KernelsGlue.iRight_generated_eq
#print axioms Pandora.C11KernelsGlue.leftCol_generated_eq
#print axioms Pandora.C11KernelsGlue.facing_generated_eq
#print axioms Pandora.C11KernelsGlue.facingCol_nat
#print axioms Pandora.C11KernelsGlue.wired_generated
#print axioms Pandora.C11KernelsGlue.aggInit_generated_eq
#print axioms Pandora.C11KernelsGlue.aggPlane_generated_eq
#print axioms Pandora.C11KernelsGlue.aggregate_generated
#print axioms Pandora.C11KernelsGlue.aggregate_generated_spec
#print axioms Pandora.C11KernelsGlue.leftCrop_generated_eq
#print axioms Pandora.C11KernelsGlue.rightCrop_generated_eq
#print axioms Pandora.C11KernelsGlue.cvCrop_generated_eq
#print axioms Pandora.C11KernelsGlue.writeBack_generated_eq
#print axioms Pandora.C11KernelsGlue.cropBox_model
#print axioms Pandora.C11KernelsGlue.prepLeft_generated_eq
#print axioms Pandora.C11KernelsGlue.prepRight_generated_eq
-- the whole generated cost_volume_aggregation (sequential loop with `agg` as state) = Cbca.aggregate, and C11's clauses about it
#print axioms Pandora.C11KernelsGlue.cbcaStep1_generated_eq_of
#print axioms Pandora.C11KernelsGlue.aggPlane_generated_eq_of
#print axioms Pandora.C11KernelsGlue.aggLoopBody_frame
#print axioms Pandora.C11KernelsGlue.aggLoopBody_reads
#print axioms Pandora.C11KernelsGlue.forPlanes_inv
#print axioms Pandora.C11KernelsGlue.costVolumeAggregation_generated_eq
#print axioms Pandora.C11KernelsGlue.costVolumeAggregation_generated_model
#print axioms Pandora.C11KernelsGlue.costVolumeAggregation_generated_spec
#print axioms Pandora.C11KernelsGlue.costVolumeAggregation_generated_plane_independent
#print axioms Pandora.C11KernelsGlue.nanReplacement_generated_eq
#print axioms Pandora.C11KernelsGlue.shiftMask_generated_width
#print axioms Pandora.C11KernelsGlue.cmaxUpdate_generated_eq
#print axioms Pandora.C11KernelsGlue.leftMaskTest_generated_eq
#print axioms Pandora.C11KernelsGlue.rightMaskTest_generated_eq
#print axioms Pandora.C11KernelsGlue.shiftMaskTest_generated_eq
