import PandoraModel.Properties.C04
import PandoraModel.Properties.C04C02
import PandoraModel.Properties.C04Kernels
import PandoraModel.Properties.C04KernelsComp
open Pandora.C04
-- the end-point tests of criteria.py equal the set statements
#print axioms vmBit1_iff
#print axioms vmBit2_iff
#print axioms allocRight_eq
#print axioms dilated_eq_nodataInWindow
-- the mask built with the cost volume: every clause, every pixel
#print axioms modelMask_eq_specWord
#print axioms criteria_interior
#print axioms criteria_border
#print axioms toDisp_invalid_iff
#print axioms criteria_spec
#print axioms criteria_spec_disp
#print axioms invalidNotSample_of_outside
#print axioms flagInit_modelMask
-- `+` equals `|` on a clear bit; steps change only their own bits
#print axioms add_two_pow_eq_or
#print axioms testBit_sub_two_pow
#print axioms stepFlag_testBit
#print axioms replacementOK_of_clear
#print axioms stepOK_of_clear
-- any pipeline
#print axioms run_lt_4096
#print axioms run_ok_partial
#print axioms run_ok_of_or
#print axioms repeated_refinement_counterexample
#print axioms repeated_interpolation_counterexample
#print axioms border_regularized_counterexample
-- the source as regenerated on this run
#print axioms sites_documented
#print axioms refinement_returns_documented
#print axioms constants_documented
#print axioms source_reg_or
#print axioms source_story
#print axioms source_repeated_refinement
-- C04 ∘ C02 (Properties/C04C02.lean): `computable` is a theorem about the matching-cost model
#print axioms Pandora.C04C02.maskOk_eq
#print axioms Pandora.C04C02.rightOk_eq
#print axioms Pandora.C04C02.nDisp_eq
#print axioms Pandora.C04C02.computable_iff_cause
#print axioms Pandora.C04C02.nan_iff_not_computable
#print axioms Pandora.C04C02.nan_iff_not_computable_of_wf
#print axioms Pandora.C04C02.mcAllNan_eq
#print axioms Pandora.C04C02.composedMask_eq
#print axioms Pandora.C04C02.invalid_iff_all_costs_nan
#print axioms Pandora.C04C02.invalid_iff_all_costs_nan_of_wf
#print axioms Pandora.C04C02.composed_spec
#print axioms Pandora.C04C02.composed_spec_disp
-- the decisions of criteria.py regenerated from the source (Generated/KernelsCriteria.lean) = the hand model
#print axioms Pandora.C04Kernels.validityMaskCol_eq
#print axioms Pandora.C04Kernels.validityMaskCol_bit1_iff
#print axioms Pandora.C04Kernels.validityMaskCol_flag
#print axioms Pandora.C04Kernels.leftMaskedPred_eq
#print axioms Pandora.C04Kernels.rightMaskedPred_eq
#print axioms Pandora.C04Kernels.allocLeftPx_eq
#print axioms Pandora.C04Kernels.validIndex_eq
#print axioms Pandora.C04Kernels.validIndex_iff
#print axioms Pandora.C04Kernels.rangeLen_eq
#print axioms Pandora.C04Kernels.rightIterPx_eq
#print axioms Pandora.C04Kernels.maskInvalidPx_eq
#print axioms Pandora.C04Kernels.maskBorderPx_eq
-- the generated pieces composed as the source composes them (Properties/C04KernelsComp.lean)
#print axioms Pandora.C04Kernels.pyRange_bounds
#print axioms Pandora.C04Kernels.gatherCol_eq
#print axioms Pandora.C04Kernels.rightMaskCell_eq
#print axioms Pandora.C04Kernels.genStep_eq
#print axioms Pandora.C04Kernels.genRightLoop_eq
#print axioms Pandora.C04Kernels.genRightLoop_closed
#print axioms Pandora.C04Kernels.genStage1_eq
#print axioms Pandora.C04Kernels.genFinalMask_eq
#print axioms Pandora.C04Kernels.genFinalMask_spec
#print axioms Pandora.C04Kernels.genFinalMask_interior
